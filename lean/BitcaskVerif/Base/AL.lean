/-
  Association lists as finite maps (core Lean only), with the handful of lemmas the store
  proofs need. Kept as plain lists (no subtype); `get` returns the first binding.
-/

namespace AL

variable {κ : Type} [DecidableEq κ] {β : Type}

def get (k : κ) : List (κ × β) → Option β
  | [] => none
  | (k', v) :: rest => if k' = k then some v else get k rest

def set (k : κ) (v : β) : List (κ × β) → List (κ × β)
  | [] => [(k, v)]
  | (k', v') :: rest => if k' = k then (k, v) :: rest else (k', v') :: set k v rest

def del (k : κ) : List (κ × β) → List (κ × β)
  | [] => []
  | (k', v') :: rest => if k' = k then del k rest else (k', v') :: del k rest

def keys (l : List (κ × β)) : List κ := l.map (·.1)

def contains (k : κ) (l : List (κ × β)) : Bool := (get k l).isSome

@[simp] theorem get_nil (k : κ) : get k ([] : List (κ × β)) = none := rfl

theorem get_set (k k' : κ) (v : β) (l : List (κ × β)) :
    get k' (set k v l) = if k' = k then some v else get k' l := by
  induction l with
  | nil => simp only [set, get, eq_comm]
  | cons x xs ih =>
    obtain ⟨a, w⟩ := x
    by_cases ha : a = k
    · subst ha; simp only [set, get, ↓reduceIte, eq_comm]; split <;> rfl
    · simp only [set, get, ha, ↓reduceIte, ih]
      by_cases hk : a = k'
      · subst hk; simp only [ha, ↓reduceIte]
      · simp only [hk, ↓reduceIte]

theorem get_set_same (k : κ) (v : β) (l : List (κ × β)) : get k (set k v l) = some v := by
  rw [get_set, if_pos rfl]

theorem get_set_other {k k' : κ} (h : k' ≠ k) (v : β) (l : List (κ × β)) :
    get k' (set k v l) = get k' l := by
  rw [get_set, if_neg h]

theorem get_set_eq_some {l : List (κ × β)} {k k' : κ} {v v' : β} (h : get k' (set k v l) = some v') :
    (k' = k ∧ v' = v) ∨ (k' ≠ k ∧ get k' l = some v') := by
  by_cases e : k' = k
  · rw [e, get_set_same] at h; cases h; exact .inl ⟨e, rfl⟩
  · rw [get_set_other e] at h; exact .inr ⟨e, h⟩

theorem get_set_eq_none {l : List (κ × β)} {k k' : κ} {v : β} (h : get k' (set k v l) = none) :
    k' ≠ k ∧ get k' l = none := by
  by_cases e : k' = k
  · rw [e, get_set_same] at h; cases h
  · rw [get_set_other e] at h; exact ⟨e, h⟩

theorem isSome_get_set (k : κ) (v : β) (l : List (κ × β)) : (get k (set k v l)).isSome = true := by
  rw [get_set_same]; rfl

theorem get_del (k k' : κ) (l : List (κ × β)) :
    get k' (del k l) = if k' = k then none else get k' l := by
  induction l with
  | nil => simp only [del, get, ite_self]
  | cons x xs ih =>
    obtain ⟨a, w⟩ := x
    by_cases ha : a = k
    · subst ha; simp only [del, get, ↓reduceIte, ih, eq_comm]; split <;> rfl
    · simp only [del, get, ha, ↓reduceIte, ih]
      by_cases hk : a = k'
      · subst hk; simp only [ha, ↓reduceIte]
      · simp only [hk, ↓reduceIte]

theorem get_del_same (k : κ) (l : List (κ × β)) : get k (del k l) = none := by
  rw [get_del, if_pos rfl]

theorem get_del_other {k k' : κ} (h : k' ≠ k) (l : List (κ × β)) :
    get k' (del k l) = get k' l := by
  rw [get_del, if_neg h]

theorem isSome_get (k : κ) (l : List (κ × β)) : (get k l).isSome = true ↔ k ∈ keys l := by
  induction l with
  | nil => simp [get, keys]
  | cons x xs ih =>
    obtain ⟨a, w⟩ := x
    by_cases ha : a = k
    · simp [get, keys, ha]
    · have hk : ¬ k = a := fun e => ha e.symm
      simp only [get, ha, ↓reduceIte, ih, keys, List.map_cons, List.mem_cons, hk, false_or]

theorem mem_keys_of_get {k : κ} {v : β} {l : List (κ × β)} (h : get k l = some v) : k ∈ keys l :=
  (isSome_get k l).mp (by rw [h]; rfl)

theorem get_of_mem_keys {k : κ} {l : List (κ × β)} (h : k ∈ keys l) : ∃ v, get k l = some v :=
  Option.isSome_iff_exists.mp ((isSome_get k l).mpr h)

theorem get_eq_none_iff {k : κ} {l : List (κ × β)} : get k l = none ↔ k ∉ keys l := by
  rw [← isSome_get, Option.not_isSome_iff_eq_none]

theorem mem_keys_set {k k' : κ} {v : β} {l : List (κ × β)} :
    k' ∈ keys (set k v l) ↔ k' = k ∨ k' ∈ keys l := by
  rw [← isSome_get, ← isSome_get, get_set]
  split <;> simp [*]

theorem mem_keys_del {k k' : κ} {l : List (κ × β)} :
    k' ∈ keys (del k l) ↔ k' ≠ k ∧ k' ∈ keys l := by
  rw [← isSome_get, ← isSome_get, get_del]
  split <;> simp [*]

theorem set_of_not_mem {k : κ} {v : β} {l : List (κ × β)} (h : k ∉ keys l) : set k v l = l ++ [(k, v)] := by
  induction l with
  | nil => rfl
  | cons x xs ih =>
    obtain ⟨a, w⟩ := x
    have ha : ¬ a = k := fun e => h (e ▸ List.mem_cons_self)
    rw [set, if_neg ha, ih fun hm => h (List.mem_cons_of_mem _ hm)]
    rfl

theorem keys_set_of_mem {k : κ} {v : β} {l : List (κ × β)} (h : k ∈ keys l) : keys (set k v l) = keys l := by
  induction l with
  | nil => cases h
  | cons x xs ih =>
    obtain ⟨a, w⟩ := x
    rw [set]
    by_cases ha : a = k
    · rw [if_pos ha, ← ha]; rfl
    · rw [if_neg ha]
      exact congrArg (a :: ·) (ih ((List.mem_cons.mp h).resolve_left fun e => ha e.symm))

end AL
