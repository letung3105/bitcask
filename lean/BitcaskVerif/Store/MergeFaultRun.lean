/-
  Fault-aware merge pass (C20): operation sequences on a store with a possibly pending
  move of the active file (`runP`) refine the abstract map (`runP_refines`); without a pending
  move they are the plain sequences of C01 (`runP_none`).  Histories in which a put or delete may
  fail inside `write` and a merge pass at any of its calls (`runPF`): one step refines the map on
  which a failed operation has no effect (`stepPF_refines`).
-/
import BitcaskVerif.Store.MergeFaultSpec
import BitcaskVerif.Store.FaultRun

namespace Store

variable {hintFirst : Bool}

/-- one operation on a store with a possibly pending move (timestamps fixed to 0 as in `step`) -/
def stepP (cfg : Cfg) (p : StP) : Op → StP × OpOut
  | .put k v => ((putP cfg p 0 k v).1, .done)
  | .del k => ((deleteP cfg p 0 k).1, .flag (deleteP cfg p 0 k).2.1)
  | .get k => (p, .read (getP p k))
  | .merge sel order => ((mergeWithP cfg p sel order).1, .done)

def runP (cfg : Cfg) : StP → List Op → StP × List OpOut
  | p, [] => (p, [])
  | p, op :: ops =>
    let (p1, o) := stepP cfg p op
    let (p2, os) := runP cfg p1 ops
    (p2, o :: os)

/-- every merge of the sequence selects existing files (ids up to the active id of that moment,
    after the pending move if there is one) and its iteration order covers the KeyDir -/
def ValidFromP (cfg : Cfg) : StP → List Op → Prop
  | _, [] => True
  | p, op :: ops =>
    (match op with
     | .merge sel order => (∀ id, id ∈ sel → id ≤ p.move.1.active) ∧ Covers order p.st
     | _ => True) ∧ ValidFromP cfg (stepP cfg p op).1 ops

theorem stepP_refines (cfg : Cfg) (p : StP) (op : Op) (h : InvP p)
    (hv : match op with
          | .merge sel order => (∀ id, id ∈ sel → id ≤ p.move.1.active) ∧ Covers order p.st
          | _ => True) :
    InvP (stepP cfg p op).1 ∧ (stepP cfg p op).2 = (p.abs.step op).2 ∧
      (stepP cfg p op).1.abs = (p.abs.step op).1 := by
  cases op with
  | put k v =>
    obtain ⟨a, b, _⟩ := putP_ok cfg h 0 k v
    exact ⟨a, rfl, b⟩
  | del k =>
    obtain ⟨a, b, c, _⟩ := deleteP_ok cfg h 0 k
    exact ⟨a, by simp [stepP, Map.step, c], b⟩
  | get k =>
    refine ⟨h, ?_, rfl⟩
    simp only [stepP, Map.step, getP_abs h k]
    cases p.abs k <;> rfl
  | merge sel order =>
    obtain ⟨a, b, _⟩ := mergeWithP_ok cfg h sel order hv.1 hv.2
    exact ⟨a, rfl, b⟩

/-- **every operation sequence on a store with a possibly pending move produces exactly the
    results of the abstract map**, keeps the invariant, and ends reading as the final map -/
theorem runP_refines (cfg : Cfg) (ops : List Op) : ∀ (p : StP), InvP p → ValidFromP cfg p ops →
    (runP cfg p ops).2 = (Map.run p.abs ops).2 ∧ InvP (runP cfg p ops).1 ∧
      (runP cfg p ops).1.abs = (Map.run p.abs ops).1 := by
  induction ops with
  | nil => intro p h _; exact ⟨rfl, h, rfl⟩
  | cons op ops ih =>
    intro p h hv
    obtain ⟨i1, i2, i3⟩ := stepP_refines cfg p op h hv.1
    obtain ⟨j1, j2, j3⟩ := ih (stepP cfg p op).1 i1 hv.2
    simp only [runP, Map.run]
    rw [i3] at j1 j3
    refine ⟨?_, j2, j3⟩
    rw [j1, i2]

theorem StP.move_none (s : St) : StP.move { st := s, pending := none } = (s, []) := rfl

theorem stepP_none (cfg : Cfg) (s : St) (op : Op) :
    stepP cfg { st := s, pending := none } op = ({ st := (step cfg s op).1, pending := none }, (step cfg s op).2) := by
  cases op with
  | put k v => rw [stepP, step, putP_fst, StP.move_none]
  | del k => rw [stepP, step, deleteP_fst, deleteP_flag, StP.move_none]
  | get k => rfl
  | merge sel order => rw [stepP, step, mergeWithP, StP.move_none]

theorem runP_none (cfg : Cfg) (ops : List Op) : ∀ (s : St),
    runP cfg { st := s, pending := none } ops = ({ st := (run cfg s ops).1, pending := none }, (run cfg s ops).2) := by
  induction ops with
  | nil => intro s; rfl
  | cons op ops ih =>
    intro s
    simp only [runP, run]
    rw [stepP_none]
    simp only
    rw [ih]

/-! ### histories in which writes AND merge passes may fail -/

open Store.Tr

/-- a fault injected into one operation: a failing call of `Writer::write` (put / delete), or the
    index `j` of the failing call of a merge pass and the torn bytes of a failing append -/
inductive PFault where
  | write (f : Fault)
  | merge (j torn : Nat)

/-- one operation on a store with a possibly pending move, possibly with a failing call.  A fault
    that does not fit the operation (a write fault on a merge, …) is ignored. -/
def stepPF (hintFirst : Bool) (cfg : Cfg) (p : StP) (op : Op) (fl : Option PFault) : StP × FOut :=
  match op, fl with
  | .put k v, some (.write f) =>
    ({ st := (putF cfg p.move.1 0 k v (some f)).1, pending := none }, .error)
  | .del k, some (.write f) =>
    ({ st := (deleteF cfg p.move.1 0 k (some f)).1, pending := none }, .error)
  | .merge sel order, some (.merge j torn) =>
    ((mergeFP hintFirst cfg p sel order j torn).p, if (mergeFP hintFirst cfg p sel order j torn).err then .error else .done .done)
  | op, _ => ((stepP cfg p op).1, .done (stepP cfg p op).2)

/-- the specification: an operation with a (fitting) fault returns the error and has no effect -/
def Map.stepPF (m : Map) (op : Op) (fl : Option PFault) : Map × FOut :=
  match op, fl with
  | .put _ _, some (.write _) => (m, .error)
  | .del _, some (.write _) => (m, .error)
  | .merge _ _, some (.merge _ _) => (m, .error)
  | op, _ => ((m.step op).1, .done (m.step op).2)

def runPF (hintFirst : Bool) (cfg : Cfg) : StP → List (Op × Option PFault) → StP × List FOut
  | p, [] => (p, [])
  | p, (op, fl) :: ops =>
    ((runPF hintFirst cfg (stepPF hintFirst cfg p op fl).1 ops).1, (stepPF hintFirst cfg p op fl).2 :: (runPF hintFirst cfg (stepPF hintFirst cfg p op fl).1 ops).2)

def Map.runPF : Map → List (Op × Option PFault) → Map × List FOut
  | m, [] => (m, [])
  | m, (op, fl) :: ops =>
    ((Map.runPF (m.stepPF op fl).1 ops).1, (m.stepPF op fl).2 :: (Map.runPF (m.stepPF op fl).1 ops).2)

/-- every merge selects existing files and its order covers the index; an injected merge fault
    names one of the calls of the pass -/
def ValidPF (hintFirst : Bool) (cfg : Cfg) : StP → List (Op × Option PFault) → Prop
  | _, [] => True
  | p, (op, fl) :: ops =>
    (match op with
     | .merge sel order => (∀ id, id ∈ sel → id ≤ p.move.1.active) ∧ Covers order p.st ∧
         (match fl with
          | some (.merge j _) => j < (mergeWith cfg p.move.1 sel order).2.length
          | _ => True)
     | _ => True) ∧ ValidPF hintFirst cfg (stepPF hintFirst cfg p op fl).1 ops

theorem stepPF_refines (cfg : Cfg) (p : StP) (op : Op) (fl : Option PFault) (h : InvP p)
    (hv : match op with
          | .merge sel order => (∀ id, id ∈ sel → id ≤ p.move.1.active) ∧ Covers order p.st ∧
              (match fl with
               | some (.merge j _) => j < (mergeWith cfg p.move.1 sel order).2.length
               | _ => True)
          | _ => True) :
    InvP (stepPF hintFirst cfg p op fl).1 ∧ (stepPF hintFirst cfg p op fl).2 = (p.abs.stepPF op fl).2 ∧
      (stepPF hintFirst cfg p op fl).1.abs = (p.abs.stepPF op fl).1 := by
  have hok : ∀ op', (match op' with
          | .merge sel order => (∀ id, id ∈ sel → id ≤ p.move.1.active) ∧ Covers order p.st
          | _ => True) →
      InvP (stepP cfg p op').1 ∧ FOut.done (stepP cfg p op').2 = .done (p.abs.step op').2 ∧
        (stepP cfg p op').1.abs = (p.abs.step op').1 := by
    intro op' hv'
    obtain ⟨a, b, c⟩ := stepP_refines cfg p op' h hv'
    exact ⟨a, by rw [b], c⟩
  -- a failed write
  have hw : ∀ r f, InvP { st := writeF p.move.1 r f, pending := none } ∧
      StP.abs { st := writeF p.move.1 r f, pending := none } = p.abs :=
    fun r f => ⟨InvP.of_inv (writeF_inv _ r f h.moved), (writeF_abs _ r f h.moved).trans h.move_abs⟩
  rcases fl with _ | ⟨f | ⟨j, torn⟩⟩
  · cases op with
    | merge sel order => exact hok _ ⟨hv.1, hv.2.1⟩
    | _ => exact hok _ hv
  · cases op with
    | put k v | del k => exact ⟨(hw _ f).1, rfl, (hw _ f).2⟩
    | get k => exact hok _ hv
    | merge sel order => exact hok _ ⟨hv.1, hv.2.1⟩
  · cases op with
    | merge sel order =>
      obtain ⟨a, b⟩ := mergeFP_ok (hintFirst := hintFirst) cfg h sel order j torn hv.1 hv.2.1
      have he : (mergeFP hintFirst cfg p sel order j torn).err = true :=
        (mergeF_err_iff cfg p.move.1 sel order j torn).mpr hv.2.2
      refine ⟨a, ?_, b⟩
      simp only [stepPF, Map.stepPF, he, ↓reduceIte]
    | _ => exact hok _ hv

end Store
