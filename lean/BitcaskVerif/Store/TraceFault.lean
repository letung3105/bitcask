/-
  The trace invariants of C14 also hold across failed writes (C20's fault model): the calls a
  failed `Writer::write` has issued keep the coupling between the store and the trace monitor.
-/
import BitcaskVerif.Store.FaultRestart

namespace Store.Tr
/-- the calls of a failed write that had an effect on the directory (a failing call itself has
    none, except the partial write of `appendLarge`) -/
def writeFCalls (cfg : Cfg) (s : St) (r : Rec) : Fault → List Call
  | .appendSmall => [Call.create ⟨.data, s.active + 1⟩, Call.append ⟨.data, s.active⟩ (.ofRec r)]
  | .appendLarge hdr => [Call.append ⟨.data, s.active⟩ (.raw (List.replicate hdr 0)), Call.create ⟨.data, s.active + 1⟩]
  | .fsync => [Call.append ⟨.data, s.active⟩ (.ofRec r)]
  | .create => [Call.append ⟨.data, s.active⟩ (.ofRec r)] ++
      (if cfg.syncAlways then [Call.fsync ⟨.data, s.active⟩] else [])

/-- appending to the previous active file right after the next one was created (the old writer is
    dropped after the new file exists) -/
theorem MonOk.create_then_append {a : Nat} {m : Mon} (h : MonOk a m) (p : Payload) :
    MonOk (a + 1) (m.calls [Call.create ⟨.data, a + 1⟩, Call.append ⟨.data, a⟩ p]) := by
  have h1 : MonOk (a + 1) (m.step (.call (.create ⟨.data, a + 1⟩))) := h.create_data (Nat.lt_succ_self a)
  exact ⟨h1.bound, h1.own, h1.unl, h1.okF,
    Mon.okOwn_append p h1.okO (List.mem_cons_of_mem _ h.own) fun hc => Nat.lt_irrefl _ (h.unl _ hc), h1.okT⟩

theorem writeF_monOk (cfg : Cfg) (s : St) (r : Rec) (f : Fault) (m : Mon) (h : MonOk s.active m) :
    MonOk (writeF s r f).active (m.calls (writeFCalls cfg s r f)) := by
  cases f with
  | appendSmall => exact h.create_then_append _
  | appendLarge hdr => exact (h.append _).create_data (Nat.lt_succ_self _)
  | fsync => exact h.append _
  | create =>
    simp only [writeFCalls, Mon.calls_append]
    cases cfg.syncAlways
    · exact h.append _
    · exact (h.append _).fsync _

theorem writeF_coup (cfg : Cfg) (s : St) (r : Rec) (f : Fault) (m : Mon) (h : Coup s m) :
    Coup (writeF s r f) (m.calls (writeFCalls cfg s r f)) :=
  ⟨writeF_idinv s r f h.inv, writeF_monOk cfg s r f m h.mon⟩

/-- a trace operation, or a write of record `r` that fails with `f` -/
inductive XOp where
  | ok (op : TOp)
  | fail (r : Rec) (f : Fault)

def stepX (cfg : Cfg) (s : St) : XOp → St × List Call
  | .ok op => stepC cfg s op
  | .fail r f => (writeF s r f, writeFCalls cfg s r f)

def XOp.marker : XOp → List TEv
  | .ok op => op.marker
  | .fail _ _ => []

def runX (cfg : Cfg) : St → List XOp → St
  | s, [] => s
  | s, op :: ops => runX cfg (stepX cfg s op).1 ops

def evsOfX (cfg : Cfg) : St → List XOp → List TEv
  | _, [] => []
  | s, op :: ops => op.marker ++ ((stepX cfg s op).2.map TEv.call ++ evsOfX cfg (stepX cfg s op).1 ops)

def ValidX (cfg : Cfg) : St → List XOp → Prop
  | _, [] => True
  | s, op :: ops =>
    (match op with
     | .ok (.merge sel _) => ∀ id, id ∈ sel → id ≤ s.active
     | _ => True) ∧ ValidX cfg (stepX cfg s op).1 ops

theorem stepX_coup (cfg : Cfg) (s : St) (op : XOp) (m : Mon) (h : Coup s m)
    (hv : match op with
          | .ok (.merge sel _) => ∀ id, id ∈ sel → id ≤ s.active
          | _ => True) :
    Coup (stepX cfg s op).1 ((m.run op.marker).calls (stepX cfg s op).2) := by
  cases op with
  | fail r f => exact writeF_coup cfg s r f m h
  | ok o =>
    apply stepC_coup cfg s o m h
    cases o with
    | merge sel order => exact hv
    | _ => trivial

theorem runX_coup (cfg : Cfg) (ops : List XOp) : ∀ (s : St) (m : Mon), Coup s m → ValidX cfg s ops →
    Coup (runX cfg s ops) (m.run (evsOfX cfg s ops)) := by
  induction ops with
  | nil => intro s m h _; exact h
  | cons op ops ih =>
    intro s m h hv
    have h1 := stepX_coup cfg s op m h hv.1
    have h2 := ih _ _ h1 hv.2
    simp only [runX, evsOfX, Mon.run_append]
    exact h2

end Store.Tr