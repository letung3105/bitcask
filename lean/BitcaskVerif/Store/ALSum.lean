/-
  Helper lemmas for C19 / C13: association lists with distinct keys and sums over their bindings
  (`ksum`; `wsum` when the weight does not look at the key). Core Lean only.
-/
import BitcaskVerif.Base.AL

set_option linter.unusedSectionVars false

namespace Store.Stats

variable {κ : Type} [DecidableEq κ] {β : Type}

theorem keys_cons (x : κ × β) (l : List (κ × β)) : AL.keys (x :: l) = x.1 :: AL.keys l := rfl

theorem nodup_set {k : κ} {v : β} {l : List (κ × β)} (h : (AL.keys l).Nodup) :
    (AL.keys (AL.set k v l)).Nodup := by
  induction l with
  | nil => simp [AL.set, AL.keys]
  | cons x xs ih =>
    obtain ⟨k', v'⟩ := x
    simp only [keys_cons, List.nodup_cons] at h
    by_cases hk : k' = k
    · subst hk
      simp only [AL.set, ↓reduceIte, keys_cons, List.nodup_cons]
      exact h
    · simp only [AL.set, hk, ↓reduceIte, keys_cons, List.nodup_cons]
      exact ⟨fun hm => (AL.mem_keys_set.mp hm).elim hk h.1, ih h.2⟩

theorem nodup_del {k : κ} {l : List (κ × β)} (h : (AL.keys l).Nodup) :
    (AL.keys (AL.del k l)).Nodup := by
  induction l with
  | nil => simp [AL.del, AL.keys]
  | cons x xs ih =>
    obtain ⟨k', v'⟩ := x
    simp only [keys_cons, List.nodup_cons] at h
    by_cases hk : k' = k
    · simp only [AL.del, hk, ↓reduceIte]; exact ih h.2
    · simp only [AL.del, hk, ↓reduceIte, keys_cons, List.nodup_cons]
      exact ⟨fun hm => h.1 (AL.mem_keys_del.mp hm).2, ih h.2⟩

theorem mem_of_get {k : κ} {v : β} {l : List (κ × β)} (h : AL.get k l = some v) : (k, v) ∈ l := by
  induction l with
  | nil => cases h
  | cons x xs ih =>
    obtain ⟨k', v'⟩ := x
    by_cases hk : k' = k
    · subst hk
      simp only [AL.get, ↓reduceIte, Option.some.injEq] at h
      subst h; exact List.mem_cons_self
    · simp only [AL.get, hk, ↓reduceIte] at h
      exact List.mem_cons_of_mem _ (ih h)

theorem mem_keys_of_mem {k : κ} {v : β} {l : List (κ × β)} (h : (k, v) ∈ l) : k ∈ AL.keys l :=
  List.mem_map.mpr ⟨(k, v), h, rfl⟩

theorem get_of_mem {k : κ} {v : β} {l : List (κ × β)} (hnd : (AL.keys l).Nodup) (h : (k, v) ∈ l) :
    AL.get k l = some v := by
  induction l with
  | nil => cases h
  | cons x xs ih =>
    obtain ⟨k', v'⟩ := x
    simp only [keys_cons, List.nodup_cons] at hnd
    rcases List.mem_cons.mp h with e | e
    · cases e; simp [AL.get]
    · have hk : ¬ k' = k := fun e' => hnd.1 (e' ▸ mem_keys_of_mem e)
      simp only [AL.get, hk, ↓reduceIte]
      exact ih hnd.2 e

/-- the list without the bindings of the keys `ks` (what the `unlinkOne` loop of a merge pass does
    to the counters, the data files and the hint files) -/
def delAll (ks : List κ) (l : List (κ × β)) : List (κ × β) := ks.foldl (fun d k => AL.del k d) l

theorem get_delAll (k : κ) (ks : List κ) : ∀ (l : List (κ × β)),
    AL.get k (delAll ks l) = if k ∈ ks then none else AL.get k l := by
  induction ks with
  | nil => intro l; rfl
  | cons k' ks ih =>
    intro l
    rw [delAll, List.foldl_cons, ← delAll, ih, AL.get_del]
    by_cases e : k = k' <;> simp [e]

theorem nodup_delAll (ks : List κ) : ∀ {l : List (κ × β)}, (AL.keys l).Nodup → (AL.keys (delAll ks l)).Nodup := by
  induction ks with
  | nil => intro l h; exact h
  | cons k' ks ih => intro l h; exact ih (nodup_del h)

theorem mem_keys_delAll {k : κ} {ks : List κ} {l : List (κ × β)} (h : k ∈ AL.keys (delAll ks l)) :
    k ∉ ks ∧ k ∈ AL.keys l := by
  obtain ⟨v, hv⟩ := AL.get_of_mem_keys h
  rw [get_delAll] at hv
  by_cases e : k ∈ ks
  · rw [if_pos e] at hv; cases hv
  · rw [if_neg e] at hv; exact ⟨e, AL.mem_keys_of_get hv⟩

def ksum (w : κ → β → Nat) (l : List (κ × β)) : Nat := (l.map fun x => w x.1 x.2).sum

def okw (w : κ → β → Nat) (k : κ) : Option β → Nat
  | some p => w k p
  | none => 0

@[simp] theorem okw_none (w : κ → β → Nat) (k : κ) : okw w k none = 0 := rfl
@[simp] theorem okw_some (w : κ → β → Nat) (k : κ) (p : β) : okw w k (some p) = w k p := rfl

@[simp] theorem ksum_nil (w : κ → β → Nat) : ksum w ([] : List (κ × β)) = 0 := rfl
@[simp] theorem ksum_cons (w : κ → β → Nat) (x : κ × β) (l : List (κ × β)) :
    ksum w (x :: l) = w x.1 x.2 + ksum w l := by simp [ksum]

theorem ksum_set (w : κ → β → Nat) (k : κ) (v : β) (l : List (κ × β)) :
    ksum w (AL.set k v l) + okw w k (AL.get k l) = ksum w l + w k v := by
  induction l with
  | nil => simp [AL.set, AL.get]
  | cons x xs ih =>
    obtain ⟨k', v'⟩ := x
    by_cases hk : k' = k
    · subst hk
      simp only [AL.set, AL.get, ↓reduceIte, ksum_cons, okw_some]
      rw [Nat.add_right_comm, Nat.add_right_comm (w k' v'), Nat.add_comm (w k' v)]
    · simp only [AL.set, AL.get, hk, ↓reduceIte, ksum_cons]
      rw [Nat.add_assoc, ih, Nat.add_assoc]

theorem ksum_del (w : κ → β → Nat) (k : κ) (l : List (κ × β)) :
    ksum w (AL.del k l) = ksum (fun k' v => if k' = k then 0 else w k' v) l := by
  induction l with
  | nil => rfl
  | cons x xs ih =>
    obtain ⟨k', v'⟩ := x
    by_cases hk : k' = k
    · simp only [AL.del, hk, ↓reduceIte, ksum_cons, ih, Nat.zero_add]
    · simp only [AL.del, hk, ↓reduceIte, ksum_cons, ih]

theorem ksum_add {w w1 w2 : κ → β → Nat} {l : List (κ × β)}
    (h : ∀ k v, (k, v) ∈ l → w k v = w1 k v + w2 k v) : ksum w l = ksum w1 l + ksum w2 l := by
  induction l with
  | nil => rfl
  | cons x xs ih =>
    simp only [ksum_cons]
    rw [h x.1 x.2 List.mem_cons_self, ih (fun k v hm => h k v (List.mem_cons_of_mem _ hm))]
    exact Nat.add_add_add_comm ..

theorem ksum_le {w w' : κ → β → Nat} {l : List (κ × β)} (h : ∀ k v, (k, v) ∈ l → w k v ≤ w' k v) :
    ksum w l ≤ ksum w' l := by
  induction l with
  | nil => exact Nat.le_refl _
  | cons x xs ih =>
    simp only [ksum_cons]
    exact Nat.add_le_add (h x.1 x.2 List.mem_cons_self) (ih (fun k v hm => h k v (List.mem_cons_of_mem _ hm)))

theorem ksum_congr {w w' : κ → β → Nat} {l : List (κ × β)} (h : ∀ k v, (k, v) ∈ l → w k v = w' k v) :
    ksum w l = ksum w' l :=
  Nat.le_antisymm (ksum_le fun k v hm => Nat.le_of_eq (h k v hm)) (ksum_le fun k v hm => Nat.le_of_eq (h k v hm).symm)

theorem ksum_zero {w : κ → β → Nat} {l : List (κ × β)} (h : ∀ k v, (k, v) ∈ l → w k v = 0) :
    ksum w l = 0 := by
  induction l with
  | nil => rfl
  | cons x xs ih =>
    rw [ksum_cons, h x.1 x.2 List.mem_cons_self, ih (fun k v hm => h k v (List.mem_cons_of_mem _ hm))]

theorem ksum_single {w : κ → β → Nat} {k0 : κ} {l : List (κ × β)} (hnd : (AL.keys l).Nodup)
    (h : ∀ k v, (k, v) ∈ l → k ≠ k0 → w k v = 0) : ksum w l = okw w k0 (AL.get k0 l) := by
  induction l with
  | nil => rfl
  | cons x xs ih =>
    obtain ⟨k', v'⟩ := x
    simp only [keys_cons, List.nodup_cons] at hnd
    by_cases hk : k' = k0
    · subst hk
      rw [ksum_cons, ksum_zero fun k v hm => h k v (List.mem_cons_of_mem _ hm)
        fun e => hnd.1 (e ▸ mem_keys_of_mem hm)]
      simp [AL.get]
    · rw [ksum_cons, h k' v' List.mem_cons_self hk, ih hnd.2 fun k v hm => h k v (List.mem_cons_of_mem _ hm)]
      simp [AL.get, hk]

theorem ksum_delAll (ks : List κ) : ∀ (w : κ → β → Nat) (l : List (κ × β)),
    ksum w (delAll ks l) = ksum (fun k v => if k ∈ ks then 0 else w k v) l := by
  induction ks with
  | nil => intro w l; simp [delAll]
  | cons k' ks ih =>
    intro w l
    rw [delAll, List.foldl_cons, ← delAll, ih, ksum_del]
    apply ksum_congr
    intro k v _
    by_cases e1 : k = k'
    · simp [e1]
    · by_cases e2 : k ∈ ks <;> simp [e1, e2]

/-! ### … with a weight that does not look at the key: `wsum w` unfolds to `ksum fun _ => w` -/

def wsum (w : β → Nat) (l : List (κ × β)) : Nat := (l.map fun x => w x.2).sum

def ow (w : β → Nat) : Option β → Nat
  | some p => w p
  | none => 0

@[simp] theorem ow_none (w : β → Nat) : ow w none = 0 := rfl
@[simp] theorem ow_some (w : β → Nat) (p : β) : ow w (some p) = w p := rfl

theorem ow_eq_okw (w : β → Nat) (k : κ) (o : Option β) : ow w o = okw (fun _ => w) k o := by
  cases o <;> rfl

@[simp] theorem wsum_nil (w : β → Nat) : wsum w ([] : List (κ × β)) = 0 := rfl
@[simp] theorem wsum_cons (w : β → Nat) (x : κ × β) (l : List (κ × β)) :
    wsum w (x :: l) = w x.2 + wsum w l := ksum_cons (fun _ => w) x l

theorem wsum_set (w : β → Nat) (k : κ) (v : β) (l : List (κ × β)) :
    wsum w (AL.set k v l) + ow w (AL.get k l) = wsum w l + w v := by
  rw [ow_eq_okw w k]; exact ksum_set (fun _ => w) k v l

theorem wsum_add {w w1 w2 : β → Nat} {l : List (κ × β)} (h : ∀ k v, (k, v) ∈ l → w v = w1 v + w2 v) :
    wsum w l = wsum w1 l + wsum w2 l :=
  ksum_add (w := fun _ => w) (w1 := fun _ => w1) (w2 := fun _ => w2) h

theorem wsum_le {w w' : β → Nat} {l : List (κ × β)} (h : ∀ k v, (k, v) ∈ l → w v ≤ w' v) :
    wsum w l ≤ wsum w' l :=
  ksum_le (w := fun _ => w) (w' := fun _ => w') h

theorem wsum_congr {w w' : β → Nat} {l : List (κ × β)} (h : ∀ k v, (k, v) ∈ l → w v = w' v) :
    wsum w l = wsum w' l :=
  ksum_congr (w := fun _ => w) (w' := fun _ => w') h

theorem wsum_zero {w : β → Nat} {l : List (κ × β)} (h : ∀ k v, (k, v) ∈ l → w v = 0) :
    wsum w l = 0 :=
  ksum_zero (w := fun _ => w) h

theorem wsum_single {w : β → Nat} {k0 : κ} {l : List (κ × β)} (hnd : (AL.keys l).Nodup)
    (h : ∀ k v, (k, v) ∈ l → k ≠ k0 → w v = 0) : wsum w l = ow w (AL.get k0 l) := by
  rw [ow_eq_okw w k0]; exact ksum_single hnd h

/-- with distinct keys, removing the binding of `k` takes exactly its weight out of the sum: the
    sum splits into the part off `k` (`ksum_del`) and the part at `k` (`ksum_single`) -/
theorem wsum_del (w : β → Nat) (k : κ) {l : List (κ × β)} (hnd : (AL.keys l).Nodup) :
    wsum w (AL.del k l) + ow w (AL.get k l) = wsum w l := by
  have h1 : wsum w (AL.del k l) = ksum (fun k' v => if k' = k then 0 else w v) l :=
    ksum_del (fun _ => w) k l
  have h2 : ksum (fun k' v => if k' = k then w v else 0) l = ow w (AL.get k l) := by
    rw [ksum_single (k0 := k) hnd fun k' v _ hk => if_neg hk]
    cases AL.get k l <;> simp
  have h3 : wsum w l = ksum (fun k' v => if k' = k then 0 else w v) l +
      ksum (fun k' v => if k' = k then w v else 0) l :=
    ksum_add (w := fun _ => w) fun k' v _ => by by_cases e : k' = k <;> simp [e]
  rw [h1, h3, h2]

theorem wsum_ge_of_get (w : β → Nat) {k : κ} {v : β} {l : List (κ × β)} (h : AL.get k l = some v) :
    w v ≤ wsum w l := by
  induction l with
  | nil => cases h
  | cons x xs ih =>
    obtain ⟨k', v'⟩ := x
    rw [wsum_cons]
    by_cases hk : k' = k
    · simp only [AL.get, hk, ↓reduceIte, Option.some.injEq] at h
      subst h; exact Nat.le_add_right _ _
    · simp only [AL.get, hk, ↓reduceIte] at h
      exact Nat.le_trans (ih h) (Nat.le_add_left _ _)

end Store.Stats
