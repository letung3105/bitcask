/-
  What the startup scan recovers from the directory a crash leaves behind (C03).

  `Clean d kd a` describes a directory from which `openDisk` recovers exactly the index `kd`
  (ids ascending with largest id `a`, hint files exact, every entry of `kd` addresses its record,
  `kd` = "last record wins").  Crash tails never matter.  Every cut of `write` (hence of `put` and
  `delete`) and of `reopen` leaves a clean directory for the old or for the new index.
-/
import BitcaskVerif.Store.CutLemmas
import BitcaskVerif.Store.FaultModel

namespace Store

/-- what every key reads through index `kd` in directory `d` -/
def absOf (d : Disk) (kd : List (Key × Loc)) : Map := St.abs { disk := d, keydir := kd }

theorem abs_eq_absOf (s : St) : s.abs = absOf s.disk s.keydir := rfl

theorem absOf_tails (d : Disk) (kd : List (Key × Loc)) (T : List (Nat × Nat)) :
    absOf { d with tails := T } kd = absOf d kd := rfl

/-- reading through an index looks only at the files its entries point into -/
theorem absOf_congr {d d' : Disk} {kd kd' : List (Key × Loc)} (hk : kdF kd' = kdF kd)
    (hd : ∀ k loc, AL.get k kd = some loc → AL.get loc.fid d'.data = AL.get loc.fid d.data) :
    absOf d' kd' = absOf d kd := by
  funext k
  have e : AL.get k kd' = AL.get k kd := congrFun hk k
  unfold absOf St.abs get
  dsimp only
  rw [e]
  cases hg : AL.get k kd with
  | none => rfl
  | some loc => dsimp only [dataOf]; rw [hd k loc hg]

/-- the startup scan of `d` recovers the index `kd`; `a` is the largest file id -/
structure Clean (d : Disk) (kd : List (Key × Loc)) (a : Nat) : Prop where
  asc : Asc d.data
  hx : HintsExact d
  mem : a ∈ AL.keys d.data
  max : ∀ id ∈ AL.keys d.data, id ≤ a
  hmax : ∀ id ∈ AL.keys d.hint, id ≤ a
  locs : ∀ k loc, AL.get k kd = some loc → LocOk d k loc
  kd : kdF kd = replay (allEvs d.data)

theorem Clean.fid_le {d : Disk} {kd : List (Key × Loc)} {a : Nat} (h : Clean d kd a) {k : Key} {loc : Loc}
    (hl : LocOk d k loc) : loc.fid ≤ a := by
  obtain ⟨r, _, _, _, _, hex⟩ := hl
  exact h.max _ (mem_keys_of_isSome hex)

/-- **opening a clean directory**: the store satisfies the recovery invariant, nothing absent is
    resurrectable, and every key reads what it reads through `kd` -/
theorem Clean.open {d : Disk} {kd : List (Key × Loc)} {a : Nat} (h : Clean d kd a) :
    RInv (openDisk d).1 ∧ Full (openDisk d).1 ∧ (openDisk d).1.abs = absOf d kd ∧
      (openDisk d).1.active = a + 1 ∧
      (openDisk d).1.disk = { d with data := AL.set (a + 1) [] d.data } := by
  obtain ⟨o1, o2, o3, o4, o5⟩ := openDisk_rinv h.asc h.hx h.mem h.max h.hmax
  refine ⟨o1, o2, ?_, o4, o5⟩
  rw [abs_eq_absOf, o5]
  exact absOf_congr (o3.trans h.kd.symm) fun k loc hk =>
    AL.get_set_other (Nat.ne_of_lt (Nat.lt_succ_of_le (h.fid_le (h.locs k loc hk)))) _ _

theorem Clean.tails {d : Disk} {kd : List (Key × Loc)} {a : Nat} (h : Clean d kd a) (T : List (Nat × Nat)) :
    Clean { d with tails := T } kd a :=
  ⟨h.asc, h.hx, h.mem, h.max, h.hmax, h.locs, h.kd⟩

/-- an additional empty data file above every id -/
theorem Clean.addData {d : Disk} {kd : List (Key × Loc)} {a : Nat} (h : Clean d kd a) {b : Nat} (hb : a < b) :
    Clean { d with data := AL.set b [] d.data } kd b := by
  have hlt : ∀ id ∈ AL.keys d.data, id < b := fun id hid => Nat.lt_of_le_of_lt (h.max id hid) hb
  constructor
  · exact (asc_set_new h.asc hlt).2
  · intro fid hs hg
    have hne : fid ≠ b := Nat.ne_of_lt (Nat.lt_of_le_of_lt (h.hmax fid (AL.mem_keys_of_get hg)) hb)
    rw [dataOf_set_other' d hne]
    exact h.hx fid hs hg
  · exact AL.mem_keys_set.mpr (.inl rfl)
  · intro id hid
    rcases AL.mem_keys_set.mp hid with e | e
    · exact Nat.le_of_eq e
    · exact Nat.le_of_lt (hlt id e)
  · intro id hid; exact Nat.le_of_lt (Nat.lt_of_le_of_lt (h.hmax id hid) hb)
  · intro k loc hk
    have hl := h.locs k loc hk
    exact hl.keeps (h.fid_le hl) (keeps_create _ _ _ hb _ _)
  · rw [h.kd]
    show replay (allEvs d.data) = replay (allEvs (AL.set b [] d.data))
    rw [allEvs_set_new h.asc hlt]

/-- the additional file holds no record any entry of `kd` addresses -/
theorem Clean.absOf_addData {d : Disk} {kd : List (Key × Loc)} {a : Nat} (h : Clean d kd a) {b : Nat}
    (hb : a < b) : absOf { d with data := AL.set b [] d.data } kd = absOf d kd :=
  absOf_congr rfl fun k loc hk =>
    AL.get_set_other (Nat.ne_of_lt (Nat.lt_of_le_of_lt (h.fid_le (h.locs k loc hk)) hb)) _ _

/-- a state satisfying the recovery invariant in which nothing absent is resurrectable has a
    clean directory -/
theorem clean_of_rinv {s : St} (h : RInv s) (hf : Full s) : Clean s.disk s.keydir s.active :=
  ⟨h.asc, h.hx, h.active_mem, h.inv.ids, h.inv.hids, h.inv.locs, h.kd_eq hf⟩

/-- the configuration in which writing `r` in state `s` does not roll over -/
def noRollCfg (cfg : Cfg) (s : St) (r : Rec) : Cfg := { cfg with maxFile := s.written + r.len }

theorem write_noRollCfg (cfg : Cfg) (s : St) (r : Rec) :
    (write (noRollCfg cfg s r) s r).1.disk = Tr.appendDisk s r := by
  rw [write_noroll _ s r (by simp [noRollCfg])]
  rfl

/-- every cut of `write` leaves: the old directory, the old directory with a longer tail of the
    active file, the directory with the record appended, or the final directory -/
theorem write_cut_cases (cfg : Cfg) (s : St) (r : Rec) {c : List Call} (hc : Cut (write cfg s r).2.2 c) :
    applyCalls s.disk c = s.disk ∨
    (∃ n, applyCalls s.disk c = { s.disk with tails := AL.set s.active n s.disk.tails }) ∨
    applyCalls s.disk c = Tr.appendDisk s r ∨
    applyCalls s.disk c = (write cfg s r).1.disk := by
  have hfin := write_frame cfg s r
  rw [Tr.write_calls] at hc hfin
  have hAF : applyCalls s.disk ([Call.append ⟨.data, s.active⟩ (.ofRec r)] ++
      (if cfg.syncAlways then [Call.fsync ⟨.data, s.active⟩] else [])) = Tr.appendDisk s r := by
    cases cfg.syncAlways <;> rfl
  rcases cut_append hc with h1 | ⟨c', rfl, h2⟩
  · rcases cut_append h1 with h3 | ⟨c', rfl, h4⟩
    · rcases cut_single_append h3 with rfl | ⟨bs, rfl⟩ | rfl
      · exact .inl rfl
      · exact .inr (.inl ⟨_, rfl⟩)
      · exact .inr (.inr (.inl rfl))
    · rcases cut_if_single (fun _ _ => Call.noConfusion) h4 with rfl | ⟨hs, rfl⟩
      · exact .inr (.inr (.inl rfl))
      · exact .inr (.inr (.inl (by rw [← hAF, if_pos hs])))
  · rcases cut_if_single (fun _ _ => Call.noConfusion) h2 with rfl | ⟨hroll, rfl⟩
    · rw [List.append_nil]; exact .inr (.inr (.inl hAF))
    · rw [if_pos hroll] at hfin; exact .inr (.inr (.inr hfin))

/-- the outcome of a crash: the reopened store satisfies the recovery invariant (hence the store
    invariant: reads are sound), nothing absent is resurrectable, and it reads as `m` -/
def Recovers (d : Disk) (m : Map) : Prop :=
  RInv (openDisk d).1 ∧ Full (openDisk d).1 ∧ (openDisk d).1.abs = m

theorem Clean.recovers {d : Disk} {kd : List (Key × Loc)} {a : Nat} (h : Clean d kd a) :
    Recovers d (absOf d kd) :=
  ⟨h.open.1, h.open.2.1, h.open.2.2.1⟩

theorem recovers_self {s : St} (h : RInv s) (hf : Full s) : Recovers s.disk s.abs :=
  (clean_of_rinv h hf).recovers

/-- **crash during an operation that consists of one `write`**, given that the directory the
    operation leaves opens to `m'` whatever the rollover limit.  The directory with the record
    appended and the rollover not yet done is the one the same operation leaves under
    `noRollCfg`, so the operation's own invariants cover it. -/
theorem write_cut_recovers (cfg : Cfg) {s : St} (h : RInv s) (hf : Full s) (r : Rec) {m' : Map}
    (hop : ∀ cfg', Recovers (write cfg' s r).1.disk m') {c : List Call} (hc : Cut (write cfg s r).2.2 c) :
    Recovers (applyCalls s.disk c) s.abs ∨ Recovers (applyCalls s.disk c) m' := by
  rcases write_cut_cases cfg s r hc with e | ⟨n, e⟩ | e | e
  · rw [e]; exact .inl (recovers_self h hf)
  · rw [e]; exact .inl ((clean_of_rinv h hf).tails _).recovers
  · rw [e, ← write_noRollCfg cfg]; exact .inr (hop _)
  · rw [e]; exact .inr (hop cfg)

theorem put_cut_recovers (cfg : Cfg) {s : St} (h : RInv s) (hf : Full s) (ts : Int) (k : Key) (v : Val)
    {c : List Call} (hc : Cut (put cfg s ts k v).2 c) :
    Recovers (applyCalls s.disk c) s.abs ∨ Recovers (applyCalls s.disk c) (s.abs.set k v) := by
  refine write_cut_recovers cfg h hf _ (fun cfg' => ?_) (Tr.put_calls cfg s ts k v ▸ hc)
  rw [← put_disk, ← put_abs cfg' s ts k v h.inv]
  exact recovers_self (put_rinv cfg' s ts k v h).1 ((put_rinv cfg' s ts k v h).2 hf)

theorem delete_cut_recovers (cfg : Cfg) {s : St} (h : RInv s) (hf : Full s) (ts : Int) (k : Key)
    {c : List Call} (hc : Cut (delete cfg s ts k).2.2 c) :
    Recovers (applyCalls s.disk c) s.abs ∨ Recovers (applyCalls s.disk c) (s.abs.del k) := by
  refine write_cut_recovers cfg h hf _ (fun cfg' => ?_) (Tr.delete_calls cfg s ts k ▸ hc)
  rw [← delete_disk, ← (delete_abs cfg' s ts k h.inv).1]
  exact recovers_self (delete_rinv cfg' s ts k h).1 ((delete_rinv cfg' s ts k h).2 hf)

/-- **crash during `openDisk` / `reopen`** (recovery itself: its only call creates the new active
    file) -/
theorem reopen_cut_recovers {s : St} (h : RInv s) (hf : Full s) {c : List Call} (hc : Cut (reopen s).2 c) :
    Recovers (applyCalls s.disk c) s.abs := by
  rcases cut_single_noappend (fun _ _ => Call.noConfusion) hc with rfl | rfl
  · exact recovers_self h hf
  · show Recovers (reopen s).1.disk s.abs
    rw [← reopen_abs h hf]
    exact recovers_self (reopen_rinv h).1 (reopen_rinv h).2.1

end Store
