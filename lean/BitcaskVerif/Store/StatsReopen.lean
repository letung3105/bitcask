/-
  C19 helper lemmas: the startup scan.  Scanning a data file record by record applies to
  the index the two index steps `put` and `delete` are made of, so it keeps the index exact with
  respect to the part of the directory scanned so far; hint files need not be looked at, since
  the scan of an exact hint file does what the scan of its data file does (`rebuild_dropHints`).
  So `reopen` ends in a state satisfying `AccInv`.
-/
import BitcaskVerif.Store.StatsOps
import BitcaskVerif.Store.Recovery

namespace Store.Stats
open Store

variable {ix : Idx} {c : Nat → List Rec} {fid : Nat} {pre : List Rec}

theorem fileSize_snoc (pre : List Rec) (r : Rec) : fileSize (pre ++ [r]) = fileSize pre + r.len := by
  rw [fileSize_append, fileSize_cons, fileSize_nil]; rfl

theorem scanStep_tomb {r : Rec} (hv : r.val = none) (fid : Nat) (ix : Idx) (pos : Nat) :
    scanStep fid (ix, pos) r = (idxTomb fid ix r.key r.len, pos + r.len) := by
  simp only [scanStep, hv]; rfl

theorem scanStep_value {r : Rec} {v : Val} (hv : r.val = some v) (fid : Nat) (ix : Idx) (pos : Nat) :
    scanStep fid (ix, pos) r = (idxValue fid ix r.key pos r.len r.ts, pos + r.len) := by
  simp only [scanStep, hv]; rfl

/-- `pre` is the part of file `fid` scanned before -/
theorem scanFold_acc (rs : List Rec) : ∀ (ix : Idx) (pre : List Rec), IdxAcc ix (upd c fid pre) →
    IdxAcc (rs.foldl (scanStep fid) (ix, fileSize pre)).1 (upd c fid (pre ++ rs)) := by
  induction rs with
  | nil => intro ix pre h; rw [List.append_nil]; exact h
  | cons r rs ih =>
    intro ix pre h
    rw [List.foldl_cons, List.append_cons]
    cases hv : r.val with
    | none =>
      have ha := h.tomb fid r.key r
      rw [upd_upd, upd_same] at ha
      rw [scanStep_tomb hv, ← fileSize_snoc]; exact ih _ _ ha
    | some v =>
      have ha := h.value fid r.key (fileSize pre) r r.ts
      rw [upd_upd, upd_same] at ha
      rw [scanStep_value hv, ← fileSize_snoc]; exact ih _ _ ha

theorem IdxAcc.fileScan (h : IdxAcc ix c) (d : Disk) (fid : Nat) (hc : c fid = []) :
    IdxAcc (fileScan { d with hint := [] } ix fid) (upd c fid (dataOf d fid)) := by
  have h' : IdxAcc ix (upd c fid []) := by rw [← hc, upd_self]; exact h
  exact scanFold_acc (dataOf d fid) ix [] h'

theorem filesFold_acc (d : Disk) (ids : List Nat) :
    ∀ (ix : Idx) (c : Nat → List Rec), ids.Nodup → IdxAcc ix c → (∀ f, f ∈ ids → c f = []) →
    IdxAcc (ids.foldl (fileScan { d with hint := [] }) ix) (fun f => if f ∈ ids then dataOf d f else c f) := by
  induction ids with
  | nil => intro ix c _ h _; simpa using h
  | cons id ids ih =>
    intro ix c hnd h hc
    rw [List.nodup_cons] at hnd
    rw [List.foldl_cons]
    have h1 := h.fileScan d id (hc id List.mem_cons_self)
    have := ih _ _ hnd.2 h1 (fun f hf => by
      rw [upd_other _ fun e : f = id => hnd.1 (e ▸ hf)]; exact hc f (List.mem_cons_of_mem _ hf))
    have he : (fun f => if f ∈ id :: ids then dataOf d f else c f) =
        (fun f => if f ∈ ids then dataOf d f else upd c id (dataOf d id) f) := by
      funext f
      by_cases e1 : f ∈ ids
      · simp [e1]
      · by_cases e2 : f = id
        · subst e2; simp [e1, upd_same]
        · simp [e1, e2, upd_other _ e2]
    rw [he]; exact this

theorem idxAcc_empty : IdxAcc {} (fun _ => []) :=
  ⟨List.nodup_nil, fun _ => FileAcc.empty (fun _ _ hm => nomatch hm) rfl, rfl, List.nodup_nil⟩

theorem rebuild_acc {d : Disk} (hx : HintsExact d) : IdxAcc (rebuild d).1 (dataOf d) := by
  have := filesFold_acc d (sortedIds d) {} (fun _ => []) (sortedIds_nodup d) idxAcc_empty (fun _ _ => rfl)
  have he : (fun f => if f ∈ sortedIds d then dataOf d f else []) = dataOf d := by
    funext f
    by_cases e : f ∈ sortedIds d
    · rw [if_pos e]
    · rw [if_neg e, dataOf_absent fun hm => e ((mem_sortedIds d f).mpr hm)]
  rw [he] at this
  rw [← rebuild_dropHints hx]
  exact this

theorem rebuild_snd_gt (d : Disk) : ∀ f, f ∈ AL.keys d.data → f < (rebuild d).2 := by
  intro f hf
  rw [rebuild_snd]
  cases hg : (sortedIds d).getLast? with
  | some m => exact Nat.lt_succ_of_le (sortedIds_last hg f hf)
  | none =>
    have hm := (mem_sortedIds d f).mpr hf
    rw [List.getLast?_eq_none_iff.mp hg] at hm; cases hm

theorem reopen_acc {s : St} (hx : HintsExact s.disk) : AccInv (reopen s).1 := by
  have hdata : dataOf (reopen s).1.disk = dataOf s.disk :=
    dataOf_create (f := (rebuild s.disk).2) rfl fun hm => Nat.lt_irrefl _ (rebuild_snd_gt s.disk _ hm)
  rw [AccInv, hdata]
  exact rebuild_acc hx

end Store.Stats
