/-
  Lives after a crash inside a merge: the COPY phase of a merge pass in a store that satisfies
  the lives invariant.

  `CJ dB DB kd a m` (Store/LivesWrite.lean): the (real) directory `DB` has the clean visible part
  `dB`, from which the scan recovers the index `kd` reading as `m`; the invisible records of `DB`
  are harmless.  Such a directory opens to a store satisfying the lives invariant (`CJ.recJ`).

  What a merge does to such a directory, at every cut, falls under one theorem (`CJ.extend`): the
  scan of the new directory finds, key by key, the old index entry or an entry for a COPY of the
  record the old entry addresses; new invisible records are copies too.  Instances: the
  directory of a loop state — old files, then the new files, all of them copies (`cj_newFiles`,
  `LX.cj`) — and one more record without hint entry (`CJ.half`).

  Every cut of the copy phase is: the calls of some state `mB` of the merge loop (run on the
  visible part), followed by a short tail `t` whose effect on ANY directory is one of
  (`Tail`): nothing; a longer invisible tail of the current output; one more empty data file;
  one more record at the end of the current output's data file — without hint entry, hence
  invisible, and a copy of the record the index entry of its key addresses (`LX.copyRec`,
  `mergeStep_shape`).
  What such a cut leaves on disk is worked out in Store/LivesGen.lean.
-/
import BitcaskVerif.Store.LivesMergeSim

namespace Store

/-- `r` is a value record and a copy of the record the index of `s` addresses for its key -/
def CopyRec (s : St) (r : Rec) : Prop :=
  r.val.isSome ∧ ∃ loc, AL.get r.key s.keydir = some loc ∧ recAt (dataOf s.disk loc.fid) loc.pos = some r

section
variable {dB DB : Disk} {kd : List (Key × Loc)} {a : Nat} {m : Map}

/-- **the index moves only to copies.**  A directory `DB` with clean visible part `dB` is changed to
    `D'` with clean visible part `d'` such that
    * the records of `dB` and of `DB` stay where they are;
    * key by key, the index recovered from `d'` holds the old entry, or an entry for a copy of the
      record the old entry addresses, at a place behind the old entry (`key`);
    * the invisible records of `D'` are invisible records of `DB`, or copies of records the old
      index addresses (`hjunk`);
    * no absent key is recovered from all records of `D'`.
    Then `D'` reads as `DB` does, and its invisible records are harmless. -/
theorem CJ.extend (h : CJ dB DB kd a m)
    {d' D' : Disk} {kd' : List (Key × Loc)} {a' : Nat} (hc : Clean d' kd' a') (hsim : Sim d' D')
    (hkeep : Keeps a dB d')
    (hkeepD : ∀ fid p r, recAt (dataOf DB fid) p = some r → recAt (dataOf D' fid) p = some r)
    (key : ∀ k, AL.get k kd' = AL.get k kd ∨ ∃ loc' loc r, AL.get k kd' = some loc' ∧ AL.get k kd = some loc ∧
      recAt (dataOf d' loc'.fid) loc'.pos = some r ∧ recAt (dataOf DB loc.fid) loc.pos = some r ∧
      ∀ fid p, lexlt loc' fid p → lexlt loc fid p)
    (hjunk : ∀ fid p j, recAt (dataOf D' fid) p = some j → fileSize (dataOf d' fid) ≤ p →
      (recAt (dataOf DB fid) p = some j ∧ fileSize (dataOf dB fid) ≤ p) ∨ CopyRec { disk := DB, keydir := kd } j)
    (hfull : FullAll D' (kdF kd)) : CJ d' D' kd' a' m := by
  refine ⟨hc, ?_, hsim, ?_, ?_⟩
  · rw [← h.abs]
    funext k
    show St.abs { disk := d', keydir := kd' } k = St.abs { disk := dB, keydir := kd } k
    rcases key k with hk | ⟨loc', loc, r, hk', hk, hr', hr, _⟩
    · exact abs_keeps (b := a) (fun loc hl => ⟨h.clean.locs k loc hl, h.clean.fid_le (h.clean.locs k loc hl)⟩) hk hkeep
    · -- both entries address the record `r`
      obtain ⟨x, x1, _, _, x4, x5⟩ := h.clean.locs k loc hk
      obtain ⟨y, y1, _, _, y4, y5⟩ := hc.locs k loc' hk'
      have hx : x = r := Option.some.inj ((h.sim.recAt x1).symm.trans hr)
      have hy : y = r := Option.some.inj (y1.symm.trans hr')
      rw [abs_of_locOk (s := { disk := dB, keydir := kd }) hk x1 x4 x5,
        abs_of_locOk (s := { disk := d', keydir := kd' }) hk' y1 y4 y5, hx, hy]
  · intro fid p j h1 h2
    -- what is known of `j` in terms of the OLD index
    have hj : j.val.isSome ∧ ∀ loc, AL.get j.key kd = some loc → lexlt loc fid p →
        recAt (dataOf DB loc.fid) loc.pos = some j := by
      rcases hjunk fid p j h1 h2 with ⟨o1, o2⟩ | ⟨v, loc0, hk0, hr0⟩
      · exact h.junk fid p j o1 o2
      · exact ⟨v, fun loc hl _ => by rw [hl] at hk0; cases hk0; exact hr0⟩
    refine ⟨hj.1, fun loc'' hl hlt => ?_⟩
    unfold kdF at hl
    rcases key j.key with hk | ⟨loc', loc, r, hk', hk, hr', hr, htr⟩
    · rw [hk] at hl
      exact hkeepD _ _ _ (hj.2 loc'' hl hlt)
    · rw [hk'] at hl
      cases hl
      have := hj.2 loc hk (htr fid p hlt)
      rw [hr] at this
      cases this
      exact hsim.recAt hr'
  · intro k hk
    unfold kdF at hk
    rcases key k with hk0 | ⟨_, _, _, hk', _⟩
    · exact hfull k (hk0.symm.trans hk)
    · rw [hk'] at hk; cases hk

theorem CJ.setTail (h : CJ dB DB kd a m) (b n : Nat)
    (hd : dataOf DB b = dataOf dB b) (hh : AL.get b DB.hint = AL.get b dB.hint) :
    CJ { dB with tails := AL.set b n dB.tails } { DB with tails := AL.set b n DB.tails } kd a m := by
  refine ⟨h.clean.tails _, (absOf_tails _ _ _).trans h.abs, ?_, h.junk, h.fullA⟩
  refine ⟨h.sim.keys, h.sim.hkeys, by simp only [h.sim.tl], ?_⟩
  intro fid
  by_cases e : fid = b
  · subst e
    refine .of_fit (hd ▸ List.prefix_refl _) (fun _ => hd) hh fun hs hg x hx => ?_
    have := h.clean.hx.fit (hh ▸ hg) x hx
    show x.pos + x.len ≤ fileSize (dataOf DB fid) + _
    rw [hd]; exact Nat.le_trans this (Nat.le_add_right _ _)
  · exact (h.sim.file fid).congr rfl rfl rfl rfl (AL.get_set_other e _ _)

theorem CJ.half (h : CJ dB DB kd a m)
    (hhint : (AL.get a dB.hint).isSome) (hd : dataOf DB a = dataOf dB a) (hh : AL.get a DB.hint = AL.get a dB.hint)
    {k : Key} {loc : Loc} {r : Rec} (hk : AL.get k kd = some loc) (hlt : loc.fid < a)
    (hr : recAt (dataOf dB loc.fid) loc.pos = some r) (hkey : r.key = k) (hval : r.val.isSome) :
    CJ dB { DB with data := AL.set a (dataOf DB a ++ [r]) DB.data } kd a m := by
  have hmem : a ∈ AL.keys DB.data := h.sim.keys ▸ h.clean.mem
  have hmax : ∀ id ∈ AL.keys DB.data, id ≤ a := fun id hid => h.clean.max id (h.sim.keys ▸ hid)
  refine h.extend h.clean ?_ (Keeps.refl _ _) ?_ (fun _ => .inl rfl) ?_ ?_
  · refine ⟨?_, h.sim.hkeys, h.sim.tl, ?_⟩
    · show AL.keys (AL.set a _ DB.data) = _
      rw [AL.keys_set_of_mem hmem]; exact h.sim.keys
    · intro fid
      by_cases e : fid = a
      · subst e
        refine .of_fit ?_ (fun hn => ?_) hh fun hs hg x hx => ?_
        · rw [dataOf_set_same, hd]; exact List.prefix_append _ _
        · rw [hh.symm.trans hn] at hhint; cases hhint
        · have := h.clean.hx.fit (hh ▸ hg) x hx
          unfold dlen
          rw [dataOf_set_same, hd, fileSize_append]
          exact Nat.le_trans this (Nat.le_trans (Nat.le_add_right _ _) (Nat.le_add_right _ _))
      · exact (h.sim.file fid).congr rfl (dataOf_set_other _ e _) rfl rfl rfl
  · intro fid p x hx
    exact (keeps_append fid DB a r DB.hint DB.tails fid p x (Nat.le_refl _) hx (isSome_of_recAt hx)).1
  · -- the invisible records: the old ones and the new record
    intro fid p j h1 h2
    by_cases e : fid = a
    · subst e
      rw [dataOf_set_same, hd] at h1
      obtain ⟨_, rfl⟩ := recAt_single (recAt_append_ge h1 h2)
      exact .inr ⟨hval, loc, hkey ▸ hk, h.sim.recAt hr⟩
    · rw [dataOf_set_other _ e] at h1
      exact .inl ⟨h1, h2⟩
  · intro k' hk'
    show replay (allEvs (AL.set a (dataOf DB a ++ [r]) DB.data)) k' = none
    have := allEvs_set_max h.asc hmax ((AL.isSome_get _ _).mpr hmem) r
    simp only [dataOf] at this ⊢
    rw [this, replay_snoc_other]
    · exact h.fullA k' hk'
    · intro e
      unfold kdF at hk'
      rw [← e] at hk'
      simp only [mkEv, hkey, hk] at hk'
      cases hk'

end

/-- old files of a store satisfying the lives invariant, then new files `NI` of copies, with a
    clean visible part that consists of the old visible files and a part `V` of the new files -/
theorem cj_newFiles {s : St} {d1 : Disk} (w : LJw s d1) {NI V : Disk} {kd : List (Key × Loc)} {a : Nat}
    (hn : NewOk s.active s.disk.tails NI) (hnV : NewOk s.active s.disk.tails V)
    (hasc : Asc NI.data) (hascV : Asc V.data) (hc : Clean (dapp d1 V) kd a)
    (hsim : Sim (dapp d1 V) (dapp s.disk NI))
    (hcopy : ∀ fid p r, recAt (dataOf NI fid) p = some r → CopyRec s r) :
    CJ (dapp d1 V) (dapp s.disk NI) kd a s.abs := by
  have hkdS : ∀ k, AL.get k s.keydir = replay (allEvs d1.data) k := fun k => congrFun w.kd_eq k
  have hold : ∀ {fid p r}, recAt (dataOf s.disk fid) p = some r → fid ≤ s.active :=
    fun hr => w.inv.ids _ (mem_keys_of_isSome (isSome_of_recAt hr))
  refine w.cj.extend hc hsim ?_ ?_ ?_ ?_ ?_
  · intro fid p x hle h1 h2
    rw [dataOf_dapp_le hnV hle, get_data_dapp_le hnV hle]
    exact ⟨h1, h2⟩
  · intro fid p r hr
    rw [dataOf_dapp_le hn (hold hr)]
    exact hr
  · -- the last event of a key in the new visible files, if any, belongs to a copy
    intro k
    have hk := congrFun hc.kd k
    unfold kdF at hk
    rw [allEvs_dapp, replay_eq, lastFor_append] at hk
    cases hl : lastFor k (allEvs V.data) with
    | none =>
      rw [hl] at hk
      exact .inl (by rw [hk, hkdS, replay_eq])
    | some e =>
      rw [hl] at hk
      obtain ⟨hek, hem⟩ := lastFor_key hl
      obtain ⟨fid, q, r, hm, h1, rfl⟩ := mem_allEvs_rec hascV hem
      have hf := hnV.ids fid hm
      have h3 : recAt (dataOf NI fid) q = some r := by
        have := hsim.recAt (fid := fid) (p := q) (r := r)
        rw [dataOf_dapp_gt w.below1 hf, dataOf_dapp_gt w.below hf] at this
        exact this h1
      obtain ⟨hv, loc0, hk0, hr0⟩ := hcopy fid q r h3
      have hrk : r.key = k := hek
      refine .inr ⟨⟨fid, q, r.len, r.ts⟩, loc0, r, hk.trans (evVal_mkEv hv fid q), hrk ▸ hk0, ?_, hr0,
        fun f p hlt => ?_⟩
      · show recAt (dataOf (dapp d1 V) fid) q = some r
        rw [dataOf_dapp_gt w.below1 hf]; exact h1
      · exact lexlt.mono (q := q) (.inl (Nat.lt_of_le_of_lt (hold hr0) hf))
          (hlt.imp_right fun h => ⟨h.1, Nat.le_of_lt h.2⟩)
  · intro fid p j h1 h2
    by_cases hf : fid ≤ s.active
    · rw [dataOf_dapp_le hn hf] at h1
      rw [dataOf_dapp_le hnV hf] at h2
      exact .inl ⟨h1, h2⟩
    · rw [dataOf_dapp_gt w.below (Nat.lt_of_not_le hf)] at h1
      exact .inr (hcopy fid p j h1)
  · intro k hk
    show replay (allEvs (dapp s.disk NI).data) k = none
    rw [allEvs_dapp, replay_append_of_no_key]
    · exact w.fullA k hk
    · intro e he hek
      obtain ⟨fid, q, r, _, h1, rfl⟩ := mem_allEvs_rec hasc he
      obtain ⟨_, loc0, hk0, _⟩ := hcopy fid q r h1
      rw [show r.key = k from hek, show AL.get k s.keydir = none from hk] at hk0
      cases hk0

/-- the loop invariant of the crash analysis, plus: index entries that still point into old files
    are the original entries; the calls so far touch new files only -/
structure LX (s : St) (m : MergeSt) : Prop where
  li : LI s m
  old : ∀ k loc, AL.get k m.s.keydir = some loc → loc.fid ≤ s.active → AL.get k s.keydir = some loc
  out : ∀ c ∈ m.calls, OutCall s.active c
  oldf : ∀ fid, fid ≤ s.active → dataOf m.s.disk fid = dataOf s.disk fid
  /-- every record of a new file is a copy of the record the ORIGINAL index addresses for its key -/
  copy : ∀ fid, s.active < fid → ∀ p r, recAt (dataOf m.s.disk fid) p = some r → CopyRec s r

/-- the record an iteration copies is a copy of the record the ORIGINAL index addresses: the entry
    points into an old file, so it is the original entry, and old files are untouched -/
theorem LX.copyRec {s : St} {m : MergeSt} (h : LX s m) {sel : List Nat} (hsel : ∀ id, id ∈ sel → id ≤ s.active)
    {k : Key} {loc : Loc} {r : Rec} (hk : AL.get k m.s.keydir = some loc) (hs : loc.fid ∈ sel)
    (hr : recAt (dataOf m.s.disk loc.fid) loc.pos = some r) : CopyRec s r := by
  obtain ⟨r', g1, g2, g3, _, _⟩ := h.li.minv.locs k loc hk
  obtain rfl : r' = r := Option.some.inj (g1.symm.trans hr)
  have hle : loc.fid ≤ s.active := hsel _ hs
  exact ⟨g3, loc, by rw [g2]; exact h.old k loc hk hle, by rw [← h.oldf loc.fid hle]; exact hr⟩

theorem dataOf_rollDisk (d : Disk) {n fid : Nat} (h : fid ≠ n) : dataOf (rollDisk d n) fid = dataOf d fid :=
  dataOf_set_other' d h _ _ _

theorem recAt_rollDisk {d : Disk} {n fid p : Nat} {x : Rec} (h : recAt (dataOf (rollDisk d n) fid) p = some x) :
    recAt (dataOf d fid) p = some x := by
  by_cases e : fid = n
  · rw [e, rollDisk, dataOf_set_same'] at h
    cases h
  · rwa [dataOf_rollDisk d e] at h

theorem mergeStart_lx {s : St} (h : RInv s) (hf : Full s) : LX s (mergeStart s) := by
  refine ⟨mergeStart_li h hf, fun _ _ hk _ => hk, (mergeStart_mout s).2, ?_, ?_⟩
  · intro fid hle
    exact dataOf_rollDisk s.disk (Nat.ne_of_lt (Nat.lt_succ_of_le hle))
  · intro fid hgt p r hr
    have := h.inv.ids _ (mem_keys_of_isSome (isSome_of_recAt (recAt_rollDisk (d := s.disk) hr)))
    exact absurd hgt (Nat.not_lt_of_le this)

theorem mergeStep_lx (cfg : Cfg) (sel : List Nat) {s : St} (hsel : ∀ id, id ∈ sel → id ≤ s.active)
    {m : MergeSt} (h : LX s m) (k : Key) : LX s (mergeStep cfg sel m k) := by
  have hgt := h.li.minv.midgt
  rcases h.li.minv.mergeStep_eq cfg sel k with ⟨e, _⟩ | ⟨loc, r, hk, hs, h1, _, _, _, _, hstep⟩
  · rw [e]; exact h
  · have hkd : (mergeStep cfg sel m k).s.keydir = AL.set k (newLocOf m loc) m.s.keydir := by
      rcases hstep with ⟨_, e⟩ | ⟨_, e⟩ <;> rw [e] <;> rfl
    have hd : (mergeStep cfg sel m k).s.disk = moveDisk m k loc r ∨
        (mergeStep cfg sel m k).s.disk = rollDisk (moveDisk m k loc r) (m.mid + 1) :=
      hstep.imp (fun ⟨_, e⟩ => e ▸ rfl) (fun ⟨_, e⟩ => e ▸ rfl)
    have hcr : CopyRec s r := h.copyRec hsel hk hs h1
    have hmoveO : ∀ fid, fid ≤ s.active → dataOf (moveDisk m k loc r) fid = dataOf s.disk fid := by
      intro fid hf
      rw [← h.oldf fid hf]
      exact dataOf_set_other' m.s.disk (Nat.ne_of_lt (Nat.lt_of_le_of_lt hf hgt)) _ _ _
    have hmoveC : ∀ fid, s.active < fid → ∀ p x, recAt (dataOf (moveDisk m k loc r) fid) p = some x → CopyRec s x := by
      intro fid hf p x hx
      by_cases e : fid = m.mid
      · subst e
        simp only [moveDisk, dataOf, AL.get_set_same, Option.getD_some] at hx
        rcases recAt_snoc hx with hx' | ⟨_, rfl⟩
        · exact h.copy _ hf p x hx'
        · exact hcr
      · rw [show dataOf (moveDisk m k loc r) fid = dataOf m.s.disk fid from dataOf_set_other' m.s.disk e _ _ _] at hx
        exact h.copy fid hf p x hx
    refine ⟨mergeStep_li cfg sel hsel h.li k, ?_, (mergeStep_mout cfg sel _ m k ⟨hgt, h.out⟩).2, ?_, ?_⟩
    · intro k' loc' hk' hle'
      rw [hkd, AL.get_set] at hk'
      by_cases hkk : k' = k
      · simp only [hkk, ↓reduceIte, Option.some.injEq] at hk'
        have : loc'.fid = m.mid := by rw [← hk']; rfl
        exact absurd hle' (Nat.not_le_of_gt (this ▸ hgt))
      · simp only [hkk, ↓reduceIte] at hk'
        exact h.old k' loc' hk' hle'
    · intro fid hf
      rcases hd with hd | hd
      · rw [hd]; exact hmoveO fid hf
      · rw [hd, ← hmoveO fid hf]
        exact dataOf_rollDisk _ (Nat.ne_of_lt (Nat.lt_succ_of_lt (Nat.lt_of_le_of_lt hf hgt)))
    · intro fid hf p x hx
      rcases hd with hd | hd
      · rw [hd] at hx; exact hmoveC fid hf p x hx
      · rw [hd] at hx; exact hmoveC fid hf p x (recAt_rollDisk hx)

theorem mergeLoop_lx (cfg : Cfg) {s : St} (h : RInv s) (hf : Full s) (sel : List Nat)
    (hsel : ∀ id, id ∈ sel → id ≤ s.active) (order : List Key) : LX s (mergeLoop cfg s sel order) :=
  List.foldlRecOn order _ (mergeStart_lx h hf) (fun _ hm k _ => mergeStep_lx cfg sel hsel hm k)

section
variable {s : St} {d1 : Disk} (w : LJw s d1) {mB : MergeSt} (h : LX { s with disk := d1 } mB)
include w h

theorem LX.disk1 : mB.s.disk = dapp d1 (newFiles s.disk.tails mB.calls) := by
  rw [← h.li.frame, applyCalls_out w.below1 h.out, w.sim.tl]

theorem LX.diskR : applyCalls s.disk mB.calls = dapp s.disk (newFiles s.disk.tails mB.calls) :=
  applyCalls_out w.below h.out

theorem LX.evs : ∃ extra, allEvs (applyCalls s.disk mB.calls).data = allEvs s.disk.data ++ extra ∧
    ∀ e ∈ extra, (AL.get e.key s.keydir).isSome = true := by
  obtain ⟨extra, x1, x2⟩ := h.li.evs
  refine ⟨extra, ?_, x2⟩
  rw [h.disk1 w] at x1
  rw [h.diskR w]
  exact (allEvs_dapp _ _).trans (congrArg _ (List.append_cancel_left ((allEvs_dapp _ _).symm.trans x1)))

theorem LX.cj :
    CJ mB.s.disk (applyCalls s.disk mB.calls) mB.s.keydir mB.mid s.abs ∧
    dataOf (applyCalls s.disk mB.calls) mB.mid = dataOf mB.s.disk mB.mid ∧
    AL.get mB.mid (applyCalls s.disk mB.calls).hint = AL.get mB.mid mB.s.disk.hint := by
  have hn : NewOk s.active s.disk.tails (newFiles s.disk.tails mB.calls) := newOk_newFiles _ h.out
  have e1 := h.disk1 w
  have eR := h.diskR w
  have hgt : s.active < mB.mid := h.li.minv.midgt
  have hx : HintsExact (dapp d1 (newFiles s.disk.tails mB.calls)) := e1 ▸ h.li.mr.hx
  have hasc : Asc (newFiles s.disk.tails mB.calls).data := asc_of_dapp (e1 ▸ h.li.mr.asc)
  have hfile : ∀ fid, s.active < fid →
      FileSim (newFiles s.disk.tails mB.calls) (newFiles s.disk.tails mB.calls) fid := by
    intro fid hf
    exact (fileSim_refl (fid := fid) (fun _ hg => hx.fit' hg)).congr (dataOf_dapp_gt w.below1 hf).symm
      (dataOf_dapp_gt w.below1 hf).symm (get_hint_dapp_gt w.below1 hf).symm (get_hint_dapp_gt w.below1 hf).symm rfl
  have hcopy : ∀ fid p r, recAt (dataOf (newFiles s.disk.tails mB.calls) fid) p = some r → CopyRec s r := by
    intro fid p r hr
    have hf : s.active < fid := hn.ids fid (mem_keys_of_isSome (isSome_of_recAt hr))
    obtain ⟨hv, loc, hk, hl⟩ := h.copy fid hf p r (by rw [e1, dataOf_dapp_gt w.below1 hf]; exact hr)
    exact ⟨hv, loc, hk, w.sim.recAt hl⟩
  refine ⟨?_, ?_, ?_⟩
  · have hc := h.li.clean
    rw [e1] at hc ⊢
    rw [eR]
    exact cj_newFiles w hn hn hasc hasc hc (w.sim.dapp w.below w.below1 hn hfile) hcopy
  · rw [eR, e1, dataOf_dapp_gt w.below hgt, dataOf_dapp_gt w.below1 hgt]
  · rw [eR, e1, get_hint_dapp_gt w.below hgt, get_hint_dapp_gt w.below1 hgt]

end

inductive Tail (s : St) (mB : MergeSt) (t : List Call) : Prop
  | same : (∀ X : Disk, applyCalls X t = X) → Tail s mB t
  | raw (n : Nat) : (∀ X : Disk, applyCalls X t =
      { X with tails := AL.set mB.mid ((AL.get mB.mid X.tails).getD 0 + n) X.tails }) → Tail s mB t
  | newData : (∀ X : Disk, applyCalls X t = { X with data := AL.set (mB.mid + 1) [] X.data }) → Tail s mB t
  | half (r : Rec) : CopyRec s r →
      (∀ X : Disk, applyCalls X t = { X with data := AL.set mB.mid (dataOf X mB.mid ++ [r]) X.data }) →
      Tail s mB t

theorem move_shape {s : St} {m : MergeSt} (h : LX s m) (k : Key) (loc : Loc) (r : Rec) (hcr : CopyRec s r)
    (hmove : LX s (Tr.moveNoRoll m k loc r)) {c : List Call}
    (hc : Cut [Call.append ⟨.data, m.mid⟩ (.ofRec r),
      Call.append ⟨.hint, m.mid⟩ (.ofHint { ts := loc.ts, len := loc.len, pos := m.mpos, key := k })] c) :
    ∃ mB t, LX s mB ∧ m.calls ++ c = mB.calls ++ t ∧ Tail s mB t := by
  rcases cut_two_appends hc with rfl | ⟨bs, rfl⟩ | rfl | ⟨bs, rfl⟩ | rfl
  · exact ⟨m, [], h, rfl, .same (fun _ => rfl)⟩
  · exact ⟨m, _, h, rfl, .raw bs.length (fun _ => rfl)⟩
  · exact ⟨m, _, h, rfl, .half r hcr (fun _ => rfl)⟩
  · exact ⟨m, _, h, rfl, .half r hcr (fun _ => rfl)⟩
  · exact ⟨Tr.moveNoRoll m k loc r, [], hmove, by simp [Tr.moveNoRoll, moveCalls], .same (fun _ => rfl)⟩

theorem mergeStep_shape (cfg : Cfg) (sel : List Nat) {s : St} (hsel : ∀ id, id ∈ sel → id ≤ s.active)
    {m : MergeSt} (h : LX s m) (k : Key) {c : List Call} (hc : Cut (mergeStep cfg sel m k).calls c) :
    Cut m.calls c ∨ ∃ mB t, LX s mB ∧ c = mB.calls ++ t ∧ Tail s mB t := by
  rcases h.li.minv.mergeStep_cut cfg sel k hc with h0 | ⟨loc, r, hk, hs, h1, _, eNR, hcs⟩
  · exact .inl h0
  right
  have hNR : LX s (Tr.moveNoRoll m k loc r) := eNR ▸ mergeStep_lx _ sel hsel h k
  rcases hcs with ⟨c', rfl, h2⟩ | ⟨e, c', post, rfl, e'⟩
  · exact move_shape h k loc r (h.copyRec hsel hk hs h1) hNR h2
  · rcases prefix_cases4 e' with rfl | rfl | rfl | rfl | rfl
    · exact ⟨_, [], hNR, rfl, .same (fun _ => rfl)⟩
    · exact ⟨_, _, hNR, rfl, .same (fun _ => rfl)⟩
    · exact ⟨_, _, hNR, rfl, .same (fun _ => rfl)⟩
    · exact ⟨_, _, hNR, rfl, .newData (fun _ => rfl)⟩
    · exact ⟨_, [], e ▸ mergeStep_lx cfg sel hsel h k, (List.append_nil _).symm, .same (fun _ => rfl)⟩

end Store
