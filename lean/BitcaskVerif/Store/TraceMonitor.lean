/-
  What an accepting run of the trace monitor `Mon` means, in plain terms about positions in the
  trace (no reference to the store model).
-/
import BitcaskVerif.Store.TraceLemmas

namespace Store.Tr

/-- verdicts are sticky: a monitor that accepts after a step accepted before it -/
theorem Mon.step_ok (m : Mon) (e : TEv) :
    ((m.step e).okFresh = true → m.okFresh = true) ∧ ((m.step e).okOwn = true → m.okOwn = true) ∧
      ((m.step e).okTop = true → m.okTop = true) := by
  cases e with
  | restart => exact ⟨id, id, id⟩
  | call c =>
    cases c with
    | create f => exact ⟨fun h => (Bool.and_eq_true_iff.mp h).1, id, id⟩
    | append f p => exact ⟨id, fun h => (Bool.and_eq_true_iff.mp h).1, id⟩
    | fsync f => exact ⟨id, id, id⟩
    | unlink f => exact ⟨id, id, fun h => (Bool.and_eq_true_iff.mp h).1⟩

theorem Mon.run_ok (evs : List TEv) : ∀ (m : Mon),
    ((m.run evs).okFresh = true → m.okFresh = true) ∧ ((m.run evs).okOwn = true → m.okOwn = true) ∧
      ((m.run evs).okTop = true → m.okTop = true) := by
  induction evs with
  | nil => intro m; exact ⟨id, id, id⟩
  | cons e es ih =>
    intro m
    have a := ih (m.step e)
    have b := m.step_ok e
    exact ⟨b.1 ∘ a.1, b.2.1 ∘ a.2.1, b.2.2 ∘ a.2.2⟩

/-- only a `create` moves the bound -/
theorem Mon.step_bound (m : Mon) (e : TEv) :
    (m.step e).bound = m.bound ∨ ∃ f, e = .call (.create f) ∧ (m.step e).bound = max m.bound (f.id + 1) := by
  cases e with
  | restart => exact .inl rfl
  | call c =>
    cases c with
    | create f => exact .inr ⟨f, rfl, rfl⟩
    | _ => exact .inl rfl

theorem Mon.step_bound_le (m : Mon) (e : TEv) : m.bound ≤ (m.step e).bound := by
  rcases m.step_bound e with h | ⟨f, _, h⟩
  · exact Nat.le_of_eq h.symm
  · rw [h]; exact Nat.le_max_left ..

theorem Mon.run_bound_le (evs : List TEv) : ∀ (m : Mon), m.bound ≤ (m.run evs).bound := by
  induction evs with
  | nil => intro m; exact Nat.le_refl _
  | cons e es ih => intro m; exact Nat.le_trans (m.step_bound_le e) (ih _)

/-- every id created so far is below the bound -/
theorem Mon.run_create_lt (evs : List TEv) : ∀ (m : Mon) (g : FName),
    TEv.call (.create g) ∈ evs → g.id < (m.run evs).bound := by
  induction evs with
  | nil => intro m g h; cases h
  | cons e es ih =>
    intro m g h
    rcases List.mem_cons.mp h with e1 | e1
    · subst e1
      have h1 : g.id < (m.step (.call (.create g))).bound := Nat.lt_of_lt_of_le (Nat.lt_succ_self _) (Nat.le_max_right ..)
      exact Nat.lt_of_lt_of_le h1 (Mon.run_bound_le es _)
    · exact ih _ g e1

/-- the bound is the initial one or one above a created id -/
theorem Mon.run_bound_witness (evs : List TEv) : ∀ (m : Mon),
    (m.run evs).bound = m.bound ∨ ∃ g, TEv.call (.create g) ∈ evs ∧ (m.run evs).bound = g.id + 1 := by
  induction evs with
  | nil => intro m; exact .inl rfl
  | cons e es ih =>
    intro m
    rcases ih (m.step e) with h | ⟨g, hg, hb⟩
    · rw [Mon.run_cons, h]
      rcases m.step_bound e with h1 | ⟨f, rfl, h1⟩
      · exact .inl h1
      · rw [h1]
        by_cases hf : m.bound ≤ f.id + 1
        · exact .inr ⟨f, List.mem_cons_self, Nat.max_eq_right hf⟩
        · exact .inl (Nat.max_eq_left (Nat.le_of_not_le hf))
    · exact .inr ⟨g, List.mem_cons_of_mem _ hg, hb⟩

def TEv.asLast : TEv → Option Call
  | .call c => some c
  | .restart => none

theorem Mon.step_last (m : Mon) (e : TEv) : (m.step e).last = e.asLast := by
  cases e with
  | restart => rfl
  | call c => cases c <;> rfl

/-- after a non-empty prefix, `last` is its final event -/
theorem Mon.run_last (m : Mon) (pre : List TEv) (c : Call) (h : (m.run pre).last = some c) :
    (pre = [] ∧ m.last = some c) ∨ ∃ pre', pre = pre' ++ [TEv.call c] := by
  rcases List.eq_nil_or_concat pre with e | ⟨pre', e, he⟩
  · subst e; exact .inl ⟨rfl, h⟩
  · right
    rw [he, List.concat_eq_append, Mon.run_append, Mon.run_cons, Mon.run_nil, Mon.step_last] at h
    cases e with
    | restart => cases h
    | call d =>
      simp only [TEv.asLast, Option.some.injEq] at h
      subst h
      exact ⟨pre', by rw [he, List.concat_eq_append]⟩

/-- **an accepted `create` of a data file has an id at or above the initial bound and above the
    id of every file created earlier in the trace** -/
theorem mon_fresh_data (m : Mon) (evs : List TEv) (hok : (m.run evs).okFresh = true)
    (pre post : List TEv) (id : Nat) (h : evs = pre ++ TEv.call (.create ⟨.data, id⟩) :: post) :
    m.bound ≤ id ∧ ∀ g, TEv.call (.create g) ∈ pre → g.id < id := by
  rw [h, Mon.run_append, Mon.run_cons] at hok
  have h1 := (Mon.run_ok post _).1 hok
  simp only [Mon.step, Mon.freshTest, Bool.and_eq_true, decide_eq_true_eq] at h1
  exact ⟨Nat.le_trans (Mon.run_bound_le pre m) h1.2,
    fun g hg => Nat.lt_of_lt_of_le (Mon.run_create_lt pre m g hg) h1.2⟩

/-- **an accepted `create` of a hint file directly follows the `create` of the data file with the
    same id** -/
theorem mon_fresh_hint (m : Mon) (evs : List TEv) (hok : (m.run evs).okFresh = true)
    (pre post : List TEv) (id : Nat) (h : evs = pre ++ TEv.call (.create ⟨.hint, id⟩) :: post) :
    (pre = [] ∧ m.last = some (.create ⟨.data, id⟩)) ∨
      ∃ pre', pre = pre' ++ [TEv.call (.create ⟨.data, id⟩)] := by
  rw [h, Mon.run_append, Mon.run_cons] at hok
  have h1 := (Mon.run_ok post _).1 hok
  simp only [Mon.step, Mon.freshTest, Bool.and_eq_true, decide_eq_true_eq] at h1
  exact Mon.run_last m pre _ h1.2

/-- **an accepted `unlink` removes a file whose id is below the largest id used so far** -/
theorem mon_top (m : Mon) (evs : List TEv) (hok : (m.run evs).okTop = true)
    (pre post : List TEv) (f : FName) (h : evs = pre ++ TEv.call (.unlink f) :: post) :
    f.id + 1 < (m.run pre).bound := by
  rw [h, Mon.run_append, Mon.run_cons] at hok
  have h1 := (Mon.run_ok post _).2.2 hok
  simp only [Mon.step, Bool.and_eq_true, decide_eq_true_eq] at h1
  exact h1.2

def lifeStep (acc : List TEv) : TEv → List TEv
  | .restart => []
  | .call c => acc ++ [.call c]

/-- the events since the last restart -/
def lastLife (evs : List TEv) : List TEv := evs.foldl lifeStep []

theorem lifeFold_spec (evs : List TEv) : ∀ (acc pre0 : List TEv), TEv.restart ∉ acc →
    (pre0 = [] ∨ ∃ p, pre0 = p ++ [TEv.restart]) →
    ∃ pre1, pre0 ++ acc ++ evs = pre1 ++ evs.foldl lifeStep acc ∧ TEv.restart ∉ evs.foldl lifeStep acc ∧
      (pre1 = [] ∨ ∃ p, pre1 = p ++ [TEv.restart]) := by
  induction evs with
  | nil => intro acc pre0 h1 h2; exact ⟨pre0, by simp, h1, h2⟩
  | cons e es ih =>
    intro acc pre0 h1 h2
    cases e with
    | restart =>
      obtain ⟨p1, q1, q2, q3⟩ := ih [] (pre0 ++ acc ++ [TEv.restart]) List.not_mem_nil (.inr ⟨_, rfl⟩)
      exact ⟨p1, by simpa [lifeStep] using q1, q2, q3⟩
    | call c =>
      obtain ⟨p1, q1, q2, q3⟩ := ih (acc ++ [TEv.call c]) pre0 (by simp [h1]) h2
      exact ⟨p1, by simpa [lifeStep] using q1, q2, q3⟩

/-- `lastLife evs` is the suffix of `evs` after its last `restart` -/
theorem lastLife_spec (evs : List TEv) :
    ∃ pre1, evs = pre1 ++ lastLife evs ∧ TEv.restart ∉ lastLife evs ∧
      (pre1 = [] ∨ ∃ p, pre1 = p ++ [TEv.restart]) :=
  lifeFold_spec evs [] [] List.not_mem_nil (.inl rfl)

/-- the monitor's `created` / `unlinked` are the files created / removed in the current life -/
theorem mon_life_rel (evs : List TEv) : ∀ (m : Mon) (acc : List TEv),
    (∀ f, (f ∈ m.created ↔ TEv.call (.create f) ∈ acc) ∧ (f ∈ m.unlinked ↔ TEv.call (.unlink f) ∈ acc)) →
    ∀ f, (f ∈ (m.run evs).created ↔ TEv.call (.create f) ∈ evs.foldl lifeStep acc) ∧
      (f ∈ (m.run evs).unlinked ↔ TEv.call (.unlink f) ∈ evs.foldl lifeStep acc) := by
  induction evs with
  | nil => intro m acc h; exact h
  | cons e es ih =>
    intro m acc h
    refine ih _ _ fun f => ?_
    cases e with
    | restart => simp [Mon.step, lifeStep]
    | call c =>
      cases c with
      -- `fsync` and `append` leave both lists alone and add no `create` / `unlink` event
      | fsync g => simpa [Mon.step, lifeStep] using h f
      | append g p => simpa [Mon.step, lifeStep] using h f
      -- `create g` / `unlink g` put `g` in front of one list and their event at the end of the life
      | create g => simp [Mon.step, lifeStep, List.mem_cons, List.mem_append, h f, or_comm]
      | unlink g => simp [Mon.step, lifeStep, List.mem_cons, List.mem_append, h f, or_comm]

/-- **an accepted `append f` is preceded, since the last restart, by `create f` and by no
    `unlink f`** (monitor started with empty `created` / `unlinked`; `lastLife pre` is the suffix
    of `pre` after its last `restart`, `lastLife_spec`) -/
theorem mon_own (m : Mon) (hc : m.created = []) (hu : m.unlinked = []) (evs : List TEv)
    (hok : (m.run evs).okOwn = true) (pre post : List TEv) (f : FName) (p : Payload)
    (h : evs = pre ++ TEv.call (.append f p) :: post) :
    TEv.call (.create f) ∈ lastLife pre ∧ TEv.call (.unlink f) ∉ lastLife pre := by
  rw [h, Mon.run_append, Mon.run_cons] at hok
  have h1 := (Mon.run_ok post _).2.1 hok
  simp only [Mon.step, Bool.and_eq_true, decide_eq_true_eq] at h1
  obtain ⟨r1, r2⟩ := mon_life_rel pre m [] (by simp [hc, hu]) f
  exact ⟨r1.mp h1.2.1, fun hx => h1.2.2 (r2.mpr hx)⟩

end Store.Tr