/-
  Lives after a crash inside a merge: a merge pass on the store and on its visible part.

  The merge loop reads records only through index entries, and those address visible records;
  it writes only to new files.  So the pass run on the real directory and the pass run on the
  visible part issue the same calls and reach the same index and counters (`LoopSim`,
  `mergeWith_withDisk`); their directories consist of the old files of either side followed by
  the SAME new files (`LoopSim.disk1`, `LoopSim.disk`).
-/
import BitcaskVerif.Store.LivesDapp

namespace Store

structure MS (m1 m : MergeSt) : Prop where
  kd : m1.s.keydir = m.s.keydir
  stats : m1.s.stats = m.s.stats
  active : m1.s.active = m.s.active
  written : m1.s.written = m.s.written
  bad : m1.s.bad = m.s.bad
  mid : m1.mid = m.mid
  mpos : m1.mpos = m.mpos
  calls : m1.calls = m.calls

theorem mergeStep_sim (cfg : Cfg) (sel : List Nat) {m1 m : MergeSt} (h : MS m1 m) (k : Key)
    (hrec : ∀ loc, AL.get k m1.s.keydir = some loc → loc.fid ∈ sel →
      ∃ r, recAt (dataOf m1.s.disk loc.fid) loc.pos = some r ∧ recAt (dataOf m.s.disk loc.fid) loc.pos = some r) :
    MS (mergeStep cfg sel m1 k) (mergeStep cfg sel m k) := by
  cases hk : AL.get k m1.s.keydir with
  | none =>
    rw [mergeStep_skip_none cfg sel m1 k hk, mergeStep_skip_none cfg sel m k (by rw [← h.kd]; exact hk)]
    exact h
  | some loc =>
    have hk' : AL.get k m.s.keydir = some loc := by rw [← h.kd]; exact hk
    by_cases hsel : loc.fid ∈ sel
    · obtain ⟨r, h1, h2⟩ := hrec loc hk hsel
      rw [mergeStep_move cfg sel m1 k loc r hk hsel h1, mergeStep_move cfg sel m k loc r hk' hsel h2, h.mpos]
      -- both sides copy the same record; every component but the directory is computed from
      -- components on which `m1` and `m` agree
      by_cases hroll : m.mpos + loc.len > cfg.maxFile
      · rw [if_pos hroll, if_pos hroll]
        constructor <;> simp only [moveSt, newLocOf, moveCalls, h.kd, h.stats, h.active, h.written,
          h.bad, h.mid, h.mpos, h.calls]
      · rw [if_neg hroll, if_neg hroll]
        constructor <;> simp only [moveSt, newLocOf, moveCalls, h.kd, h.stats, h.active, h.written,
          h.bad, h.mid, h.mpos, h.calls]
    · rw [mergeStep_skip_unsel cfg sel m1 k loc hk hsel, mergeStep_skip_unsel cfg sel m k loc hk' hsel]
      exact h

theorem LJw.below {s : St} {d1 : Disk} (h : LJw s d1) : Below s.active s.disk := ⟨h.inv.ids, h.inv.hids⟩
theorem LJw.below1 {s : St} {d1 : Disk} (h : LJw s d1) : Below s.active d1 := ⟨h.rinv.inv.ids, h.rinv.inv.hids⟩

/-- the merge loop on the visible part (`m1`) and on the real directory (`m`), started in `s` -/
structure LoopSim (s : St) (d1 : Disk) (m1 m : MergeSt) : Prop where
  ms : MS m1 m
  minv : MInv s.active ({ s with disk := d1 } : St).abs m1
  fr1 : applyCalls d1 m1.calls = m1.s.disk
  fr : applyCalls s.disk m.calls = m.s.disk
  out : ∀ c ∈ m1.calls, OutCall s.active c

theorem LoopSim.disk1 {s : St} {d1 : Disk} {m1 m : MergeSt} (w : LJw s d1) (h : LoopSim s d1 m1 m) :
    m1.s.disk = dapp d1 (newFiles s.disk.tails m1.calls) := by
  rw [← h.fr1, applyCalls_out w.below1 h.out, w.sim.tl]

theorem LoopSim.disk {s : St} {d1 : Disk} {m1 m : MergeSt} (w : LJw s d1) (h : LoopSim s d1 m1 m) :
    m.s.disk = dapp s.disk (newFiles s.disk.tails m1.calls) := by
  rw [← h.fr, ← h.ms.calls, applyCalls_out w.below h.out]

theorem LoopSim.newOk {s : St} {d1 : Disk} {m1 m : MergeSt} (h : LoopSim s d1 m1 m) :
    NewOk s.active s.disk.tails (newFiles s.disk.tails m1.calls) := newOk_newFiles _ h.out

theorem Sim.recAt {d1 d : Disk} (h : Sim d1 d) {fid p : Nat} {r : Rec} (hr : recAt (dataOf d1 fid) p = some r) :
    recAt (dataOf d fid) p = some r := by
  obtain ⟨t, e⟩ := h.pre fid
  rw [← e]; exact recAt_append_left hr t

theorem LoopSim.step (cfg : Cfg) {s : St} {d1 : Disk} (w : LJw s d1) {sel : List Nat}
    (hsel : ∀ id, id ∈ sel → id ≤ s.active) {m1 m : MergeSt} (h : LoopSim s d1 m1 m) (k : Key) :
    LoopSim s d1 (mergeStep cfg sel m1 k) (mergeStep cfg sel m k) := by
  refine ⟨?_, (mergeStep_spec cfg sel _ _ hsel m1 k h.minv).1, mergeStep_frame cfg sel d1 m1 k h.fr1,
    mergeStep_frame cfg sel s.disk m k h.fr, (mergeStep_mout cfg sel _ m1 k ⟨h.minv.midgt, h.out⟩).2⟩
  apply mergeStep_sim cfg sel h.ms k
  intro loc hk hs
  have hle : loc.fid ≤ s.active := hsel _ hs
  obtain ⟨r, h1, _⟩ := h.minv.locs k loc hk
  refine ⟨r, h1, ?_⟩
  rw [h.disk1 w, dataOf_dapp_le h.newOk hle] at h1
  rw [h.disk w, dataOf_dapp_le h.newOk hle]
  exact w.sim.recAt h1

theorem LoopSim.start {s : St} {d1 : Disk} (w : LJw s d1) :
    LoopSim s d1 (mergeStart { s with disk := d1 }) (mergeStart s) :=
  ⟨⟨rfl, rfl, rfl, rfl, rfl, rfl, rfl, rfl⟩, (mergeStart_spec _ w.rinv).1, mergeStart_frame _, mergeStart_frame s,
    (mergeStart_mout _).2⟩

theorem mergeLoop_sim (cfg : Cfg) {s : St} {d1 : Disk} (w : LJw s d1) {sel : List Nat}
    (hsel : ∀ id, id ∈ sel → id ≤ s.active) (order : List Key) :
    LoopSim s d1 (mergeLoop cfg { s with disk := d1 } sel order) (mergeLoop cfg s sel order) :=
  List.foldl_rel (LoopSim.start w) (fun k _ _ _ h => h.step cfg w hsel k)

structure US (st1 st : St × List Call) : Prop where
  kd : st1.1.keydir = st.1.keydir
  stats : st1.1.stats = st.1.stats
  active : st1.1.active = st.1.active
  written : st1.1.written = st.1.written
  bad : st1.1.bad = st.1.bad
  calls : st1.2 = st.2
  dsome : ∀ id, (AL.get id st1.1.disk.data).isSome = (AL.get id st.1.disk.data).isSome
  hsome : ∀ id, (AL.get id st1.1.disk.hint).isSome = (AL.get id st.1.disk.hint).isSome

theorem unlinkOne_sim {st1 st : St × List Call} (h : US st1 st) (id : Nat) : US (unlinkOne st1 id) (unlinkOne st id) := by
  obtain ⟨s1, c1⟩ := st1
  obtain ⟨s, c⟩ := st
  have hk := h.kd; have hs := h.stats; have ha := h.active; have hw := h.written; have hb := h.bad
  have hc := h.calls; have hd := h.dsome id; have hh := h.hsome id
  simp only at hk hs ha hw hb hc hd hh
  refine ⟨hk, ?_, ha, hw, hb, ?_, ?_, ?_⟩
  · simp only [unlinkOne, hs]
  · simp only [unlinkOne, hc, hd, hh]
  · intro i
    simp only [unlinkOne, AL.get_del]
    by_cases e : i = id
    · simp [e]
    · simp only [e, ↓reduceIte]; exact h.dsome i
  · intro i
    simp only [unlinkOne, AL.get_del]
    by_cases e : i = id
    · simp [e]
    · simp only [e, ↓reduceIte]; exact h.hsome i

theorem LoopSim.isSome {s : St} {d1 : Disk} {m1 m : MergeSt} (w : LJw s d1) (h : LoopSim s d1 m1 m) (id : Nat) :
    (AL.get id m1.s.disk.data).isSome = (AL.get id m.s.disk.data).isSome ∧
    (AL.get id m1.s.disk.hint).isSome = (AL.get id m.s.disk.hint).isSome := by
  rw [h.disk1 w, h.disk w]
  by_cases hle : id ≤ s.active
  · rw [get_data_dapp_le h.newOk hle, get_data_dapp_le h.newOk hle, get_hint_dapp_le h.newOk hle,
      get_hint_dapp_le h.newOk hle]
    exact ⟨(w.sim.data_isSome id).symm, (isSome_of_keys w.sim.hkeys id).symm⟩
  · have hgt : s.active < id := by omega
    rw [get_data_dapp_gt w.below1 hgt, get_data_dapp_gt w.below hgt, get_hint_dapp_gt w.below1 hgt,
      get_hint_dapp_gt w.below hgt]
    exact ⟨rfl, rfl⟩

theorem LoopSim.us {s : St} {d1 : Disk} {m1 m : MergeSt} (w : LJw s d1) (h : LoopSim s d1 m1 m) :
    US (m1.s, m1.calls ++ [Call.fsync ⟨.data, m1.mid⟩, Call.fsync ⟨.hint, m1.mid⟩])
      (m.s, m.calls ++ [Call.fsync ⟨.data, m.mid⟩, Call.fsync ⟨.hint, m.mid⟩]) :=
  ⟨h.ms.kd, h.ms.stats, h.ms.active, h.ms.written, h.ms.bad, by simp only [h.ms.calls, h.ms.mid],
    fun id => (h.isSome w id).1, fun id => (h.isSome w id).2⟩

theorem mergeWith_withDisk (cfg : Cfg) {s : St} {d1 : Disk} (w : LJw s d1) {sel : List Nat}
    (hsel : ∀ id, id ∈ sel → id ≤ s.active) (order : List Key) :
    ({ (mergeWith cfg s sel order).1 with disk := (mergeWith cfg { s with disk := d1 } sel order).1.disk } : St) =
      (mergeWith cfg { s with disk := d1 } sel order).1 := by
  have hl := mergeLoop_sim cfg w hsel order
  have hu : US (sel.foldl unlinkOne _) (sel.foldl unlinkOne _) :=
    List.foldl_rel (hl.us w) (fun id _ _ _ h => unlinkOne_sim h id)
  rw [mergeWith_fst, mergeWith_fst]
  apply St.ext'
  · rfl
  · exact hu.kd.symm
  · exact hu.stats.symm
  · show (mergeLoop cfg s sel order).mid + 1 = (mergeLoop cfg { s with disk := d1 } sel order).mid + 1
    rw [hl.ms.mid]
  · rfl
  · exact hu.bad.symm

end Store
