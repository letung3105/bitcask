/-
  Byte-codec laws for `Store/Codec.lean`: encodings have the modelled sizes, decoding inverts
  encoding, the first bytes of an encoding are "cut short" (`eof`, never an error), and a file
  made of whole entries followed by a truncated one scans to exactly the whole entries.
  Core Lean only.
-/
import BitcaskVerif.Store.CodecBase

namespace Store

/-- the record is encodable: lengths fit in u64, timestamp fits in i64 -/
def Rec.Enc (r : Rec) : Prop :=
  r.key.length < 18446744073709551616 ∧ (∀ v, r.val = some v → v.length < 18446744073709551616) ∧
  -9223372036854775808 ≤ r.ts ∧ r.ts < 9223372036854775808

def Hint.Enc (h : Hint) : Prop :=
  h.key.length < 18446744073709551616 ∧ h.len < 18446744073709551616 ∧ h.pos < 18446744073709551616 ∧
  -9223372036854775808 ≤ h.ts ∧ h.ts < 9223372036854775808

theorem encRec_length (r : Rec) : (encRec r).length = r.len := by
  obtain ⟨ts, key, val⟩ := r
  cases val <;>
    simp only [encRec, Rec.len, List.length_append, List.length_cons, List.length_nil, i64le_length,
      u64le_length] <;> omega

theorem encHint_length (h : Hint) : (encHint h).length = h.size := by
  simp only [encHint, Hint.size, List.length_append, i64le_length, u64le_length]

theorem flatMap_encRec_length (rs : List Rec) : (rs.flatMap encRec).length = fileSize rs := by
  simp only [List.length_flatMap, encRec_length, fileSize]

theorem encRec_pos (r : Rec) : 0 < (encRec r).length := encRec_length r ▸ r.len_pos

theorem encHint_pos (h : Hint) : 0 < (encHint h).length :=
  encHint_length h ▸ Nat.lt_of_lt_of_le (by decide) (Nat.le_add_right 32 _)

/-- the option tag and the value of a data entry with timestamp `ts` and key `k` -/
def decVal (ts : Int) (k : Key) : List UInt8 → Dec Rec
  | [] => .eof
  | 0 :: r4 => .ok { ts := ts, key := k, val := none } r4
  | 1 :: r4 => Dec.take 8 r4 fun vl r5 => Dec.take (leNat vl) r5 fun v r6 =>
      .ok { ts := ts, key := k, val := some v } r6
  | _ :: _ => .bad

theorem decRec_eq_take (bs : List UInt8) : decRec bs =
    Dec.take 8 bs fun t r1 => Dec.take 8 r1 fun kl r2 => Dec.take (leNat kl) r2 fun k r3 =>
      decVal (toI64 (leNat t)) k r3 := by rfl

theorem decHint_eq_take (bs : List UInt8) : decHint bs =
    Dec.take 8 bs fun t r1 => Dec.take 8 r1 fun l r2 => Dec.take 8 r2 fun p r3 => Dec.take 8 r3 fun kl r4 =>
      Dec.take (leNat kl) r4 fun k r5 =>
        .ok { ts := toI64 (leNat t), len := leNat l, pos := leNat p, key := k } r5 := by rfl

theorem decRec_encRec (r : Rec) (hr : r.Enc) (rest : List UInt8) :
    decRec (encRec r ++ rest) = .ok r rest := by
  obtain ⟨ts, key, val⟩ := r
  obtain ⟨hk, hv, ht1, ht2⟩ := hr
  rw [decRec_eq_take, encRec]
  simp only [List.append_assoc]
  rw [Dec.take_append_left (i64le_length ts), Dec.take_append_left (u64le_length _), leNat_u64le _ hk,
    Dec.take_append_left rfl, toI64_leNat_i64le ts ht1 ht2]
  cases val with
  | none => rfl
  | some v =>
    simp only [List.cons_append, List.nil_append, List.append_assoc, decVal]
    rw [Dec.take_append_left (u64le_length _), leNat_u64le _ (hv v rfl), Dec.take_append_left rfl]

theorem decHint_encHint (h : Hint) (hh : h.Enc) (rest : List UInt8) :
    decHint (encHint h ++ rest) = .ok h rest := by
  obtain ⟨ts, len, pos, key⟩ := h
  obtain ⟨hk, hl, hp, ht1, ht2⟩ := hh
  rw [decHint_eq_take, encHint]
  simp only [List.append_assoc]
  rw [Dec.take_append_left (i64le_length ts), Dec.take_append_left (u64le_length _),
    Dec.take_append_left (u64le_length _), Dec.take_append_left (u64le_length _), leNat_u64le _ hk,
    Dec.take_append_left rfl, toI64_leNat_i64le ts ht1 ht2, leNat_u64le _ hl, leNat_u64le _ hp]

theorem decVal_ext (ts : Int) (k : Key) (r3 q : List UInt8) :
    Dec.Ext q (decVal ts k r3) (decVal ts k (r3 ++ q)) := by
  unfold decVal
  split
  · trivial
  · rfl
  · apply Dec.take_ext; intro vl r5
    apply Dec.take_ext; intro v r6
    rfl
  · -- a list whose head byte is neither 0 nor 1 keeps that head after `++ q`
    show _ = Dec.bad
    split <;> simp_all

theorem decRec_ext (p q : List UInt8) : Dec.Ext q (decRec p) (decRec (p ++ q)) := by
  rw [decRec_eq_take, decRec_eq_take]
  apply Dec.take_ext; intro t r1
  apply Dec.take_ext; intro kl r2
  apply Dec.take_ext; intro k r3
  exact decVal_ext _ k r3 q

theorem decHint_ext (p q : List UInt8) : Dec.Ext q (decHint p) (decHint (p ++ q)) := by
  rw [decHint_eq_take, decHint_eq_take]
  apply Dec.take_ext; intro t r1
  apply Dec.take_ext; intro l r2
  apply Dec.take_ext; intro ps r3
  apply Dec.take_ext; intro kl r4
  apply Dec.take_ext; intro k r5
  rfl

/-- the first `n` bytes of an entry that has more are "cut short": eof, never an error -/
theorem encRec_take (r : Rec) (hr : r.Enc) {n : Nat} (hn : n < r.len) :
    ((encRec r).take n).length = n ∧ decRec ((encRec r).take n) = .eof :=
  Dec.eof_of_take decRec_ext (List.append_nil (encRec r) ▸ decRec_encRec r hr []) (encRec_length r ▸ hn)

theorem encHint_take (h : Hint) (hh : h.Enc) {n : Nat} (hn : n < h.size) :
    ((encHint h).take n).length = n ∧ decHint ((encHint h).take n) = .eof :=
  Dec.eof_of_take decHint_ext (List.append_nil (encHint h) ▸ decHint_encHint h hh []) (encHint_length h ▸ hn)

/-- whole entries followed by bytes the decoder reports as cut short (nothing, or a truncated
    entry: `encRec_take`) scan to exactly the whole entries.  The fuel `ByteDisk.toDisk` supplies
    (file length + 1) is enough: no entry is empty. -/
theorem scanRecs_file (rs : List Rec) (hrs : ∀ r ∈ rs, r.Enc) {p : List UInt8} (hp : decRec p = .eof) :
    scanRecs ((rs.flatMap encRec ++ p).length + 1) (rs.flatMap encRec ++ p) = some rs := by
  apply scan_flatMap (scan := scanRecs) (dec := decRec) (fun _ bs => by rw [scanRecs]; cases decRec bs <;> rfl) decRec_encRec rs hrs hp
  rw [List.length_append]
  exact Nat.lt_succ_of_le (Nat.le_trans (length_le_flatMap encRec_pos rs) (Nat.le_add_right _ _))

theorem scanHintsBytes_file (hs : List Hint) (hhs : ∀ h ∈ hs, h.Enc) {p : List UInt8}
    (hp : decHint p = .eof) :
    scanHintsBytes ((hs.flatMap encHint ++ p).length + 1) (hs.flatMap encHint ++ p) = some hs := by
  apply scan_flatMap (scan := scanHintsBytes) (dec := decHint) (fun _ bs => by rw [scanHintsBytes]; cases decHint bs <;> rfl) decHint_encHint hs hhs hp
  rw [List.length_append]
  exact Nat.lt_succ_of_le (Nat.le_trans (length_le_flatMap encHint_pos hs) (Nat.le_add_right _ _))

theorem toDisk_single (id : Nat) (rs : List Rec) (hrs : ∀ r ∈ rs, r.Enc) {p : List UInt8}
    (hp : decRec p = .eof) (hpos : 0 < p.length) :
    ByteDisk.toDisk { data := [(id, rs.flatMap encRec ++ p)], hint := [] } =
      some { data := [(id, rs)], hint := [], tails := [(id, p.length)] } := by
  have hlen : (rs.flatMap encRec ++ p).length = fileSize rs + p.length := by
    rw [List.length_append, flatMap_encRec_length]
  simp only [ByteDisk.toDisk, List.mapM_cons, List.mapM_nil, scanRecs_file rs hrs hp]
  simp [hlen, hpos]

/-- decidable views of a decoding result (`Dec` has no `DecidableEq`) -/
def Dec.toOption {α : Type} : Dec α → Option (α × List UInt8)
  | .ok a rest => some (a, rest)
  | _ => none
def Dec.isEof {α : Type} : Dec α → Bool
  | .eof => true
  | _ => false
def Dec.isBad {α : Type} : Dec α → Bool
  | .bad => true
  | _ => false

example : (⟨5, [1,2], some [3]⟩ : Rec).Enc := by simp [Rec.Enc]
example : (⟨-1, 28, 0, [7]⟩ : Hint).Enc := by simp [Hint.Enc]

example : encRec ⟨5, [1,2], some [3]⟩ = [5,0,0,0,0,0,0,0, 2,0,0,0,0,0,0,0, 1,2, 1, 1,0,0,0,0,0,0,0, 3] := by decide +kernel
example : encRec ⟨-2, [7], none⟩ = [254,255,255,255,255,255,255,255, 1,0,0,0,0,0,0,0, 7, 0] := by decide +kernel
example : encHint ⟨-1, 28, 258, [7]⟩ =
    [255,255,255,255,255,255,255,255, 28,0,0,0,0,0,0,0, 2,1,0,0,0,0,0,0, 1,0,0,0,0,0,0,0, 7] := by decide +kernel

example : (decRec (encRec ⟨5, [1,2], some [3]⟩ ++ [9])).toOption = some (⟨5, [1,2], some [3]⟩, [9]) := by decide +kernel
example : (decRec (encRec ⟨-2, [7], none⟩ ++ [9, 9])).toOption = some (⟨-2, [7], none⟩, [9, 9]) := by decide +kernel
example : (decHint (encHint ⟨-1, 28, 258, [7]⟩ ++ [4])).toOption = some (⟨-1, 28, 258, [7]⟩, [4]) := by decide +kernel
/-- cut short anywhere: eof -/
example : ∀ m, m < 28 → (decRec ((encRec ⟨5, [1,2], some [3]⟩).take m)).isEof = true := by decide +kernel
/-- a malformed option tag is an error -/
example : (decRec [5,0,0,0,0,0,0,0, 1,0,0,0,0,0,0,0, 7, 2]).isBad = true := by decide +kernel
example : scanRecs 100 (encRec ⟨5, [1,2], some [3]⟩ ++ encRec ⟨-2, [7], none⟩ ++ [1, 2, 3]) =
    some [⟨5, [1,2], some [3]⟩, ⟨-2, [7], none⟩] := by decide +kernel

end Store
