/-
  Lives after a crash inside a merge: calls that only touch NEW files.

  The copy phase of a merge pass creates and appends to files with ids above the active id `A`
  only.  Applied to a directory all of whose files have ids `≤ A`, such calls leave the old files
  untouched and build the new files independently of the old ones:
    `applyCalls d cs = dapp d (applyCalls ⟨[], [], d.tails⟩ cs)`   (`applyCalls_out`).
  So the real directory and its visible part — which differ in old files only — get the SAME new
  files.
-/
import BitcaskVerif.Store.LivesWrite

namespace AL

theorem get_append_left {β : Type} {k : Nat} {l : List (Nat × β)} (n : List (Nat × β)) (h : k ∈ AL.keys l) :
    AL.get k (l ++ n) = AL.get k l := by
  induction l with
  | nil => simp [AL.keys] at h
  | cons x xs ih =>
    obtain ⟨k', v'⟩ := x
    by_cases e : k' = k
    · simp [AL.get, e]
    · simp only [AL.keys, List.map_cons, List.mem_cons] at h
      have hk : k ∈ AL.keys xs := by
        rcases h with h | h
        · exact absurd h.symm e
        · exact h
      simp only [List.cons_append, AL.get, e, ↓reduceIte]
      exact ih hk

theorem get_append_right {β : Type} {k : Nat} {l : List (Nat × β)} (n : List (Nat × β)) (h : k ∉ AL.keys l) :
    AL.get k (l ++ n) = AL.get k n := by
  induction l with
  | nil => rfl
  | cons x xs ih =>
    obtain ⟨k', v'⟩ := x
    simp only [AL.keys, List.map_cons, List.mem_cons, not_or] at h
    have e : ¬ k' = k := fun e => h.1 e.symm
    simp only [List.cons_append, AL.get, e, ↓reduceIte]
    exact ih h.2

theorem set_append_right {β : Type} {k : Nat} (v : β) {l : List (Nat × β)} (n : List (Nat × β))
    (h : k ∉ AL.keys l) : AL.set k v (l ++ n) = l ++ AL.set k v n := by
  induction l with
  | nil => rfl
  | cons x xs ih =>
    obtain ⟨k', v'⟩ := x
    simp only [AL.keys, List.map_cons, List.mem_cons, not_or] at h
    have e : ¬ k' = k := fun e => h.1 e.symm
    simp only [List.cons_append, AL.set, e, ↓reduceIte, List.cons.injEq, true_and]
    exact ih h.2

theorem get_append_le {β : Type} {l n : List (Nat × β)} {A fid : Nat} (hn : ∀ id ∈ AL.keys n, A < id)
    (h : fid ≤ A) : AL.get fid (l ++ n) = AL.get fid l := by
  by_cases hm : fid ∈ AL.keys l
  · exact AL.get_append_left _ hm
  · rw [AL.get_append_right _ hm, AL.get_eq_none_iff.mpr hm]
    exact AL.get_eq_none_iff.mpr fun hc => by have := hn fid hc; omega

end AL

namespace Store

/-- `d` followed by the new files `n` (whose tails are the tails of the whole directory) -/
def dapp (d n : Disk) : Disk := { data := d.data ++ n.data, hint := d.hint ++ n.hint, tails := n.tails }

structure Below (A : Nat) (d : Disk) : Prop where
  ids : ∀ id ∈ AL.keys d.data, id ≤ A
  hids : ∀ id ∈ AL.keys d.hint, id ≤ A

theorem keys_data_dapp (d n : Disk) : AL.keys (dapp d n).data = AL.keys d.data ++ AL.keys n.data :=
  keys_append _ _

theorem keys_hint_dapp (d n : Disk) : AL.keys (dapp d n).hint = AL.keys d.hint ++ AL.keys n.hint :=
  keys_append _ _

theorem allEvs_dapp (d n : Disk) : allEvs (dapp d n).data = allEvs d.data ++ allEvs n.data :=
  allEvs_append _ _

theorem dapp_nil (d : Disk) : dapp d ⟨[], [], d.tails⟩ = d := by
  cases d; simp [dapp]

theorem applyCall_dapp {A : Nat} {d : Disk} (hb : Below A d) (n : Disk) {c : Call} (hc : OutCall A c) :
    applyCall (dapp d n) c = dapp d (applyCall n c) := by
  obtain ⟨hlt, hnu⟩ := hc
  have h1 : callId c ∉ AL.keys d.data := fun hm => by have := hb.ids _ hm; omega
  have h2 : callId c ∉ AL.keys d.hint := fun hm => by have := hb.hids _ hm; omega
  cases c with
  | create f =>
    obtain ⟨kd, id⟩ := f
    simp only [callId] at h1 h2
    cases kd
    · simp only [applyCall, dapp, AL.set_append_right _ _ h1]
    · simp only [applyCall, dapp, AL.set_append_right _ _ h2]
  | append f p =>
    obtain ⟨kd, id⟩ := f
    simp only [callId] at h1 h2
    cases kd <;> cases p
    · simp only [applyCall, dapp, dataOf, AL.set_append_right _ _ h1, AL.get_append_right _ h1]
    · rfl
    · rfl
    · rfl
    · simp only [applyCall, dapp, AL.set_append_right _ _ h2, AL.get_append_right _ h2]
    · rfl
  | fsync f => rfl
  | unlink f => exact absurd rfl (hnu f)

theorem applyCalls_dapp {A : Nat} {d : Disk} (hb : Below A d) (cs : List Call) (n : Disk)
    (h : ∀ c ∈ cs, OutCall A c) : applyCalls (dapp d n) cs = dapp d (applyCalls n cs) :=
  List.foldl_rel (r := fun x y => x = dapp d y) rfl (fun c hc _ y e => by rw [e, applyCall_dapp hb y (h c hc)])

def newFiles (T : List (Nat × Nat)) (cs : List Call) : Disk := applyCalls ⟨[], [], T⟩ cs

theorem applyCalls_out {A : Nat} {d : Disk} (hb : Below A d) {cs : List Call} (h : ∀ c ∈ cs, OutCall A c) :
    applyCalls d cs = dapp d (newFiles d.tails cs) := by
  have := applyCalls_dapp hb cs ⟨[], [], d.tails⟩ h
  rw [dapp_nil] at this
  exact this

structure NewOk (A : Nat) (T : List (Nat × Nat)) (n : Disk) : Prop where
  ids : ∀ id ∈ AL.keys n.data, A < id
  hids : ∀ id ∈ AL.keys n.hint, A < id
  tails : ∀ id, id ≤ A → AL.get id n.tails = AL.get id T

theorem newOk_step {A : Nat} {T : List (Nat × Nat)} {n : Disk} (h : NewOk A T n) {c : Call} (hc : OutCall A c) :
    NewOk A T (applyCall n c) := by
  obtain ⟨hlt, hnu⟩ := hc
  have key : ∀ {β : Type} (v : β) {l : List (Nat × β)}, (∀ i ∈ AL.keys l, A < i) →
      ∀ i ∈ AL.keys (AL.set (callId c) v l), A < i := by
    intro β v l hl i hi
    rcases AL.mem_keys_set.mp hi with e | e
    · exact e ▸ hlt
    · exact hl i e
  cases c with
  | create f =>
    obtain ⟨kd, id⟩ := f
    cases kd
    · exact ⟨key _ h.ids, h.hids, h.tails⟩
    · exact ⟨h.ids, key _ h.hids, h.tails⟩
  | append f p =>
    obtain ⟨kd, id⟩ := f
    cases kd <;> cases p
    · exact ⟨key _ h.ids, h.hids, h.tails⟩
    · exact h
    · exact ⟨h.ids, h.hids, fun i hi =>
        (AL.get_set_other (Nat.ne_of_lt (Nat.lt_of_le_of_lt hi hlt)) _ _).trans (h.tails i hi)⟩
    · exact h
    · exact ⟨h.ids, key _ h.hids, h.tails⟩
    · exact h
  | fsync f => exact h
  | unlink f => exact absurd rfl (hnu f)

theorem newOk_newFiles {A : Nat} (T : List (Nat × Nat)) {cs : List Call} (h : ∀ c ∈ cs, OutCall A c) :
    NewOk A T (newFiles T cs) :=
  List.foldlRecOn cs _ ⟨by simp [AL.keys], by simp [AL.keys], fun _ _ => rfl⟩
    (fun _ hn c hc => newOk_step hn (h c hc))

section
variable {A : Nat} {T : List (Nat × Nat)} {d n : Disk}

theorem get_data_dapp_le (hn : NewOk A T n) {fid : Nat} (h : fid ≤ A) :
    AL.get fid (dapp d n).data = AL.get fid d.data :=
  AL.get_append_le hn.ids h

theorem get_data_dapp_gt (hb : Below A d) {fid : Nat} (h : A < fid) :
    AL.get fid (dapp d n).data = AL.get fid n.data :=
  AL.get_append_right _ (fun hm => by have := hb.ids fid hm; omega)

theorem get_hint_dapp_le (hn : NewOk A T n) {fid : Nat} (h : fid ≤ A) :
    AL.get fid (dapp d n).hint = AL.get fid d.hint :=
  AL.get_append_le hn.hids h

theorem get_hint_dapp_gt (hb : Below A d) {fid : Nat} (h : A < fid) :
    AL.get fid (dapp d n).hint = AL.get fid n.hint :=
  AL.get_append_right _ (fun hm => by have := hb.hids fid hm; omega)

theorem dataOf_dapp_le (hn : NewOk A T n) {fid : Nat} (h : fid ≤ A) : dataOf (dapp d n) fid = dataOf d fid := by
  simp only [dataOf, get_data_dapp_le hn h]

theorem dataOf_dapp_gt (hb : Below A d) {fid : Nat} (h : A < fid) : dataOf (dapp d n) fid = dataOf n fid := by
  simp only [dataOf, get_data_dapp_gt hb h]

end

theorem asc_dapp {A : Nat} {T : List (Nat × Nat)} {d n : Disk} (hb : Below A d) (hn : NewOk A T n)
    (ha : Asc d.data) (han : Asc n.data) : Asc (dapp d n).data := by
  unfold Asc
  rw [keys_data_dapp, List.pairwise_append]
  refine ⟨ha, han, fun a ha b hb' => ?_⟩
  have := hb.ids a ha
  have := hn.ids b hb'
  omega

theorem hintsExact_dapp {A : Nat} {T : List (Nat × Nat)} {d n : Disk} (hb : Below A d) (hn : NewOk A T n)
    (hx : HintsExact d) (hxn : HintsExact n) : HintsExact (dapp d n) := by
  intro fid hs hg
  by_cases hf : fid ≤ A
  · rw [get_hint_dapp_le hn hf] at hg
    rw [dataOf_dapp_le hn hf]
    exact hx fid hs hg
  · have hf' : A < fid := by omega
    rw [get_hint_dapp_gt hb hf'] at hg
    rw [dataOf_dapp_gt hb hf']
    exact hxn fid hs hg

theorem asc_of_dapp {d n : Disk} (h : Asc (dapp d n).data) : Asc n.data := by
  unfold Asc at h
  rw [keys_data_dapp, List.pairwise_append] at h
  exact h.2.1

theorem Sim.dapp2 {A : Nat} {d1 d n1 n : Disk} (h : Sim d1 d) (hb : Below A d) (hb1 : Below A d1)
    (hn : NewOk A d.tails n) (hk : AL.keys n.data = AL.keys n1.data)
    (hhk : AL.keys n.hint = AL.keys n1.hint) (ht : n1.tails = n.tails)
    (hfile : ∀ fid, A < fid → FileSim n1 n fid) : Sim (Store.dapp d1 n1) (Store.dapp d n) := by
  have hn1 : NewOk A d.tails n1 := ⟨hk ▸ hn.ids, hhk ▸ hn.hids, ht ▸ hn.tails⟩
  refine ⟨?_, ?_, ht, ?_⟩
  · rw [keys_data_dapp, keys_data_dapp, h.keys, hk]
  · rw [keys_hint_dapp, keys_hint_dapp, h.hkeys, hhk]
  · intro fid
    by_cases hf : fid ≤ A
    · exact (h.file fid).congr (dataOf_dapp_le hn1 hf) (dataOf_dapp_le hn hf) (get_hint_dapp_le hn1 hf)
        (get_hint_dapp_le hn hf) (hn.tails fid hf)
    · have hf' : A < fid := by omega
      exact (hfile fid hf').congr (dataOf_dapp_gt hb1 hf') (dataOf_dapp_gt hb hf') (get_hint_dapp_gt hb1 hf')
        (get_hint_dapp_gt hb hf') rfl

theorem Sim.dapp {A : Nat} {d1 d n : Disk} (h : Sim d1 d) (hb : Below A d) (hb1 : Below A d1)
    (hn : NewOk A d.tails n) (hfile : ∀ fid, A < fid → FileSim n n fid) : Sim (dapp d1 n) (dapp d n) :=
  h.dapp2 hb hb1 hn rfl rfl rfl hfile

end Store
