/-
  C13 helper lemmas: selecting every non-empty file; the live pairs and their size; the
  size of a store after `put`.
-/
import BitcaskVerif.Store.SizeLemmas

namespace Store

def SelectsAll (s : St) (sel : List Nat) : Prop :=
  ∀ f, f ∈ AL.keys s.disk.data → dataOf s.disk f ≠ [] → f ∈ sel

instance (s : St) (sel : List Nat) : Decidable (SelectsAll s sel) :=
  inferInstanceAs (Decidable (∀ f, f ∈ AL.keys s.disk.data → dataOf s.disk f ≠ [] → f ∈ sel))

def livePairs (s : St) : List (Key × Val) :=
  s.keydir.filterMap fun x => match s.abs x.1 with
    | some v => some (x.1, v)
    | none => none

def putAll (cfg : Cfg) (s : St) (kvs : List (Key × Val)) : St :=
  kvs.foldl (fun s kv => (put cfg s 0 kv.1 kv.2).1) s

namespace Stats

theorem sizeOut_zero_of_all {s : St} {sel : List Nat} (hnd : (AL.keys s.disk.data).Nodup) (hall : SelectsAll s sel) :
    sizeOut sel s.disk.data = 0 := by
  apply ksum_zero
  intro f rs hm
  by_cases e : f ∈ sel
  · simp [e]
  · simp only [e, ↓reduceIte]
    have hd : dataOf s.disk f = rs := by simp [dataOf, get_of_mem hnd hm]
    cases rs with
    | nil => rfl
    | cons r rs' => exact absurd (hall f (mem_keys_of_mem hm) (by rw [hd]; simp)) e

theorem liveIn_all {s : St} {sel : List Nat} (hi : Inv s) (h : AccInv s) (hall : SelectsAll s sel) :
    liveIn sel s.keydir = liveSize s := by
  apply liveIn_eq_liveSize
  intro k l hm
  obtain ⟨r, h1, _⟩ := hi.locs k l (get_of_mem h.kdNodup hm)
  have hne : dataOf s.disk l.fid ≠ [] := fun hn => by rw [hn] at h1; cases h1
  exact hall l.fid (mem_keys_of_dataOf_ne_nil hne) hne

theorem pairs_sum (abs : Map) (l : List (Key × Loc))
    (h : ∀ k loc, (k, loc) ∈ l → ∃ v, abs k = some v ∧ pairSize k v = loc.len) :
    ((l.filterMap fun x => match abs x.1 with
        | some v => some (x.1, v)
        | none => none).map fun (k, v) => pairSize k v).sum = (l.map fun (_, loc) => loc.len).sum := by
  induction l with
  | nil => rfl
  | cons x xs ih =>
    obtain ⟨k, loc⟩ := x
    obtain ⟨v, hv, hp⟩ := h k loc List.mem_cons_self
    have ih' := ih (fun k' loc' hm => h k' loc' (List.mem_cons_of_mem _ hm))
    simp only [List.filterMap_cons, hv, List.map_cons, List.sum_cons, ih', hp]

theorem liveSize_eq_pairs {s : St} (hi : Inv s) (h : AccInv s) :
    liveSize s = ((livePairs s).map fun (k, v) => pairSize k v).sum := by
  unfold livePairs liveSize
  rw [pairs_sum]
  intro k loc hm
  have hk := get_of_mem h.kdNodup hm
  obtain ⟨r, h1, h2, h3, h4, h5⟩ := hi.locs k loc hk
  have ha := abs_of_locOk hk h1 h4 h5
  cases hv : r.val with
  | none => rw [hv] at h3; cases h3
  | some v =>
    refine ⟨v, by rw [ha, hv], ?_⟩
    rw [← h4]
    simp only [pairSize, Rec.len, hv, h2]
    omega

theorem put_size (cfg : Cfg) (s : St) (ts : Int) (k : Key) (v : Val) (hi : Inv s) :
    storeSize (put cfg s ts k v).1.disk = storeSize s.disk + pairSize k v := by
  have hlen : (⟨ts, k, some v⟩ : Rec).len = pairSize k v := by simp only [Rec.len, pairSize]; omega
  rw [put_disk, write_disk, ← hlen, ← sizeOut_nil, ← sizeOut_nil,
    ← sizeOut_snoc [] s.disk s.active ⟨ts, k, some v⟩ List.not_mem_nil]
  by_cases hroll : s.written + (⟨ts, k, some v⟩ : Rec).len > cfg.maxFile
  · rw [if_pos hroll]
    exact sizeOut_create [] { s.disk with data := _ } (s.active + 1) (next_fresh_set hi _)
  · rw [if_neg hroll]

theorem putAll_inv (cfg : Cfg) (kvs : List (Key × Val)) : ∀ s, Inv s → Inv (putAll cfg s kvs) :=
  fun _ h => List.foldlRecOn kvs _ h fun s hs kv _ => put_inv cfg s 0 kv.1 kv.2 hs

theorem putAll_size (cfg : Cfg) (kvs : List (Key × Val)) : ∀ s, Inv s →
    storeSize (putAll cfg s kvs).disk = storeSize s.disk + (kvs.map fun (k, v) => pairSize k v).sum := by
  induction kvs with
  | nil => intro s _; simp [putAll]
  | cons kv kvs ih =>
    intro s h
    obtain ⟨k, v⟩ := kv
    have := ih _ (put_inv cfg s 0 k v h)
    simp only [putAll, List.foldl_cons, List.map_cons, List.sum_cons] at this ⊢
    rw [this, put_size cfg s 0 k v h]
    omega

theorem mem_selectFiles {cfg : Cfg} {s : St} {id : Nat} :
    id ∈ selectFiles cfg s ↔ ∃ st, (id, st) ∈ s.stats ∧
      (st.deadBytes > cfg.deadBytes || fragGt st cfg.fragNum cfg.fragDen ||
        fileSize (dataOf s.disk id) + (AL.get id s.disk.tails).getD 0 < cfg.smallFile) = true := by
  unfold selectFiles
  simp only [List.mem_mergeSort, List.mem_map, List.mem_filter]
  constructor
  · rintro ⟨⟨f, st⟩, ⟨hm, hp⟩, rfl⟩
    exact ⟨st, hm, hp⟩
  · rintro ⟨st, hm, hp⟩
    exact ⟨(id, st), ⟨hm, hp⟩, rfl⟩

theorem selectFiles_valid (cfg : Cfg) {s : St} (hi : Inv s) (h : AccInv s) :
    ∀ id, id ∈ selectFiles cfg s → id ≤ s.active := by
  intro id hid
  obtain ⟨st, hm, _⟩ := mem_selectFiles.mp hid
  obtain ⟨v, hv⟩ := AL.get_of_mem_keys (mem_keys_of_mem hm)
  exact hi.ids _ (mem_keys_of_dataOf_ne_nil fun hn => by rw [(h.file id).dom.mpr hn] at hv; cases hv)

theorem selectFiles_all (cfg : Cfg) {s : St} (h : AccInv s) (ht : s.disk.tails = [])
    (hsmall : ∀ f, f ∈ AL.keys s.disk.data → fileSize (dataOf s.disk f) < cfg.smallFile) :
    SelectsAll s (selectFiles cfg s) := by
  intro f hf hne
  apply mem_selectFiles.mpr
  cases hg : AL.get f s.stats with
  | none => exact absurd ((h.file f).dom.mp hg) hne
  | some st =>
    refine ⟨st, mem_of_get hg, ?_⟩
    have := hsmall f hf
    simp [ht, this]

end Stats
end Store
