/-
  Lives that continue after a crash inside a merge (C03 / C09): definitions.

  After a kill (or a power failure) inside a merge pass the directory may contain a *stale merge
  output*: a data file with a hint file that
    * does not list the last record(s) of the data file (kill between the data append and the
      hint append; after power loss also because the hint file lost more than the data file), or
    * lists records the data file does not hold (power loss: the data file lost more than the
      hint file; the scan stops at the first entry that does not fit, defect D5).
  The startup scan PREFERS the hint file: of such a file it sees exactly the entries it accepts
  (`accOf`), the records behind them are invisible ("junk").

  `Sim d1 d`: `d1` is the directory `d` with every stale output cut back to what the scan sees of
  it (accepted hint entries, and exactly the records they describe).  If `d1` has exact hint
  files, the scans of `d` and `d1` coincide (`Sim.rebuild`).

  `JunkOK d1 d kd`: what is known about the invisible records.  They are value records, and each
  of them is a copy of the record the index entry of its key addresses, as long as that entry
  lies before it (file id, then position).  This is what makes them harmless when they become
  visible (a later merge removes the hint file of the stale output and is killed before it
  removes the data file).

  `LJw s d1` / `LJ s`: the invariant of the store over any number of lives.
-/
import BitcaskVerif.Store.PowerImage

namespace Store

theorem St.ext' {a b : St} (h1 : a.disk = b.disk) (h2 : a.keydir = b.keydir) (h3 : a.stats = b.stats)
    (h4 : a.active = b.active) (h5 : a.written = b.written) (h6 : a.bad = b.bad) : a = b := by
  cases a; cases b; simp_all

/-- the length of data file `fid` as the scan sees it (`fs::metadata().len()`) -/
def dlen (d : Disk) (fid : Nat) : Nat := fileSize (dataOf d fid) + (AL.get fid d.tails).getD 0

def accLen (n : Nat) (hs : List Hint) : List Hint := hs.takeWhile fun h => h.pos + h.len ≤ n

def accOf (d : Disk) (fid : Nat) (hs : List Hint) : List Hint := accLen (dlen d fid) hs

theorem fileScan_acc {d : Disk} {fid : Nat} {hs : List Hint} (hg : AL.get fid d.hint = some hs) (ix : Idx) :
    fileScan d ix fid = (accOf d fid hs).foldl (hintStep fid) ix :=
  fileScan_takeWhile hg ix

theorem accLen_all {n : Nat} {hs : List Hint} (h : ∀ x ∈ hs, x.pos + x.len ≤ n) : accLen n hs = hs := by
  unfold accLen
  apply takeWhile_all
  intro x hx
  simp only [decide_eq_true_eq]
  exact h x hx

structure FileSim (d1 d : Disk) (fid : Nat) : Prop where
  pre : dataOf d1 fid <+: dataOf d fid
  /-- a file without hint file is scanned record by record: nothing is invisible -/
  unh : AL.get fid d.hint = none → dataOf d fid = dataOf d1 fid
  acc : ∀ hs, AL.get fid d.hint = some hs → AL.get fid d1.hint = some (accOf d fid hs)

structure Sim (d1 d : Disk) : Prop where
  keys : AL.keys d.data = AL.keys d1.data
  hkeys : AL.keys d.hint = AL.keys d1.hint
  tl : d1.tails = d.tails
  file : ∀ fid, FileSim d1 d fid

theorem Sim.pre {d1 d : Disk} (h : Sim d1 d) (fid : Nat) : dataOf d1 fid <+: dataOf d fid := (h.file fid).pre

theorem Sim.hint_none {d1 d : Disk} (h : Sim d1 d) {fid : Nat} :
    AL.get fid d.hint = none ↔ AL.get fid d1.hint = none := by
  rw [AL.get_eq_none_iff, AL.get_eq_none_iff, h.hkeys]

theorem Sim.data_isSome {d1 d : Disk} (h : Sim d1 d) (fid : Nat) :
    (AL.get fid d.data).isSome = (AL.get fid d1.data).isSome := isSome_of_keys h.keys fid

theorem Sim.keeps {d1 d : Disk} (h : Sim d1 d) (b : Nat) : Keeps b d1 d := keeps_of_prefix h.pre b

theorem FileSim.unhinted {d1 d : Disk} {fid : Nat} (hh : AL.get fid d.hint = none)
    (e : dataOf d fid = dataOf d1 fid) : FileSim d1 d fid :=
  ⟨e ▸ List.prefix_refl _, fun _ => e, fun _ hg => by rw [hh] at hg; cases hg⟩

theorem FileSim.of_fit {d1 d : Disk} {fid : Nat} (pre : dataOf d1 fid <+: dataOf d fid)
    (unh : AL.get fid d.hint = none → dataOf d fid = dataOf d1 fid)
    (hh : AL.get fid d.hint = AL.get fid d1.hint)
    (fit : ∀ hs, AL.get fid d.hint = some hs → ∀ x ∈ hs, x.pos + x.len ≤ dlen d fid) : FileSim d1 d fid :=
  ⟨pre, unh, fun hs hg => by rw [← hh, hg, accOf, accLen_all (fit hs hg)]⟩

theorem fileSim_refl {d : Disk} {fid : Nat}
    (hfit : ∀ hs, AL.get fid d.hint = some hs → ∀ x ∈ hs, x.pos + x.len ≤ dlen d fid) : FileSim d d fid :=
  .of_fit (List.prefix_refl _) (fun _ => rfl) rfl hfit

theorem HintsExact.fit' {d : Disk} (h : HintsExact d) {fid : Nat} {hs : List Hint}
    (hg : AL.get fid d.hint = some hs) : ∀ x ∈ hs, x.pos + x.len ≤ dlen d fid :=
  fun x hx => Nat.le_trans (h.fit hg x hx) (Nat.le_add_right _ _)

theorem Sim.refl {d : Disk} (h : HintsExact d) : Sim d d :=
  ⟨rfl, rfl, rfl, fun _ => fileSim_refl (fun _ hg => h.fit' hg)⟩

theorem Sim.fileScan {d1 d : Disk} (h : Sim d1 d) (hx : HintsExact d1) (ix : Idx) (fid : Nat) :
    fileScan d ix fid = fileScan d1 ix fid := by
  cases hg : AL.get fid d.hint with
  | none =>
    unfold Store.fileScan
    rw [hg, h.hint_none.mp hg, (h.file fid).unh hg]
  | some hs =>
    have hg1 := (h.file fid).acc hs hg
    rw [fileScan_acc hg, fileScan_acc hg1]
    exact congrArg _ (accLen_all (hx.fit' hg1)).symm

theorem Sim.rebuild {d1 d : Disk} (h : Sim d1 d) (hx : HintsExact d1) : rebuild d = rebuild d1 :=
  rebuild_congr h.keys (fun fid _ ix => h.fileScan hx ix fid)

def lexlt (loc : Loc) (fid p : Nat) : Prop := loc.fid < fid ∨ (loc.fid = fid ∧ loc.pos < p)

def JunkOK (d1 d : Disk) (f : IdxF) : Prop :=
  ∀ fid p j, recAt (dataOf d fid) p = some j → fileSize (dataOf d1 fid) ≤ p →
    j.val.isSome ∧ ∀ loc, f j.key = some loc → lexlt loc fid p → recAt (dataOf d loc.fid) loc.pos = some j

theorem lexlt.mono {loc : Loc} {f q fid p : Nat} (h : lexlt loc f q) (h' : f < fid ∨ (f = fid ∧ q ≤ p)) :
    lexlt loc fid p := by
  rcases h' with h' | ⟨rfl, hq⟩
  · exact .inl (h.elim (Nat.lt_trans · h') fun e => e.1 ▸ h')
  · exact h.imp_right fun e => ⟨e.1, Nat.lt_of_lt_of_le e.2 hq⟩

theorem junkOK_refl (d : Disk) (f : IdxF) : JunkOK d d f := by
  intro fid p j h1 h2
  have := recAt_lt h1
  omega

/-- nothing absent from the index `f` is recovered by a scan of ALL records of `d` (visible or
    not) -/
def FullAll (d : Disk) (f : IdxF) : Prop := ∀ k, f k = none → replay (allEvs d.data) k = none

theorem full_iff_fullAll (s : St) : Full s ↔ FullAll s.disk (kdF s.keydir) := Iff.rfl

structure LJw (s : St) (d1 : Disk) : Prop where
  rinv : RInv { s with disk := d1 }
  full1 : Full { s with disk := d1 }
  sim : Sim d1 s.disk
  junk : JunkOK d1 s.disk (kdF s.keydir)
  /-- nothing absent is resurrectable even if every invisible record became visible -/
  fullA : Full s

def LJ (s : St) : Prop := ∃ d1, LJw s d1

theorem LJw.inv {s : St} {d1 : Disk} (h : LJw s d1) : Inv s := by
  have hi := h.rinv.inv
  constructor
  · intro k loc hk
    have hl : LocOk d1 k loc := hi.locs k loc hk
    exact hl.keeps (Nat.le_refl _) (h.sim.keeps _)
  · intro id hid
    rw [h.sim.keys] at hid
    exact hi.ids id hid
  · intro id hid
    rw [h.sim.hkeys] at hid
    exact hi.hids id hid
  · rw [h.sim.data_isSome]; exact hi.act

theorem LJw.asc {s : St} {d1 : Disk} (h : LJw s d1) : Asc s.disk.data := by
  unfold Asc; rw [h.sim.keys]; exact h.rinv.asc

theorem LJ.inv {s : St} (h : LJ s) : Inv s := let ⟨_, w⟩ := h; w.inv

theorem LJw.abs {s : St} {d1 : Disk} (h : LJw s d1) : ({ s with disk := d1 } : St).abs = s.abs := by
  funext k
  symm
  apply abs_keeps (b := s.active)
  · intro loc hl
    have := h.rinv.inv.locs k loc hl
    exact ⟨this, LocOk.fid_le h.rinv.inv this⟩
  · rfl
  · exact h.sim.keeps _

theorem LJw.of_rinv {s : St} (h : RInv s) (hf : Full s) : LJw s s.disk :=
  ⟨h, hf, Sim.refl h.hx, junkOK_refl _ _, hf⟩

theorem lj_fresh : LJ fresh := ⟨_, LJw.of_rinv fresh_rinv.1 fresh_rinv.2⟩

end Store
