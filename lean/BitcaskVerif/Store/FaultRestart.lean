/-
  Restart after a failed write (C20): the index the startup scan rebuilds from the directory a
  fault leaves behind is exactly the index it rebuilds after the *successful* operation (faults
  `appendSmall`, `fsync`, `create`: the entry is complete in the old active file) or exactly the
  index it rebuilds without the operation (`appendLarge`: only an unparsable tail was added).
-/
import BitcaskVerif.Store.FaultModel
import BitcaskVerif.Store.Rescan

namespace Store.Tr

theorem writeF_idinv (s : St) (r : Rec) (f : Fault) (h : IdInv s) : IdInv (writeF s r f) := by
  have t := writeF_top s r f h.top
  have hs : ∀ id, id ∈ AL.keys s.disk.hint → id ∈ AL.keys (appendDisk s r).data := hsub_setData h.hsub _ _
  cases f with
  | appendSmall =>
    exact ⟨t.le, hsub_setData hs _ _, t.ex,
      fun id hid => Nat.lt_succ_of_lt (h.tails id hid), fun id hid => Nat.lt_succ_of_lt (h.hlt id hid)⟩
  | appendLarge hdr =>
    refine ⟨t.le, hsub_setData h.hsub _ _, t.ex, ?_,
      fun id hid => Nat.lt_succ_of_lt (h.hlt id hid)⟩
    intro id hid
    rcases AL.mem_keys_set.mp hid with e | e
    · rw [e]; exact Nat.lt_succ_self _
    · exact Nat.lt_succ_of_lt (h.tails id e)
  | fsync => exact ⟨t.le, hs, t.ex, h.tails, h.hlt⟩
  | create => exact ⟨t.le, hs, t.ex, h.tails, h.hlt⟩

/-- the index a restart rebuilds when record `r` is complete at the end of the active file -/
def idxTaken (s : St) (r : Rec) : Idx :=
  (scanStep s.active ((rebuild s.disk).1, fileSize (dataOf s.disk s.active)) r).1

theorem IdInv.no_hint {s : St} (h : IdInv s) {b : Nat} (hb : s.active ≤ b) : AL.get b s.disk.hint = none := by
  cases hg : AL.get b s.disk.hint with
  | none => rfl
  | some v => exact absurd (h.hlt _ (AL.mem_keys_of_get hg)) (Nat.not_lt.mpr hb)

/-- **one more record at the end of the active file**: the rebuilt index is the old one plus one
    scan step -/
theorem rebuild_appendDisk (s : St) (r : Rec) (h : IdInv s) :
    (rebuild (appendDisk s r)).1 = idxTaken s r ∧ (rebuild (appendDisk s r)).2 = s.active + 1 := by
  obtain ⟨init, hs, hinit⟩ := sortedIds_split h
  have hids : sortedIds (appendDisk s r) = sortedIds s.disk := sortedIds_eq_of_keys (AL.keys_set_of_mem h.top.mem)
  have hna := h.no_hint (Nat.le_refl _)
  constructor
  · unfold idxTaken
    rw [rebuild_fst, rebuild_fst, hids, hs, List.foldl_append, List.foldl_append]
    simp only [List.foldl_cons, List.foldl_nil]
    rw [foldl_fileScan_congr (d := s.disk) (d' := appendDisk s r) init fun fid hf ix =>
      fileScan_congr (by rfl) (dataOf_set_other _ (Nat.ne_of_lt (hinit fid hf)) _) (fun _ => rfl) ix]
    rw [fileScan_nohint (d := appendDisk s r) hna, fileScan_nohint hna, appendDisk, dataOf_set_same, scanData_snoc]
  · rw [rebuild_snd, hids, sortedIds_getLast h]

/-- the directory after the entry reached the old active file and the next file was created -/
def appendNextDisk (s : St) (r : Rec) : Disk :=
  { appendDisk s r with data := AL.set (s.active + 1) [] (appendDisk s r).data }

theorem rebuild_appendNextDisk (s : St) (r : Rec) (h : IdInv s) :
    (rebuild (appendNextDisk s r)).1 = idxTaken s r ∧ (rebuild (appendNextDisk s r)).2 = s.active + 2 := by
  have hb : ∀ x, x ∈ AL.keys (appendDisk s r).data → x < s.active + 1 := by
    intro x hx; rw [appendDisk, AL.keys_set_of_mem h.top.mem] at hx; exact Nat.lt_succ_of_le (h.ids x hx)
  obtain ⟨r1, r2⟩ := rebuild_create (appendDisk s r) (b := s.active + 1) (appendDisk s r).tails hb
    (h.no_hint (Nat.le_succ _)) (fun _ _ => rfl)
  exact ⟨r1.trans (rebuild_appendDisk s r h).1, r2⟩

/-- **fault `appendLarge`: a restart rebuilds the index of the directory without the operation** -/
theorem rebuild_writeF_large (s : St) (r : Rec) (hdr : Nat) (h : IdInv s) :
    (rebuild (writeF s r (.appendLarge hdr)).disk).1 = (rebuild s.disk).1 ∧
    (rebuild (writeF s r (.appendLarge hdr)).disk).2 = s.active + 2 :=
  -- only the old active file gets a tail, and it has no hint file
  rebuild_create s.disk (b := s.active + 1) _ (fun x hx => Nat.lt_succ_of_le (h.ids x hx)) (h.no_hint (Nat.le_succ _))
    fun fid hfid => AL.get_set_other (fun e : fid = s.active => hfid (by rw [e]; exact h.no_hint (Nat.le_refl _))) _ _

/-- two states with the same index and the same records in every file read the same (files that
    exist in only one of them are empty) -/
theorem abs_of_dataOf_eq {x y : St} (hk : x.keydir = y.keydir) (hd : ∀ fid, dataOf x.disk fid = dataOf y.disk fid) :
    x.abs = y.abs := by
  funext k
  unfold St.abs get
  rw [hk]
  cases AL.get k y.keydir with
  | none => rfl
  | some loc =>
    simp only [hd loc.fid]
    cases hr : recAt (dataOf y.disk loc.fid) loc.pos with
    | none => rfl
    | some rec =>
      have h1 : (AL.get loc.fid y.disk.data).isSome := isSome_of_recAt hr
      have h2 : (AL.get loc.fid x.disk.data).isSome := isSome_of_recAt (by rw [hd]; exact hr)
      simp only [h1, h2]

theorem reopen_keydir (s : St) : (reopen s).1.keydir = (rebuild s.disk).1.keydir := rfl

/-- an additional empty file does not change the records of any file -/
theorem dataOf_set_empty (d : Disk) (b : Nat) (hb : dataOf d b = []) (hint : List (Nat × List Hint))
    (tails : List (Nat × Nat)) (fid : Nat) :
    dataOf { data := AL.set b [] d.data, hint := hint, tails := tails } fid = dataOf d fid := by
  by_cases e : fid = b
  · subst e; rw [hb]; simp [dataOf, AL.get_set_same]
  · simp only [dataOf, AL.get_set_other e]

theorem dataOf_above {s : St} (h : IdInv s) {b : Nat} (hb : s.active < b) : dataOf s.disk b = [] :=
  dataOf_absent fun hm => Nat.not_le.mpr hb (h.ids _ hm)

/-- reopening adds an empty file only -/
theorem reopen_dataOf {s : St} (h : IdInv s) (fid : Nat) : dataOf (reopen s).1.disk fid = dataOf s.disk fid := by
  rw [reopen_disk, reopen_active h]
  exact dataOf_set_empty s.disk _ (dataOf_above h (Nat.lt_succ_self _)) _ _ fid

theorem dataOf_appendNextDisk (s : St) (r : Rec) (h : IdInv s) (fid : Nat) :
    dataOf (appendNextDisk s r) fid = dataOf (appendDisk s r) fid := by
  apply dataOf_set_empty (appendDisk s r)
  show dataOf (appendDisk s r) (s.active + 1) = []
  rw [appendDisk, dataOf_set_other _ (Nat.succ_ne_self _)]
  exact dataOf_above h (Nat.lt_succ_self _)

/-- directories that scan to the same index and hold the same records reopen to the same store -/
theorem reopen_eq_of {x y : St} (hx : IdInv x) (hy : IdInv y) (e : (rebuild x.disk).1 = (rebuild y.disk).1)
    (hd : ∀ fid, dataOf x.disk fid = dataOf y.disk fid) :
    (reopen x).1.keydir = (reopen y).1.keydir ∧ (reopen x).1.stats = (reopen y).1.stats ∧
    (reopen x).1.bad = (reopen y).1.bad ∧ (reopen x).1.abs = (reopen y).1.abs :=
  ⟨congrArg Idx.keydir e, congrArg Idx.stats e, congrArg Idx.bad e,
    abs_of_dataOf_eq (congrArg Idx.keydir e) fun fid => by rw [reopen_dataOf hx, reopen_dataOf hy, hd]⟩

/-- **After a restart, a write that failed with `appendLarge` has not taken effect**: the reopened
    store has the index, the counters and the contents of the store reopened without it. -/
theorem reopen_writeF_large (s : St) (r : Rec) (hdr : Nat) (h : IdInv s) :
    (reopen (writeF s r (.appendLarge hdr))).1.keydir = (reopen s).1.keydir ∧
    (reopen (writeF s r (.appendLarge hdr))).1.stats = (reopen s).1.stats ∧
    (reopen (writeF s r (.appendLarge hdr))).1.bad = (reopen s).1.bad ∧
    (reopen (writeF s r (.appendLarge hdr))).1.abs = (reopen s).1.abs :=
  reopen_eq_of (writeF_idinv s r _ h) h (rebuild_writeF_large s r hdr h).1
    (dataOf_set_empty s.disk _ (dataOf_above h (Nat.lt_succ_self _)) _ _)

/-- `s'` holds what `s` holds and record `r`, complete at the end of the old active file: the
    outcome of a successful write, and of a failed one whose entry reached the file -/
structure Taken (s : St) (r : Rec) (s' : St) : Prop where
  idinv : IdInv s'
  idx : (rebuild s'.disk).1 = idxTaken s r
  data : ∀ fid, dataOf s'.disk fid = dataOf (appendDisk s r) fid

theorem Taken.of_disk {s s' : St} {r : Rec} (h : IdInv s) (h' : IdInv s')
    (hd : s'.disk = appendDisk s r ∨ s'.disk = appendNextDisk s r) : Taken s r s' := by
  rcases hd with e | e
  · exact ⟨h', by rw [e]; exact (rebuild_appendDisk s r h).1, fun fid => by rw [e]⟩
  · exact ⟨h', by rw [e]; exact (rebuild_appendNextDisk s r h).1,
      fun fid => by rw [e]; exact dataOf_appendNextDisk s r h fid⟩

theorem write_taken (cfg : Cfg) (s : St) (r : Rec) (h : IdInv s) : Taken s r (write cfg s r).1 := by
  refine .of_disk h (write_idinv cfg s r h) ?_
  by_cases hroll : s.written + r.len > cfg.maxFile
  · rw [write_roll cfg s r hroll]; exact .inr rfl
  · rw [write_noroll cfg s r hroll]; exact .inl rfl

/-- faults `appendSmall`, `fsync`, `create` -/
theorem writeF_taken (s : St) (r : Rec) (f : Fault) (h : IdInv s) (hf : f.taken = true) :
    Taken s r (writeF s r f) := by
  refine .of_disk h (writeF_idinv s r f h) ?_
  cases f with
  | appendSmall => exact .inr rfl
  | appendLarge hdr => cases hf
  | fsync => exact .inl rfl
  | create => exact .inl rfl

theorem Taken.congr {s s' s'' : St} {r : Rec} (t : Taken s r s') (hd : s''.disk = s'.disk)
    (ha : s''.active = s'.active) : Taken s r s'' :=
  ⟨t.idinv.congr hd ha, by rw [hd]; exact t.idx, fun fid => by rw [hd]; exact t.data fid⟩

section Taken
variable {s s' : St} {r : Rec}

/-- **After a restart, a write whose entry reached the file has taken effect**, failed or not: the
    reopened stores have the same index, counters and contents (what every key reads). -/
theorem Taken.reopen_eq {s'' : St} (t : Taken s r s') (t' : Taken s r s'') :
    (reopen s').1.keydir = (reopen s'').1.keydir ∧ (reopen s').1.stats = (reopen s'').1.stats ∧
    (reopen s').1.bad = (reopen s'').1.bad ∧ (reopen s').1.abs = (reopen s'').1.abs :=
  reopen_eq_of t.idinv t'.idinv (t.idx.trans t'.idx.symm) fun fid => (t.data fid).trans (t'.data fid).symm

/-- the rebuilt index of the completed write: `r.key` points at the new record (or is absent,
    for a tombstone), every other key is as in the index rebuilt without the write -/
theorem idxTaken_keydir (s : St) (r : Rec) (k : Key) :
    AL.get k (idxTaken s r).keydir =
      if k = r.key then
        (match r.val with
         | some _ => some { fid := s.active, pos := fileSize (dataOf s.disk s.active), len := r.len, ts := r.ts }
         | none => none)
      else AL.get k (rebuild s.disk).1.keydir := by
  unfold idxTaken scanStep
  cases hv : r.val with
  | none => simp only [Idx.account_keydir]; exact AL.get_del _ _ _
  | some v => simp only [Idx.account_keydir]; exact AL.get_set _ _ _ _

theorem Taken.keydir (t : Taken s r s') (k : Key) :
    AL.get k (reopen s').1.keydir = AL.get k (idxTaken s r).keydir := by
  rw [reopen_keydir, t.idx]

theorem Taken.dataOf_reopen (t : Taken s r s') (fid : Nat) :
    dataOf (reopen s').1.disk fid = dataOf (appendDisk s r) fid := by
  rw [reopen_dataOf t.idinv, t.data]

/-- after the restart the key of a value record points at that record -/
theorem Taken.entry (t : Taken s r s') {v : Val} (hv : r.val = some v) :
    ∃ loc, AL.get r.key (reopen s').1.keydir = some loc ∧
      recAt (dataOf (reopen s').1.disk loc.fid) loc.pos = some r ∧ r.len = loc.len ∧
      (AL.get loc.fid (reopen s').1.disk.data).isSome := by
  have hr : recAt (dataOf (reopen s').1.disk s.active) (fileSize (dataOf s.disk s.active)) = some r := by
    rw [t.dataOf_reopen, appendDisk, dataOf_set_same]; exact recAt_append_size _ _ []
  refine ⟨{ fid := s.active, pos := fileSize (dataOf s.disk s.active), len := r.len, ts := r.ts }, ?_, hr, rfl,
    isSome_of_recAt hr⟩
  rw [t.keydir, idxTaken_keydir, if_pos rfl, hv]

/-- **after a restart the key of the write reads the written value** -/
theorem Taken.failed_key (t : Taken s r s') : (reopen s').1.abs r.key = r.val := by
  cases hv : r.val with
  | none => exact abs_none_of_none (by rw [t.keydir, idxTaken_keydir, if_pos rfl, hv])
  | some v =>
    obtain ⟨loc, h1, h2, h3, h4⟩ := t.entry hv
    rw [abs_of_locOk h1 h2 h3 h4, hv]

/-- the entry a restart rebuilds for the key of the write is valid -/
theorem Taken.locOk (t : Taken s r s') (loc : Loc) (hk : AL.get r.key (reopen s').1.keydir = some loc) :
    LocOk (reopen s').1.disk r.key loc := by
  cases hv : r.val with
  | none => rw [t.keydir, idxTaken_keydir, if_pos rfl, hv] at hk; cases hk
  | some v =>
    obtain ⟨loc', h1, h2, h3, h4⟩ := t.entry hv
    rw [h1] at hk; cases hk
    exact ⟨r, h2, rfl, by rw [hv]; rfl, h3, h4⟩

theorem Taken.keydir_other (t : Taken s r s') {k : Key} (hk : k ≠ r.key) :
    AL.get k (reopen s').1.keydir = AL.get k (reopen s).1.keydir := by
  rw [t.keydir, idxTaken_keydir, if_neg hk, reopen_keydir]

/-- every record the restart without the write finds is found after it -/
theorem Taken.keeps (h : IdInv s) (t : Taken s r s') (b : Nat) : Keeps b (reopen s).1.disk (reopen s').1.disk := by
  refine keeps_of_prefix (fun fid => ?_) b
  rw [t.dataOf_reopen, reopen_dataOf h, appendDisk]
  by_cases e : fid = s.active
  · rw [e, dataOf_set_same]; exact ⟨[r], rfl⟩
  · rw [dataOf_set_other _ e]; exact List.prefix_refl _

/-- **after a restart every other key reads what it reads after a restart without the write**,
    provided that restart yields valid index entries for it (which is what the recovery theory
    establishes; it is needed here because an entry that does not address a record could by
    accident address the new one) -/
theorem Taken.other_key (h : IdInv s) (t : Taken s r s') {k : Key} (hk : k ≠ r.key)
    (hloc : ∀ loc, AL.get k (reopen s).1.keydir = some loc → LocOk (reopen s).1.disk k loc) :
    (reopen s').1.abs k = (reopen s).1.abs k := by
  cases hg : AL.get k (reopen s).1.keydir with
  | none => rw [abs_none_of_none hg, abs_none_of_none ((t.keydir_other hk).trans hg)]
  | some loc =>
    exact abs_keeps (b := loc.fid) (fun l hl => by rw [hg] at hl; cases hl; exact ⟨hloc _ hg, Nat.le_refl _⟩)
      (t.keydir_other hk) (t.keeps h _)

end Taken

/-- the same for a failed write, whether its entry reached the file or not -/
theorem reopen_writeF_other_key (s : St) (r : Rec) (f : Fault) (h : IdInv s) (k : Key) (hk : k ≠ r.key)
    (hloc : ∀ loc, AL.get k (reopen s).1.keydir = some loc → LocOk (reopen s).1.disk k loc) :
    (reopen (writeF s r f)).1.abs k = (reopen s).1.abs k := by
  cases hf : f.taken with
  | false =>
    obtain ⟨hdr, rfl⟩ := Fault.not_taken f hf
    rw [(reopen_writeF_large s r hdr h).2.2.2]
  | true => exact (writeF_taken s r f h hf).other_key h hk hloc

end Store.Tr
