/-
  C13 helper lemmas: sizes.  `storeSize` and `liveSize` as sums over association lists; the
  sum-swap "live bytes of the selected files ≤ size of the selected files"; the potential that
  the merge loop preserves (size of the unselected files + live bytes still in selected files);
  the size of the directory after the selected files are removed.
-/
import BitcaskVerif.Store.StatsMerge

namespace Store.Stats
open Store

theorem storeSize_eq (d : Disk) : storeSize d = ksum (fun _ rs => fileSize rs) d.data := by
  unfold storeSize ksum
  congr 1

theorem liveSize_eq (s : St) : liveSize s = wsum (fun l => l.len) s.keydir := by
  unfold liveSize wsum
  congr 1

def sizeOut (sel : List Nat) (data : List (Nat × List Rec)) : Nat :=
  ksum (fun f rs => if f ∈ sel then 0 else fileSize rs) data

def sizeIn (sel : List Nat) (data : List (Nat × List Rec)) : Nat :=
  ksum (fun f rs => if f ∈ sel then fileSize rs else 0) data

def liveIn (sel : List Nat) (kd : List (Key × Loc)) : Nat :=
  wsum (fun l => if l.fid ∈ sel then l.len else 0) kd

theorem storeSize_split (sel : List Nat) (d : Disk) :
    storeSize d = sizeIn sel d.data + sizeOut sel d.data := by
  rw [storeSize_eq]
  apply ksum_add
  intro f rs _
  by_cases e : f ∈ sel <;> simp [e]

theorem sizeOut_nil (d : Disk) : sizeOut [] d.data = storeSize d := by
  rw [storeSize_eq]; rfl

theorem sizeOut_snoc (sel : List Nat) (d : Disk) (f : Nat) (r : Rec) (hf : f ∉ sel) :
    sizeOut sel (AL.set f (dataOf d f ++ [r]) d.data) = sizeOut sel d.data + r.len := by
  have := ksum_set (fun f rs => if f ∈ sel then 0 else fileSize rs) f (dataOf d f ++ [r]) d.data
  have e : okw (fun f rs => if f ∈ sel then 0 else fileSize rs) f (AL.get f d.data) = fileSize (dataOf d f) := by
    unfold dataOf
    cases AL.get f d.data <;> simp [hf]
  rw [e, if_neg hf, fileSize_append, fileSize_cons, fileSize_nil, Nat.add_zero, Nat.add_left_comm,
    Nat.add_comm] at this
  exact Nat.add_left_cancel this

theorem sizeOut_create (sel : List Nat) (d : Disk) (f : Nat) (hnew : f ∉ AL.keys d.data) :
    sizeOut sel (AL.set f [] d.data) = sizeOut sel d.data := by
  have := ksum_set (fun f rs => if f ∈ sel then 0 else fileSize rs) f [] d.data
  rw [AL.get_eq_none_iff.mpr hnew] at this
  simp only [okw_none, fileSize_nil, ite_self, Nat.add_zero] at this
  exact this

theorem liveIn_swap (data : List (Nat × List Rec)) (hnd : (AL.keys data).Nodup) (sel : List Nat)
    (kd : List (Key × Loc)) (hin : ∀ k l, (k, l) ∈ kd → l.fid ∈ AL.keys data) :
    liveIn sel kd = ksum (fun f _ => if f ∈ sel then liveBytes kd f else 0) data := by
  induction kd with
  | nil => exact (ksum_zero fun f rs _ => ite_self 0).symm
  | cons x xs ih =>
    obtain ⟨k, l⟩ := x
    -- the entry's bytes show up at its file, which is one of the data files
    have h1 : ksum (fun f (_ : List Rec) => if f = l.fid then (if l.fid ∈ sel then l.len else 0) else 0) data =
        (if l.fid ∈ sel then l.len else 0) := by
      obtain ⟨v, hv⟩ := AL.get_of_mem_keys (hin k l List.mem_cons_self)
      rw [ksum_single (k0 := l.fid) hnd fun f rs _ hne => if_neg hne, hv, okw_some, if_pos rfl]
    rw [liveIn, wsum_cons, ← liveIn, ih fun k' l' hm => hin k' l' (List.mem_cons_of_mem _ hm), ← h1]
    refine (ksum_add fun f rs _ => ?_).symm
    rw [liveBytes, wsum_cons, ← liveBytes]
    by_cases e2 : f = l.fid
    · rw [e2]; by_cases e1 : l.fid ∈ sel <;> simp [e1]
    · by_cases e1 : f ∈ sel <;> simp [e1, e2, Ne.symm e2]

theorem fid_mem_keys {s : St} (hi : Inv s) {k : Key} {l : Loc} (hk : AL.get k s.keydir = some l) :
    l.fid ∈ AL.keys s.disk.data := by
  obtain ⟨_, _, _, _, _, hex⟩ := hi.locs k l hk
  exact mem_keys_of_isSome hex

theorem liveIn_le_sizeIn {s : St} (hi : Inv s) (h : AccInv s) (hnd : (AL.keys s.disk.data).Nodup) (sel : List Nat) :
    liveIn sel s.keydir ≤ sizeIn sel s.disk.data := by
  rw [liveIn_swap s.disk.data hnd sel s.keydir fun k l hm => fid_mem_keys hi (get_of_mem h.kdNodup hm)]
  apply ksum_le
  intro f rs hm
  by_cases e : f ∈ sel
  · rw [if_pos e, if_pos e]
    have hb := (h.file f).cnt.bytes
    rw [dataOf, get_of_mem hnd hm] at hb
    exact hb ▸ Nat.le_add_right _ _
  · rw [if_neg e]; exact Nat.zero_le _

theorem liveIn_eq_liveSize {s : St} {sel : List Nat} (hsel : ∀ k l, (k, l) ∈ s.keydir → l.fid ∈ sel) :
    liveIn sel s.keydir = liveSize s := by
  rw [liveSize_eq]
  exact wsum_congr fun k l hm => if_pos (hsel k l hm)

theorem liveSize_le_storeSize {s : St} (hi : Inv s) (h : AccInv s) (hnd : (AL.keys s.disk.data).Nodup) :
    liveSize s ≤ storeSize s.disk := by
  rw [← liveIn_eq_liveSize fun k l hm => fid_mem_keys hi (get_of_mem h.kdNodup hm),
    storeSize_split (AL.keys s.disk.data)]
  exact Nat.le_trans (liveIn_le_sizeIn hi h hnd _) (Nat.le_add_right _ _)

/-- what the loop preserves: bytes outside the selection + live bytes still inside it, and the
    total live size -/
structure MSize (sel : List Nat) (tot live : Nat) (s : St) : Prop where
  pot : sizeOut sel s.disk.data + liveIn sel s.keydir = tot
  live : wsum (fun l : Loc => l.len) s.keydir = live
  kdNodup : (AL.keys s.keydir).Nodup

variable {sel : List Nat} {tot live : Nat}

theorem MSize.roll {s : St} (h : MSize sel tot live s) {mid : Nat} (hnew : mid ∉ AL.keys s.disk.data) :
    MSize sel tot live { s with disk := rollDisk s.disk mid } := by
  refine ⟨?_, h.live, h.kdNodup⟩
  show sizeOut sel (AL.set mid [] s.disk.data) + _ = _
  rw [sizeOut_create sel _ _ hnew]
  exact h.pot

/-- a record of a selected file is copied to the output file: its bytes leave the live bytes of
    the selection and enter the size of the unselected files -/
theorem MSize.move {m : MergeSt} (hmid : m.mid ∉ sel) (h : MSize sel tot live m.s) {k : Key} {loc : Loc}
    {r : Rec} (hk : AL.get k m.s.keydir = some loc) (hsel : loc.fid ∈ sel) (h4 : r.len = loc.len) :
    MSize sel tot live (moveSt m k loc r) := by
  have e2 := wsum_set (fun l : Loc => if l.fid ∈ sel then l.len else 0) k (newLocOf m loc) m.s.keydir
  have e3 := wsum_set (fun l : Loc => l.len) k (newLocOf m loc) m.s.keydir
  rw [hk, ow_some] at e2 e3
  rw [if_pos hsel, if_neg (show (newLocOf m loc).fid ∉ sel from hmid), Nat.add_zero] at e2
  refine ⟨?_, ?_, nodup_set h.kdNodup⟩
  · show sizeOut sel (AL.set m.mid (dataOf m.s.disk m.mid ++ [r]) m.s.disk.data) +
      wsum (fun l : Loc => if l.fid ∈ sel then l.len else 0) (AL.set k (newLocOf m loc) m.s.keydir) = _
    rw [sizeOut_snoc sel _ _ _ hmid, h4, ← h.pot, liveIn, ← e2, Nat.add_assoc, Nat.add_comm loc.len]
  · show wsum (fun l : Loc => l.len) (AL.set k (newLocOf m loc) m.s.keydir) = _
    exact Nat.add_right_cancel (e3.trans (congrArg (· + loc.len) h.live))

theorem mergeWith_size (cfg : Cfg) (s : St) (sel : List Nat) (order : List Key) (hi : Inv s)
    (h : AccInv s) (hsel : ∀ id, id ∈ sel → id ≤ s.active) (hcov : Covers order s) :
    storeSize (mergeWith cfg s sel order).1.disk = sizeOut sel s.disk.data + liveIn sel s.keydir ∧
    liveSize (mergeWith cfg s sel order).1 = liveSize s := by
  apply merge_rule hi hsel hcov
    (fun m => MSize sel (sizeOut sel s.disk.data + liveIn sel s.keydir) (liveSize s) m.s)
    (fun t => storeSize t.disk = sizeOut sel s.disk.data + liveIn sel s.keydir ∧ liveSize t = liveSize s)
  · exact MSize.roll ⟨rfl, (liveSize_eq s).symm, h.kdNodup⟩ (next_fresh hi)
  · intro m k loc r hm hp hk hks _ _ h4
    exact hp.move (fun hc => absurd (Nat.lt_of_lt_of_le hm.midgt (hsel _ hc)) (Nat.lt_irrefl _)) hk hks h4
  · intro m hnew hp
    exact hp.roll hnew
  · intro m _ hunsel hnew hp
    have hzero : liveIn sel m.s.keydir = 0 :=
      wsum_zero fun k l hm => if_neg (hunsel k l (get_of_mem hp.kdNodup hm))
    refine ⟨?_, (liveSize_eq _).trans hp.live⟩
    rw [← sizeOut_nil]
    show sizeOut [] (AL.set (m.mid + 1) [] (delDisk sel m.s.disk).data) = _
    rw [sizeOut_create [] _ _ hnew, sizeOut_nil, storeSize_eq, delDisk, ksum_delAll, ← hp.pot, hzero]
    rfl

end Store.Stats
