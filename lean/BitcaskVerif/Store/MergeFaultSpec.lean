/-
  Fault-aware merge pass (C20): the running process.

  `FInv`: when `merge_files` returns — failed at any call, or not at all — every index entry
  still addresses a complete copy of its record and every key reads as before the pass
  (`Stop.finv`).  `InvP`: the invariant of a store with a possibly pending move of the active
  file, kept by the operations on such stores and established by the pass (`mergeF_ok`).
-/
import BitcaskVerif.Store.MergeFaultCalls

namespace Store

variable {hintFirst : Bool}

/-! ### what is known when `merge_files` returns -/

/-- what is known when `merge_files` returns (with or without an error) with `merge_fileid = mid`,
    for a pass started at active id `A` in a store reading as `abs0` -/
structure FInv (A : Nat) (abs0 : Map) (mid : Nat) (s : St) : Prop where
  locs : ∀ k loc, AL.get k s.keydir = some loc → LocOk s.disk k loc
  ids : ∀ id, id ∈ AL.keys s.disk.data → id ≤ mid
  hids : ∀ id, id ∈ AL.keys s.disk.hint → id ≤ mid
  midgt : A < mid
  abs : s.abs = abs0

theorem Inv.finv {s : St} (h : Inv s) : FInv s.active s.abs (s.active + 1) s :=
  ⟨h.locs, fun id hid => Nat.le_succ_of_le (h.ids id hid), fun id hid => Nat.le_succ_of_le (h.hids id hid),
    Nat.lt_succ_self _, rfl⟩

theorem MInv.finv {A : Nat} {abs0 : Map} {m : MergeSt} (h : MInv A abs0 m) : FInv A abs0 m.mid m.s :=
  ⟨h.locs, h.ids, h.hids, h.midgt, h.abs⟩

theorem UInv.finv {sel : List Nat} {abs0 : Map} {mid : Nat} {s : St} (h : UInv sel abs0 mid s) {A : Nat}
    (hA : A < mid) : FInv A abs0 mid s :=
  ⟨h.locs, h.ids, h.hids, hA, h.abs⟩

/-- a state with the same index whose directory keeps the records of the files up to `b`, `b` a
    bound of the data ids -/
theorem FInv.keeps {A : Nat} {abs0 : Map} {mid mid' b : Nat} {s s' : St} (h : FInv A abs0 mid s)
    (hb : ∀ id, id ∈ AL.keys s.disk.data → id ≤ b) (hk : s'.keydir = s.keydir) (hK : Keeps b s.disk s'.disk)
    (hd : ∀ id, id ∈ AL.keys s'.disk.data → id ≤ mid') (hh : ∀ id, id ∈ AL.keys s'.disk.hint → id ≤ mid')
    (hm : mid ≤ mid') : FInv A abs0 mid' s' := by
  have hfid : ∀ k loc, AL.get k s.keydir = some loc → loc.fid ≤ b := fun k loc hg => (h.locs k loc hg).fid_le_of hb
  refine ⟨fun k loc hg => ?_, hd, hh, Nat.lt_of_lt_of_le h.midgt hm, ?_⟩
  · rw [hk] at hg
    exact (h.locs k loc hg).keeps (hfid k loc hg) hK
  · rw [← h.abs]
    funext k
    exact abs_keeps (fun l hl => ⟨h.locs k l hl, hfid k l hl⟩) (by rw [hk]) hK

/-- … with the same data files -/
theorem FInv.congr {A : Nat} {abs0 : Map} {mid mid' : Nat} {s s' : St} (h : FInv A abs0 mid s)
    (hk : s'.keydir = s.keydir) (hd : s'.disk.data = s.disk.data)
    (hh : ∀ id, id ∈ AL.keys s'.disk.hint → id ≤ mid') (hm : mid ≤ mid') : FInv A abs0 mid' s' :=
  h.keeps h.ids hk (fun _ _ _ _ h1 h2 => by rw [dataOf, hd]; exact ⟨h1, h2⟩)
    (fun id hid => Nat.le_trans (h.ids id (hd ▸ hid)) hm) hh hm

/-- one more data file, right above every id -/
theorem FInv.create {A : Nat} {abs0 : Map} {mid b : Nat} {s : St} (h : FInv A abs0 mid s)
    (hb : ∀ id, id ∈ AL.keys s.disk.data → id ≤ b) (hm : mid ≤ b + 1) :
    FInv A abs0 (b + 1) { s with disk := { s.disk with data := AL.set (b + 1) [] s.disk.data } } :=
  h.keeps hb rfl (keeps_create _ _ _ (Nat.lt_succ_self b) _ _)
    (keys_set_le (Nat.le_refl _) fun id hid => Nat.le_trans (h.ids id hid) hm)
    (fun id hid => Nat.le_trans (h.hids id hid) hm) hm

/-- **the move of the active file above every id the pass has used** gives a state satisfying the
    store invariant that reads as before the pass -/
theorem FInv.finish {A : Nat} {abs0 : Map} {mid : Nat} {s : St} (h : FInv A abs0 mid s) :
    Inv (newActive s (mid + 1)).1 ∧ (newActive s (mid + 1)).1.abs = abs0 :=
  have h' := newActive_inv h.locs h.ids h.hids
  ⟨h'.1, h'.2.trans h.abs⟩

/-! ### the fault-free phases -/

section
variable (cfg : Cfg) {s : St} {sel : List Nat} {order : List Key} (h : Inv s) (hsel : ∀ id, id ∈ sel → id ≤ s.active)
include h hsel

theorem mergeLoop_minv (ks : List Key) : MInv s.active s.abs (mergeLoop cfg s sel ks) :=
  (mergeFold_spec cfg sel s.active s.abs hsel ks _ (mergeStart_minv h _)).1

/-- the removal invariant after the removal of some of the inputs -/
theorem unlinked_uinv (hcov : Covers order s) {done : List Nat} (hd : ∀ id, id ∈ done → id ∈ sel) :
    UInv sel s.abs (mergeLoop cfg s sel order).mid (unlinked cfg s sel order done).1 :=
  have f1 := mergeLoop_minv cfg h hsel order
  unlinkFold_spec sel s.abs _ done hd (synced (mergeLoop cfg s sel order))
    ⟨f1.locs, mergeLoop_not_sel cfg s sel order h hsel hcov, f1.ids, f1.hids, f1.abs⟩

end

/-! ### a failing iteration, a failing removal -/

/-- **whichever call of an iteration fails**, every index entry still addresses a complete copy
    of its record and every key reads as before the pass -/
theorem failMove_finv {A : Nat} {abs0 : Map} {m : MergeSt} {k : Key} {loc : Loc} {r : Rec} (h : MInv A abs0 m)
    (hk : AL.get k m.s.keydir = some loc) (hr : recAt (dataOf m.s.disk loc.fid) loc.pos = some r) (i torn : Nat) :
    FInv A abs0 (failMove hintFirst m k loc r i torn).mid (failMove hintFirst m k loc r i torn).s := by
  obtain ⟨r', h1, h2, h3, h4, h5⟩ := h.locs k loc hk
  cases Option.some.inj (h1.symm.trans hr)
  -- the loop state after the complete copy
  have fNo : FInv A abs0 m.mid (moveSt m k loc r) := (h.move hk h1 h2 h3 h4 h5).finv
  rcases i with _ | _ | _ | _ | _ | i
  · -- 0: data append: only a tail
    exact h.finv.congr rfl rfl h.hids (Nat.le_refl _)
  · -- 1: hint append: the record is copied; the entry is re-pointed (old order) or not
    cases hintFirst with
    | true =>
      exact h.finv.keeps h.ids rfl (keeps_append _ _ _ _ _ _) (keys_set_le (Nat.le_refl _) h.ids) h.hids (Nat.le_refl _)
    | false => exact fNo.congr rfl rfl h.hids (Nat.le_refl _)
  · exact fNo  -- 2: fsync data
  · exact fNo  -- 3: fsync hint
  · -- 4: create data
    exact fNo.congr rfl rfl (fun id hid => Nat.le_succ_of_le (fNo.hids id hid)) (Nat.le_succ _)
  · -- 5: create hint
    exact fNo.create fNo.ids (Nat.le_succ _)

/-- **whichever call of `merge_files` fails, or none**: every index entry still addresses a
    complete copy of its record, no id is above `merge_fileid`, every key reads as before -/
theorem Stop.finv {cfg : Cfg} {s : St} {sel : List Nat} {order : List Key} {j torn : Nat}
    {z : (St × List Call) × Bool} {mid : Nat} (hi : Inv s) (hsel : ∀ id, id ∈ sel → id ≤ s.active)
    (hcov : Covers order s) (h : Stop hintFirst cfg s sel order j torn z mid) : FInv s.active s.abs mid z.1.1 := by
  have hgt := (mergeLoop_minv cfg hi hsel order).midgt
  cases h with
  | done => exact (unlinked_uinv cfg hi hsel hcov (fun _ hd => hd)).finv hgt
  | create0 => exact hi.finv
  | create1 => exact hi.finv.create hi.ids (Nat.le_refl _)
  | move ho hm hk hs hr =>
    subst hm
    exact failMove_finv (mergeLoop_minv cfg hi hsel _) hk hr _ _
  | sync => exact (mergeLoop_minv cfg hi hsel order).finv
  | unlink1 hsel' hu =>
    subst hu
    exact (unlinked_uinv cfg hi hsel hcov (fun _ hd => hsel' ▸ List.mem_append_left _ hd)).finv hgt
  | unlink2 hsel' hu =>
    subst hu
    have hu := unlinked_uinv cfg hi hsel hcov (fun _ hd => hsel' ▸ List.mem_append_left _ hd)
    exact (hu.finv hgt).congr rfl rfl (fun i hi => hu.hids i (AL.mem_keys_del.mp hi).2) (Nat.le_refl _)

/-! ### stores with a pending move -/

/-- invariant of a store with a possibly pending move of the active file: every index entry
    addresses a complete copy of its record, the store after the move satisfies the store
    invariant, and the pending id is above every id in the directory -/
structure InvP (p : StP) : Prop where
  locs : ∀ k loc, AL.get k p.st.keydir = some loc → LocOk p.st.disk k loc
  moved : Inv p.move.1
  fresh : ∀ id, p.pending = some id →
    (∀ i, i ∈ AL.keys p.st.disk.data → i < id) ∧ (∀ i, i ∈ AL.keys p.st.disk.hint → i < id)

theorem InvP.of_inv {s : St} (h : Inv s) : InvP { st := s, pending := none } :=
  ⟨h.locs, h, fun _ e => by cases e⟩

theorem InvP.inv_of_none {p : StP} (h : InvP p) (hp : p.pending = none) : Inv p.st := by
  have := h.moved
  rw [StP.move, hp] at this
  exact this

theorem InvP.freshId {p : StP} (h : InvP p) {b : Nat} (hb : p.pending = some b) : FreshId b p.st.disk :=
  h.fresh b hb

theorem InvP.move_abs {p : StP} (h : InvP p) : p.move.1.abs = p.abs := by
  unfold StP.move StP.abs
  cases hp : p.pending with
  | none => rfl
  | some id =>
    obtain ⟨f1, _⟩ := h.freshId hp
    funext k
    refine abs_keeps (b := id - 1) (fun loc hl => ⟨h.locs k loc hl, ?_⟩) rfl ?_
    · exact (h.locs k loc hl).fid_le_of fun i hi => Nat.le_sub_one_of_lt (f1 i hi)
    · intro fid q x hle h1 h2
      exact keeps_create (id - 1) _ _ (Nat.sub_one_lt (Nat.ne_zero_of_lt (f1 _ (mem_keys_of_isSome h2)))) _ _ fid q x hle h1 h2

theorem move_covers {p : StP} {order : List Key} (h : Covers order p.st) : Covers order p.move.1 := by
  unfold StP.move
  cases p.pending <;> exact h

/-- reads of a store with a pending move are sound -/
theorem getP_abs {p : StP} (h : InvP p) (k : Key) :
    getP p k = (match p.abs k with | some v => .value v | none => .absent) := by
  unfold getP StP.abs
  cases hk : AL.get k p.st.keydir with
  | none => rw [abs_none_of_none hk, get_absent_of_none hk]
  | some loc =>
    obtain ⟨v, hv⟩ := get_of_locOk hk (h.locs k loc hk)
    unfold St.abs; rw [hv]

theorem StP.abs_mk (s : St) (o : Option Nat) : StP.abs { st := s, pending := o } = s.abs := rfl

theorem putP_fst (cfg : Cfg) (p : StP) (ts : Int) (k : Key) (v : Val) :
    (putP cfg p ts k v).1 = { st := (put cfg p.move.1 ts k v).1, pending := none } := rfl

theorem deleteP_fst (cfg : Cfg) (p : StP) (ts : Int) (k : Key) :
    (deleteP cfg p ts k).1 = { st := (delete cfg p.move.1 ts k).1, pending := none } := rfl

theorem deleteP_flag (cfg : Cfg) (p : StP) (ts : Int) (k : Key) :
    (deleteP cfg p ts k).2.1 = (delete cfg p.move.1 ts k).2.1 := by rw [deleteP]

theorem putP_ok (cfg : Cfg) {p : StP} (h : InvP p) (ts : Int) (k : Key) (v : Val) :
    InvP (putP cfg p ts k v).1 ∧ (putP cfg p ts k v).1.abs = p.abs.set k v ∧ (putP cfg p ts k v).1.pending = none := by
  rw [putP_fst, StP.abs_mk, put_abs cfg _ ts k v h.moved, h.move_abs]
  exact ⟨InvP.of_inv (put_inv cfg _ ts k v h.moved), rfl, rfl⟩

theorem deleteP_ok (cfg : Cfg) {p : StP} (h : InvP p) (ts : Int) (k : Key) :
    InvP (deleteP cfg p ts k).1 ∧ (deleteP cfg p ts k).1.abs = p.abs.del k ∧
      (deleteP cfg p ts k).2.1 = (p.abs k).isSome ∧ (deleteP cfg p ts k).1.pending = none := by
  obtain ⟨a, b⟩ := delete_abs cfg p.move.1 ts k h.moved
  rw [h.move_abs] at a b
  rw [deleteP_fst, deleteP_flag, StP.abs_mk]
  exact ⟨InvP.of_inv (delete_inv cfg _ ts k h.moved), a, b, rfl⟩

theorem mergeWithP_ok (cfg : Cfg) {p : StP} (h : InvP p) (sel : List Nat) (order : List Key)
    (hsel : ∀ id, id ∈ sel → id ≤ p.move.1.active) (hcov : Covers order p.st) :
    InvP (mergeWithP cfg p sel order).1 ∧ (mergeWithP cfg p sel order).1.abs = p.abs ∧
      (mergeWithP cfg p sel order).1.pending = none :=
  have ⟨a, b⟩ := mergeWith_inv_abs cfg p.move.1 sel order h.moved hsel (move_covers hcov)
  ⟨InvP.of_inv a, b.trans h.move_abs, rfl⟩

/-! ### the pass -/

/-- `merge()` after `merge_files` has returned in a state satisfying `FInv` -/
theorem closeF_ok {A : Nat} {abs0 : Map} {mid : Nat} {z : (St × List Call) × Bool} (h : FInv A abs0 mid z.1.1) (j : Nat) :
    InvP (closeF j z mid).p ∧ (closeF j z mid).p.abs = abs0 := by
  have hdone : InvP { st := (newActive z.1.1 (mid + 1)).1, pending := none } ∧
      StP.abs { st := (newActive z.1.1 (mid + 1)).1, pending := none } = abs0 :=
    ⟨InvP.of_inv h.finish.1, h.finish.2⟩
  unfold closeF
  cases z.2
  · rw [if_neg Bool.false_ne_true]
    by_cases hj : j = z.1.2.length
    · rw [if_pos hj]
      refine ⟨⟨h.locs, h.finish.1, fun id e => ?_⟩, h.abs⟩
      cases e
      exact ⟨fun i hi => Nat.lt_succ_of_le (h.ids i hi), fun i hi => Nat.lt_succ_of_le (h.hids i hi)⟩
    · rw [if_neg hj]; exact hdone
  · exact hdone

/-- **whichever call of the pass fails (or none): the store — with its possibly pending move —
    keeps its invariant and reads as before the pass** -/
theorem mergeF_ok (cfg : Cfg) (s : St) (sel : List Nat) (order : List Key) (j torn : Nat) (h : Inv s)
    (hsel : ∀ id, id ∈ sel → id ≤ s.active) (hcov : Covers order s) :
    InvP (mergeF hintFirst cfg s sel order j torn).p ∧ (mergeF hintFirst cfg s sel order j torn).p.abs = s.abs := by
  rw [mergeF_eq]
  exact closeF_ok ((mfZ_stop cfg s sel order j torn).finv h hsel hcov) j

/-- the same for a pass on a store with a pending move (which the pass performs first) -/
theorem mergeFP_ok (cfg : Cfg) {p : StP} (h : InvP p) (sel : List Nat) (order : List Key) (j torn : Nat)
    (hsel : ∀ id, id ∈ sel → id ≤ p.move.1.active) (hcov : Covers order p.st) :
    InvP (mergeFP hintFirst cfg p sel order j torn).p ∧ (mergeFP hintFirst cfg p sel order j torn).p.abs = p.abs :=
  have ⟨a, b⟩ := mergeF_ok (hintFirst := hintFirst) cfg p.move.1 sel order j torn h.moved hsel (move_covers hcov)
  ⟨a, b.trans h.move_abs⟩

end Store
