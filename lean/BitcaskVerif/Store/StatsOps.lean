/-
  C19 helper lemmas: the counting invariant `AccInv` of a store state and its
  preservation by `put` and `delete`, which act on the index exactly as the two index steps.
-/
import BitcaskVerif.Store.StatsLemmas
import BitcaskVerif.Props.C01

namespace Store

def St.idx (s : St) : Idx := { keydir := s.keydir, stats := s.stats, bad := s.bad }

namespace Stats

def AccInv (s : St) : Prop := IdxAcc s.idx (dataOf s.disk)

theorem AccInv.file {s : St} (h : AccInv s) (f : Nat) : FileAcc s.keydir s.stats f (dataOf s.disk f) :=
  h.files f

theorem accountPrev_idx (s : St) (p : Option Loc) : (accountPrev s p).idx = s.idx.account p := by
  cases p <;> rfl

theorem write_idx (cfg : Cfg) (s : St) (r : Rec) :
    (write cfg s r).1.idx =
      { s.idx with
        stats := updStat s.stats s.active (fun st => if r.val.isSome then st.addLive else st.addDead r.len) } := by
  by_cases hroll : s.written + r.len > cfg.maxFile
  · rw [write_roll cfg s r hroll]; rfl
  · rw [write_noroll cfg s r hroll]; rfl

theorem dataOf_set {d d' : Disk} {f : Nat} {rs : List Rec} (hd : d'.data = AL.set f rs d.data) :
    dataOf d' = upd (dataOf d) f rs := by
  funext g
  rw [dataOf, hd, AL.get_set, upd]
  by_cases e : g = f
  · rw [if_pos e, if_pos e]; rfl
  · rw [if_neg e, if_neg e]; rfl

theorem dataOf_create {d d' : Disk} {f : Nat} (hd : d'.data = AL.set f [] d.data) (hnew : f ∉ AL.keys d.data) :
    dataOf d' = dataOf d := by
  rw [dataOf_set hd, ← dataOf_absent hnew, upd_self]

theorem next_fresh {s : St} (hi : Inv s) : s.active + 1 ∉ AL.keys s.disk.data :=
  fun hm => absurd (hi.ids _ hm) (Nat.not_succ_le_self _)

theorem next_fresh_set {s : St} (hi : Inv s) (rs : List Rec) :
    s.active + 1 ∉ AL.keys (AL.set s.active rs s.disk.data) :=
  fun hm => (AL.mem_keys_set.mp hm).elim (Nat.succ_ne_self _) (next_fresh hi)

theorem write_dataOf (cfg : Cfg) (s : St) (r : Rec) (h : Inv s) :
    dataOf (write cfg s r).1.disk = upd (dataOf s.disk) s.active (dataOf s.disk s.active ++ [r]) := by
  rw [write_disk]
  by_cases hroll : s.written + r.len > cfg.maxFile
  · rw [if_pos hroll, dataOf_create (d := { s.disk with data := _ }) rfl (next_fresh_set h _), dataOf_set rfl]
  · rw [if_neg hroll, dataOf_set rfl]

theorem put_idx (cfg : Cfg) (s : St) (ts : Int) (k : Key) (v : Val) :
    (put cfg s ts k v).1.idx =
      idxValue s.active s.idx k (fileSize (dataOf s.disk s.active)) (⟨ts, k, some v⟩ : Rec).len ts := by
  rw [put_fst, accountPrev_idx, write_loc]
  show ({ (write cfg s ⟨ts, k, some v⟩).1.idx with
      keydir := AL.set k _ (write cfg s ⟨ts, k, some v⟩).1.idx.keydir } : Idx).account
    (AL.get k (write cfg s ⟨ts, k, some v⟩).1.idx.keydir) = _
  rw [write_idx]; rfl

theorem delete_idx (cfg : Cfg) (s : St) (ts : Int) (k : Key) :
    (delete cfg s ts k).1.idx = idxTomb s.active s.idx k (⟨ts, k, none⟩ : Rec).len := by
  rw [delete_fst, accountPrev_idx]
  show ({ (write cfg s ⟨ts, k, none⟩).1.idx with
      keydir := AL.del k (write cfg s ⟨ts, k, none⟩).1.idx.keydir } : Idx).account
    (AL.get k (write cfg s ⟨ts, k, none⟩).1.idx.keydir) = _
  rw [write_idx]; rfl

theorem put_acc (cfg : Cfg) (s : St) (ts : Int) (k : Key) (v : Val) (hi : Inv s) (h : AccInv s) :
    AccInv (put cfg s ts k v).1 := by
  rw [AccInv, put_idx, put_disk, write_dataOf cfg s _ hi]
  exact h.value s.active k _ ⟨ts, k, some v⟩ ts

theorem delete_acc (cfg : Cfg) (s : St) (ts : Int) (k : Key) (hi : Inv s) (h : AccInv s) :
    AccInv (delete cfg s ts k).1 := by
  rw [AccInv, delete_idx, delete_disk, write_dataOf cfg s _ hi]
  exact h.tomb s.active k ⟨ts, k, none⟩

theorem put_tails (cfg : Cfg) (s : St) (ts : Int) (k : Key) (v : Val) :
    (put cfg s ts k v).1.disk.tails = s.disk.tails := by
  rw [put_disk, write_tails]

theorem delete_tails (cfg : Cfg) (s : St) (ts : Int) (k : Key) :
    (delete cfg s ts k).1.disk.tails = s.disk.tails := by
  rw [delete_disk, write_tails]

theorem fresh_acc : AccInv fresh := by
  refine ⟨List.nodup_nil, fun f => ?_, rfl, List.nodup_nil⟩
  have : dataOf fresh.disk f = [] := by
    by_cases e : 0 = f <;> simp [fresh, dataOf, AL.get, e]
  rw [this]
  exact FileAcc.empty (fun _ _ hm => nomatch hm) rfl

end Stats
end Store
