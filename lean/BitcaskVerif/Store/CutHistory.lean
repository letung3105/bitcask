/-
  Crash histories (C03): lives of acknowledged operations, each ended by a kill at an arbitrary
  cut of the operation in flight, followed by recovery.  The states reachable this way satisfy
  the recovery invariant, so the crash-cut theorems compose over any number of lives.

  `ReachC` allows merge-free operations only and kills anywhere; `ReachM` also allows merge passes
  that satisfy `opOk` (kills still inside merge-free operations only; a kill inside a merge pass
  is `stepC_cut_recoversW` in `Store/CutHazard.lean`, which does not give back a `ReachM` state).  A merge-free operation satisfies `opOk` in every state, so the
  statements about `ReachC` and merge-free runs are instances of those about `ReachM` and
  `ValidOps`.
-/
import BitcaskVerif.Store.CutRecover

namespace Store

open Tr

/-- the operation is not a merge pass -/
def mergeFree : TOp → Prop
  | .merge _ _ => False
  | _ => True

instance (op : TOp) : Decidable (mergeFree op) := by
  cases op <;> unfold mergeFree <;> infer_instance

/-- the operation on the abstract map -/
def specOp (m : Map) : TOp → Map
  | .put _ k v => m.set k v
  | .del _ k => m.del k
  | _ => m

def specRun (m : Map) (ops : List TOp) : Map := ops.foldl specOp m

/-- side conditions of an operation: a merge selects existing files in ascending order, its
    iteration order covers the KeyDir, and the selection is hazard-free -/
def opOk (s : St) : TOp → Prop
  | .merge sel order =>
    (∀ id, id ∈ sel → id ≤ s.active) ∧ Covers order s ∧ sel.Pairwise (· ≤ ·) ∧ NoHazard s sel
  | _ => True

/-- every operation of the run satisfies its side conditions in the state it is applied to -/
def ValidOps (cfg : Cfg) : St → List TOp → Prop
  | _, [] => True
  | s, op :: ops => opOk s op ∧ ValidOps cfg (stepC cfg s op).1 ops

theorem opOk_of_mergeFree (s : St) {op : TOp} (h : mergeFree op) : opOk s op := by
  cases op with
  | merge sel order => exact h.elim
  | _ => trivial

theorem validOps_of_mergeFree (cfg : Cfg) : ∀ (ops : List TOp) (s : St), (∀ op ∈ ops, mergeFree op) →
    ValidOps cfg s ops
  | [], _, _ => trivial
  | op :: ops, s, h =>
    ⟨opOk_of_mergeFree s (h op List.mem_cons_self),
      validOps_of_mergeFree cfg ops _ (fun o ho => h o (List.mem_cons_of_mem _ ho))⟩

/-- one operation keeps "recovery invariant + nothing absent resurrectable" and acts on the
    contents as on the abstract map -/
theorem stepC_rinv_ok (cfg : Cfg) {s : St} (h : RInv s) (hf : Full s) (op : TOp) (hop : opOk s op) :
    RInv (stepC cfg s op).1 ∧ Full (stepC cfg s op).1 ∧ (stepC cfg s op).1.abs = specOp s.abs op := by
  cases op with
  | put ts k v =>
    exact ⟨(put_rinv cfg s ts k v h).1, (put_rinv cfg s ts k v h).2 hf, put_abs cfg s ts k v h.inv⟩
  | del ts k =>
    -- projecting the pair first: unifying `(stepC ..).1` with `(delete ..).1` as they stand unfolds `delete`
    simp only [stepC]
    exact ⟨(delete_rinv cfg s ts k h).1, (delete_rinv cfg s ts k h).2 hf, (delete_abs cfg s ts k h.inv).1⟩
  | get k => exact ⟨h, hf, rfl⟩
  | merge sel order =>
    obtain ⟨h1, h2, _, h4⟩ := hop
    exact ⟨(mergeWith_rinv cfg s sel order h h1 h2).1, (mergeWith_full_iff cfg s sel order h h1 h2).mpr h4,
      (mergeWith_inv_abs cfg s sel order h.inv h1 h2).2⟩
  | reopen => exact ⟨(reopen_rinv h).1, (reopen_rinv h).2.1, reopen_abs h hf⟩

theorem runC_rinv_ok (cfg : Cfg) (ops : List TOp) : ∀ {s : St}, RInv s → Full s → ValidOps cfg s ops →
    RInv (runC cfg s ops) ∧ Full (runC cfg s ops) ∧ (runC cfg s ops).abs = specRun s.abs ops := by
  induction ops with
  | nil => intro s h hf _; exact ⟨h, hf, rfl⟩
  | cons op ops ih =>
    intro s h hf hv
    obtain ⟨a, b, c⟩ := stepC_rinv_ok cfg h hf op hv.1
    obtain ⟨a', b', c'⟩ := ih a b hv.2
    refine ⟨a', b', ?_⟩
    show (runC cfg (stepC cfg s op).1 ops).abs = specRun (specOp s.abs op) ops
    rw [c', c]

theorem runC_rinv (cfg : Cfg) (ops : List TOp) : ∀ {s : St}, RInv s → Full s → (∀ op ∈ ops, mergeFree op) →
    RInv (runC cfg s ops) ∧ Full (runC cfg s ops) ∧ (runC cfg s ops).abs = specRun s.abs ops :=
  fun h hf hm => runC_rinv_ok cfg ops h hf (validOps_of_mergeFree cfg ops _ hm)

/-- **a crash inside one merge-free operation**: the directory opens, and the store reads as
    before the operation or as after it -/
theorem stepC_cut_recovers (cfg : Cfg) {s : St} (h : RInv s) (hf : Full s) (op : TOp) (hop : mergeFree op)
    {c : List Call} (hc : Cut (stepC cfg s op).2 c) :
    Recovers (applyCalls s.disk c) s.abs ∨ Recovers (applyCalls s.disk c) (specOp s.abs op) := by
  cases op with
  | put ts k v => exact put_cut_recovers cfg h hf ts k v hc
  | del ts k => simp only [stepC] at hc; exact delete_cut_recovers cfg h hf ts k hc
  | get k => rw [cut_nil hc]; exact .inl (recovers_self h hf)
  | merge sel order => exact hop.elim
  | reopen => exact .inl (reopen_cut_recovers h hf hc)

/-- states reachable by merge-free operations, kills at arbitrary cuts, and recoveries -/
inductive ReachC (cfg : Cfg) : St → Prop
  | fresh : ReachC cfg fresh
  | step {s : St} (op : TOp) : ReachC cfg s → mergeFree op → ReachC cfg (stepC cfg s op).1
  | crash {s : St} (op : TOp) (c : List Call) : ReachC cfg s → mergeFree op → Cut (stepC cfg s op).2 c →
      ReachC cfg (openDisk (applyCalls s.disk c)).1

/-- states reachable by sets, deletes, reads, reopens, hazard-free merges, and kills inside
    merge-free operations followed by recovery -/
inductive ReachM (cfg : Cfg) : St → Prop
  | fresh : ReachM cfg fresh
  | step {s : St} (op : TOp) : ReachM cfg s → opOk s op → ReachM cfg (stepC cfg s op).1
  | crash {s : St} (op : TOp) (c : List Call) : ReachM cfg s → mergeFree op → Cut (stepC cfg s op).2 c →
      ReachM cfg (openDisk (applyCalls s.disk c)).1

theorem ReachC.toReachM {cfg : Cfg} {s : St} (h : ReachC cfg s) : ReachM cfg s := by
  induction h with
  | fresh => exact .fresh
  | step op _ hop ih => exact .step op ih (opOk_of_mergeFree _ hop)
  | crash op c _ hop hc ih => exact .crash op c ih hop hc

theorem reachM_rinv {cfg : Cfg} {s : St} (h : ReachM cfg s) : RInv s ∧ Full s := by
  induction h with
  | fresh => exact fresh_rinv
  | step op _ hop ih => exact ⟨(stepC_rinv_ok cfg ih.1 ih.2 op hop).1, (stepC_rinv_ok cfg ih.1 ih.2 op hop).2.1⟩
  | crash op c _ hop hc ih =>
    rcases stepC_cut_recovers cfg ih.1 ih.2 op hop hc with r | r
    · exact ⟨r.1, r.2.1⟩
    · exact ⟨r.1, r.2.1⟩

theorem reachC_rinv {cfg : Cfg} {s : St} (h : ReachC cfg s) : RInv s ∧ Full s := reachM_rinv h.toReachM

theorem ReachPD.toReachC {cfg : Cfg} {s : St} (h : ReachPD cfg s) : ReachC cfg s := by
  induction h with
  | fresh => exact .fresh
  | put ts k v _ ih => exact .step (.put ts k v) ih trivial
  | delete ts k _ ih =>
    have := ReachC.step (.del ts k) ih trivial
    simp only [stepC] at this
    exact this
  | reopen _ ih => exact .step .reopen ih trivial

theorem reachC_runC {cfg : Cfg} (ops : List TOp) : ∀ {s : St}, ReachC cfg s → (∀ op ∈ ops, mergeFree op) →
    ReachC cfg (runC cfg s ops) := by
  induction ops with
  | nil => intro s h _; exact h
  | cons op ops ih =>
    intro s h hm
    exact ih (.step op h (hm op List.mem_cons_self)) (fun o ho => hm o (List.mem_cons_of_mem _ ho))

theorem reachM_runC {cfg : Cfg} (ops : List TOp) : ∀ {s : St}, ReachM cfg s → ValidOps cfg s ops →
    ReachM cfg (runC cfg s ops) := by
  induction ops with
  | nil => intro s h _; exact h
  | cons op ops ih => intro s h hv; exact ih (.step op h hv.1) hv.2

/-- one life of the store: the acknowledged operations, the operation in flight when the process
    is killed, and what that operation had done to the directory by then -/
structure Life where
  acked : List TOp
  inflight : TOp
  cut : List Call

/-- the store after the life's crash and the following recovery -/
def crashLife (cfg : Cfg) (s : St) (l : Life) : St :=
  (openDisk (applyCalls (runC cfg s l.acked).disk l.cut)).1

def ValidLife (cfg : Cfg) (s : St) (l : Life) : Prop :=
  (∀ op ∈ l.acked, mergeFree op) ∧ mergeFree l.inflight ∧
    Cut (stepC cfg (runC cfg s l.acked) l.inflight).2 l.cut

def runLives (cfg : Cfg) : St → List Life → St
  | s, [] => s
  | s, l :: ls => runLives cfg (crashLife cfg s l) ls

def ValidLives (cfg : Cfg) : St → List Life → Prop
  | _, [] => True
  | s, l :: ls => ValidLife cfg s l ∧ ValidLives cfg (crashLife cfg s l) ls

/-- the contents the specification allows after the lives: in every life all acknowledged
    operations are applied, the one in flight is applied or not -/
def SpecLives : Map → List Life → Map → Prop
  | m, [], m' => m' = m
  | m, l :: ls, m' =>
    SpecLives (specRun m l.acked) ls m' ∨ SpecLives (specOp (specRun m l.acked) l.inflight) ls m'

theorem crashLife_spec (cfg : Cfg) {s : St} (h : ReachC cfg s) (l : Life) (hv : ValidLife cfg s l) :
    ReachC cfg (crashLife cfg s l) ∧
    ((crashLife cfg s l).abs = specRun s.abs l.acked ∨
     (crashLife cfg s l).abs = specOp (specRun s.abs l.acked) l.inflight) := by
  obtain ⟨h1, h2, h3⟩ := hv
  obtain ⟨a, b, c⟩ := runC_rinv cfg l.acked (reachC_rinv h).1 (reachC_rinv h).2 h1
  refine ⟨.crash l.inflight l.cut (reachC_runC l.acked h h1) h2 h3, ?_⟩
  rw [← c]
  exact (stepC_cut_recovers cfg a b l.inflight h2 h3).imp (·.2.2) (·.2.2)

theorem runLives_spec (cfg : Cfg) (ls : List Life) : ∀ {s : St}, ReachC cfg s → ValidLives cfg s ls →
    ReachC cfg (runLives cfg s ls) ∧ SpecLives s.abs ls (runLives cfg s ls).abs := by
  induction ls with
  | nil => intro s h _; exact ⟨h, rfl⟩
  | cons l ls ih =>
    intro s h hv
    obtain ⟨a, b⟩ := crashLife_spec cfg h l hv.1
    obtain ⟨c, d⟩ := ih a hv.2
    refine ⟨c, ?_⟩
    rcases b with b | b
    · left; rw [← b]; exact d
    · right; rw [← b]; exact d

end Store
