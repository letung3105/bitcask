/-
  The recovery invariant `RInv` of the running store (on top of `Inv`): file ids ascending,
  every KeyDir entry is what the startup scan would recover for its key, hint files exact, the
  active file un-hinted.  `Full s` says in addition that keys absent from the KeyDir are absent
  for the scan as well; together they give `reopen` = identity on what every key reads.

  This file: consequences for `openDisk` / `reopen`, preservation by `put` and `delete`.
  (`mergeWith` is in `Store/MergeRecovery.lean`.)
-/
import BitcaskVerif.Store.Recovery
import BitcaskVerif.Store.MergeLemmas

namespace Store

structure RInv (s : St) : Prop where
  inv : Inv s
  asc : Asc s.disk.data
  /-- every index entry is the one the startup scan recovers for its key -/
  wkd : ∀ k loc, AL.get k s.keydir = some loc → replay (allEvs s.disk.data) k = some loc
  hx : HintsExact s.disk
  acth : AL.get s.active s.disk.hint = none

/-- keys absent from the index are absent for the startup scan too (false after a merge that
    dropped a tombstone shadowing an older value: defect D3) -/
def Full (s : St) : Prop := ∀ k, AL.get k s.keydir = none → replay (allEvs s.disk.data) k = none

theorem RInv.kd_eq {s : St} (h : RInv s) (hf : Full s) : kdF s.keydir = replay (allEvs s.disk.data) := by
  funext k
  unfold kdF
  cases hg : AL.get k s.keydir with
  | none => exact (hf k hg).symm
  | some loc => exact (h.wkd k loc hg).symm

theorem RInv.active_mem {s : St} (h : RInv s) : s.active ∈ AL.keys s.disk.data :=
  mem_keys_of_isSome h.inv.act

theorem locOk_of_replay {d : Disk} (ha : Asc d.data) {k : Key} {loc : Loc}
    (h : replay (allEvs d.data) k = some loc) :
    LocOk d k loc ∧ ∀ r, recAt (dataOf d loc.fid) loc.pos = some r → r.ts = loc.ts := by
  obtain ⟨fid, q, r, hm, h1, he⟩ := mem_allEvs_rec ha (replay_some_mem h)
  have hk : k = r.key := congrArg Ev.key he
  have hl : loc = ⟨fid, q, r.len, r.ts⟩ := congrArg Ev.loc he
  have ht : false = r.val.isNone := congrArg Ev.tomb he
  subst hl
  refine ⟨⟨r, h1, hk.symm, ?_, rfl, (AL.isSome_get _ _).mpr hm⟩, fun r' hr' => ?_⟩
  · cases hv : r.val with
    | none => rw [hv] at ht; cases ht
    | some v => rfl
  · cases h1.symm.trans hr'; rfl

theorem RInv.ts_eq {s : St} (h : RInv s) {k : Key} {loc : Loc} (hk : AL.get k s.keydir = some loc)
    {r : Rec} (hr : recAt (dataOf s.disk loc.fid) loc.pos = some r) : r.ts = loc.ts :=
  (locOk_of_replay h.asc (h.wkd k loc hk)).2 r hr

/-! ### one more event: `put`, `delete` and a merge step all apply the event of the record they
    append to the index -/

theorem agree_snoc {kd kd' : List (Key × Loc)} {es : List Ev} {e : Ev}
    (hk : ∀ k, AL.get k kd' = applyEv (kdF kd) e k) (o : Option Loc)
    (h : ∀ k, AL.get k kd = o → replay es k = o) :
    ∀ k, AL.get k kd' = o → replay (es ++ [e]) k = o := by
  intro k hg
  rw [hk] at hg
  rw [replay_snoc]
  unfold applyEv at hg ⊢
  by_cases hkk : k = e.key
  · rw [if_pos hkk] at hg ⊢; exact hg
  · rw [if_neg hkk] at hg ⊢; exact h k hg

theorem wkd_snoc {kd kd' : List (Key × Loc)} {es : List Ev} {e : Ev}
    (hk : ∀ k, AL.get k kd' = applyEv (kdF kd) e k)
    (h : ∀ k loc, AL.get k kd = some loc → replay es k = some loc) :
    ∀ k loc, AL.get k kd' = some loc → replay (es ++ [e]) k = some loc :=
  fun k loc => agree_snoc hk (some loc) (fun k => h k loc) k

theorem full_snoc {kd kd' : List (Key × Loc)} {es : List Ev} {e : Ev}
    (hk : ∀ k, AL.get k kd' = applyEv (kdF kd) e k)
    (h : ∀ k, AL.get k kd = none → replay es k = none) :
    ∀ k, AL.get k kd' = none → replay (es ++ [e]) k = none :=
  agree_snoc hk none h

theorem allEvs_set_new {l : List (Nat × List Rec)} (ha : Asc l) {a : Nat}
    (hmax : ∀ id ∈ AL.keys l, id < a) : allEvs (AL.set a [] l) = allEvs l := by
  rw [(asc_set_new ha hmax).1, allEvs_append]
  exact List.append_nil _

theorem create_above {d : Disk} {b : Nat} (ha : Asc d.data) (hh : HintsExact d)
    (hids : ∀ id, id ∈ AL.keys d.data → id ≤ b) (hhids : ∀ id, id ∈ AL.keys d.hint → id ≤ b) :
    Asc (AL.set (b + 1) [] d.data) ∧ allEvs (AL.set (b + 1) [] d.data) = allEvs d.data ∧
    HintsExact { d with data := AL.set (b + 1) [] d.data } ∧ AL.get (b + 1) d.hint = none := by
  have hlt : ∀ id ∈ AL.keys d.data, id < b + 1 := fun id hid => Nat.lt_succ_of_le (hids id hid)
  refine ⟨(asc_set_new ha hlt).2, allEvs_set_new ha hlt, fun fid hs hg => ?_, ?_⟩
  · have hne : fid ≠ b + 1 := Nat.ne_of_lt (Nat.lt_succ_of_le (hhids fid (AL.mem_keys_of_get hg)))
    rw [dataOf_set_other d hne]
    exact hh fid hs hg
  · exact AL.get_eq_none_iff.mpr fun hm => Nat.lt_irrefl _ (hhids _ hm)

theorem openDisk_keydir (d : Disk) : (openDisk d).1.keydir = (rebuild d).1.keydir := rfl
theorem openDisk_active (d : Disk) : (openDisk d).1.active = (rebuild d).2 := rfl
theorem openDisk_disk (d : Disk) :
    (openDisk d).1.disk = { d with data := AL.set (rebuild d).2 [] d.data } := rfl

theorem openDisk_rinv {d : Disk} (ha : Asc d.data) (hh : HintsExact d) {a : Nat}
    (hm : a ∈ AL.keys d.data) (hmax : ∀ id ∈ AL.keys d.data, id ≤ a)
    (hhid : ∀ id ∈ AL.keys d.hint, id ≤ a) :
    RInv (openDisk d).1 ∧ Full (openDisk d).1 ∧ kdF (openDisk d).1.keydir = replay (allEvs d.data) ∧
      (openDisk d).1.active = a + 1 ∧
      (openDisk d).1.disk = { d with data := AL.set (a + 1) [] d.data } := by
  have hact := rebuild_snd_max hm hmax
  have hkd : kdF (openDisk d).1.keydir = replay (allEvs d.data) := rebuild_keydir ha hh
  have hdisk : (openDisk d).1.disk = { d with data := AL.set (a + 1) [] d.data } := by
    rw [openDisk_disk, hact]
  have hA : (openDisk d).1.active = a + 1 := hact
  obtain ⟨c1, c2, c3, c4⟩ := create_above ha hh hmax hhid
  have hevs : allEvs (openDisk d).1.disk.data = allEvs d.data := by rw [hdisk]; exact c2
  -- the opened store is the scanned index over `d` with the new active file created
  have hinv := (newActive_inv (s := { disk := d, keydir := (openDisk d).1.keydir }) (b := a)
    (fun k loc hk => (locOk_of_replay ha ((congrFun hkd k).symm.trans hk)).1) hmax hhid).1
  refine ⟨⟨hinv.of_eq rfl hdisk hA, ?_, fun k loc hk => ?_, ?_, ?_⟩, fun k hk => ?_, hkd, hA, hdisk⟩
  · rw [hdisk]; exact c1
  · rw [hevs, ← hkd]; exact hk
  · rw [hdisk]; exact c3
  · rw [hdisk, hA]; exact c4
  · rw [hevs, ← hkd]; exact hk

theorem reopen_rinv {s : St} (h : RInv s) :
    RInv (reopen s).1 ∧ Full (reopen s).1 ∧ kdF (reopen s).1.keydir = replay (allEvs s.disk.data) ∧
      (reopen s).1.active = s.active + 1 ∧
      (reopen s).1.disk = { s.disk with data := AL.set (s.active + 1) [] s.disk.data } :=
  openDisk_rinv h.asc h.hx h.active_mem h.inv.ids h.inv.hids

theorem reopen_abs_key {s : St} (h : RInv s) (k : Key)
    (hk : AL.get k s.keydir = none → replay (allEvs s.disk.data) k = none) :
    (reopen s).1.abs k = s.abs k := by
  obtain ⟨_, _, hkd, _, hdisk⟩ := reopen_rinv h
  refine abs_keeps (b := s.active) (fun l hl => ⟨h.inv.locs k l hl, (h.inv.locs k l hl).fid_le h.inv⟩) ?_
    (hdisk ▸ keeps_create _ _ _ (Nat.lt_succ_self _) _ _)
  rw [show AL.get k (reopen s).1.keydir = replay (allEvs s.disk.data) k from congrFun hkd k]
  cases hg : AL.get k s.keydir with
  | none => exact hk hg
  | some loc => exact h.wkd k loc hg

theorem reopen_abs {s : St} (h : RInv s) (hf : Full s) : (reopen s).1.abs = s.abs := by
  funext k; exact reopen_abs_key h k (hf k)

theorem write_events (cfg : Cfg) {s : St} (hi : Inv s) (ha : Asc s.disk.data) (r : Rec) :
    Asc (write cfg s r).1.disk.data ∧
    allEvs (write cfg s r).1.disk.data =
      allEvs s.disk.data ++ [mkEv s.active (fileSize (dataOf s.disk s.active)) r] ∧
    (HintsExact s.disk → AL.get s.active s.disk.hint = none →
      HintsExact (write cfg s r).1.disk ∧
      AL.get (write cfg s r).1.active (write cfg s r).1.disk.hint = none) := by
  have hset : Asc (AL.set s.active (dataOf s.disk s.active ++ [r]) s.disk.data) :=
    asc_set_mem ha (mem_keys_of_isSome hi.act)
  have hev : allEvs (AL.set s.active (dataOf s.disk s.active ++ [r]) s.disk.data) =
      allEvs s.disk.data ++ [mkEv s.active (fileSize (dataOf s.disk s.active)) r] :=
    allEvs_set_max ha hi.ids hi.act r
  have hhx : HintsExact s.disk → AL.get s.active s.disk.hint = none →
      HintsExact { s.disk with data := AL.set s.active (dataOf s.disk s.active ++ [r]) s.disk.data } := by
    intro hx hact fid hs hg
    have hg' : AL.get fid s.disk.hint = some hs := hg
    have hne : fid ≠ s.active := fun e => by rw [e, hact] at hg'; cases hg'
    rw [dataOf_set_other _ hne]
    exact hx fid hs hg
  by_cases hroll : s.written + r.len > cfg.maxFile
  · rw [write_roll cfg s r hroll]
    have hlt : ∀ id ∈ AL.keys (AL.set s.active (dataOf s.disk s.active ++ [r]) s.disk.data), id < s.active + 1 :=
      fun id hid => Nat.lt_succ_of_le (keys_set_le (Nat.le_refl _) hi.ids id hid)
    refine ⟨(asc_set_new hset hlt).2, (allEvs_set_new hset hlt).trans hev, fun hx hact => ?_⟩
    exact (create_above hset (hhx hx hact) (keys_set_le (Nat.le_refl _) hi.ids) hi.hids).2.2
  · rw [write_noroll cfg s r hroll]
    exact ⟨hset, hev, fun hx hact => ⟨hhx hx hact, hact⟩⟩

theorem rinv_of_write (cfg : Cfg) {s : St} (r : Rec) (h : RInv s) {s' : St} (hinv : Inv s')
    (hd : s'.disk = (write cfg s r).1.disk) (ha : s'.active = (write cfg s r).1.active)
    (hk : ∀ k, AL.get k s'.keydir = applyEv (kdF s.keydir) (mkEv s.active (fileSize (dataOf s.disk s.active)) r) k) :
    RInv s' ∧ (Full s → Full s') := by
  obtain ⟨e1, e2, e34⟩ := write_events cfg h.inv h.asc r
  obtain ⟨e3, e4⟩ := e34 h.hx h.acth
  rw [← hd] at e1 e2 e3 e4
  rw [← ha] at e4
  exact ⟨⟨hinv, e1, e2 ▸ wkd_snoc hk h.wkd, e3, e4⟩, fun hf => by unfold Full; rw [e2]; exact full_snoc hk hf⟩

theorem put_rinv (cfg : Cfg) (s : St) (ts : Int) (k : Key) (v : Val) (h : RInv s) :
    RInv (put cfg s ts k v).1 ∧ (Full s → Full (put cfg s ts k v).1) :=
  rinv_of_write cfg _ h (put_inv cfg s ts k v h.inv) (put_disk cfg s ts k v) (put_active cfg s ts k v)
    fun k' => by rw [put_keydir, AL.get_set, write_keydir, write_loc]; rfl

theorem delete_rinv (cfg : Cfg) (s : St) (ts : Int) (k : Key) (h : RInv s) :
    RInv (delete cfg s ts k).1 ∧ (Full s → Full (delete cfg s ts k).1) :=
  rinv_of_write cfg _ h (delete_inv cfg s ts k h.inv) (delete_disk cfg s ts k) (delete_active cfg s ts k)
    fun k' => by rw [delete_keydir, AL.get_del, write_keydir]; rfl

end Store
