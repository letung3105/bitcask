/-
  Lives after a crash inside a merge: opening a directory that has a visible part with
  exact hint files (`Wit`).  The opened store satisfies the lives invariant `LJw` and reads
  exactly as the opened visible part does.
-/
import BitcaskVerif.Store.LivesBase

namespace Store

theorem FileSim.congr {d1 d d1' d' : Disk} {fid : Nat} (h : FileSim d1 d fid)
    (e1 : dataOf d1' fid = dataOf d1 fid) (e2 : dataOf d' fid = dataOf d fid)
    (e3 : AL.get fid d1'.hint = AL.get fid d1.hint) (e4 : AL.get fid d'.hint = AL.get fid d.hint)
    (e5 : AL.get fid d'.tails = AL.get fid d.tails) : FileSim d1' d' fid := by
  have ha : ∀ hs, accOf d' fid hs = accOf d fid hs := by
    intro hs; unfold accOf dlen; rw [e2, e5]
  refine ⟨by rw [e1, e2]; exact h.pre, ?_, ?_⟩
  · intro hg; rw [e1, e2]; exact h.unh (by rw [← e4]; exact hg)
  · intro hs hg
    rw [e3, ha]
    exact h.acc hs (by rw [← e4]; exact hg)

theorem get_none_of_gt {β : Type} {l : List (Nat × β)} {a b : Nat} (h : ∀ id ∈ AL.keys l, id ≤ a) (hb : a < b) :
    AL.get b l = none :=
  AL.get_eq_none_iff.mpr fun hc => by have := h b hc; omega

theorem Sim.addData {d1 d : Disk} (h : Sim d1 d) {b : Nat} (hb : b ∉ AL.keys d1.data)
    (hh : AL.get b d1.hint = none) :
    Sim { d1 with data := AL.set b [] d1.data } { d with data := AL.set b [] d.data } := by
  have hb' : b ∉ AL.keys d.data := by rw [h.keys]; exact hb
  refine ⟨?_, h.hkeys, h.tl, ?_⟩
  · show AL.keys (AL.set b [] d.data) = AL.keys (AL.set b [] d1.data)
    rw [keys_set_new _ _ _ hb, keys_set_new _ _ _ hb', h.keys]
  · intro fid
    by_cases e : fid = b
    · subst e
      exact .unhinted (h.hint_none.mpr hh) (by rw [dataOf_set_same, dataOf_set_same])
    · exact (h.file fid).congr (dataOf_set_other _ e _) (dataOf_set_other _ e _) rfl rfl rfl

theorem JunkOK.addData {d1 d : Disk} {f : IdxF} (h : JunkOK d1 d f) {b : Nat} (hb : b ∉ AL.keys d.data) :
    JunkOK { d1 with data := AL.set b [] d1.data } { d with data := AL.set b [] d.data } f := by
  intro fid p j h1 h2
  by_cases e : fid = b
  · subst e
    rw [dataOf_set_same] at h1
    cases h1
  · rw [dataOf_set_other _ e] at h1 h2
    obtain ⟨a1, a2⟩ := h fid p j h1 h2
    refine ⟨a1, fun loc hl hlt => ?_⟩
    have := a2 loc hl hlt
    have hne : loc.fid ≠ b := fun e' => hb (e' ▸ mem_keys_of_isSome (isSome_of_recAt this))
    rw [dataOf_set_other _ hne]
    exact this

/-- `d1` is a visible part of `d` with ascending ids (largest: `a`) and exact hint files -/
structure Wit (d1 d : Disk) (a : Nat) : Prop where
  asc : Asc d1.data
  hx : HintsExact d1
  mem : a ∈ AL.keys d1.data
  max : ∀ id ∈ AL.keys d1.data, id ≤ a
  hmax : ∀ id ∈ AL.keys d1.hint, id ≤ a
  sim : Sim d1 d

theorem Wit.asc' {d1 d : Disk} {a : Nat} (h : Wit d1 d a) : Asc d.data := by
  unfold Asc; rw [h.sim.keys]; exact h.asc

theorem Wit.keydir {d1 d : Disk} {a : Nat} (h : Wit d1 d a) :
    kdF (openDisk d).1.keydir = replay (allEvs d1.data) := by
  rw [openDisk_keydir, h.sim.rebuild h.hx]
  exact rebuild_keydir h.asc h.hx

theorem Wit.clean {d1 d : Disk} {a : Nat} (h : Wit d1 d a) : Clean d1 (rebuild d1).1.keydir a :=
  have hkd := rebuild_keydir h.asc h.hx
  ⟨h.asc, h.hx, h.mem, h.max, h.hmax, fun _ _ hk => (locOk_of_replay h.asc (by rw [← hkd]; exact hk)).1, hkd⟩

theorem Wit.open_disk {d1 d : Disk} {a : Nat} (h : Wit d1 d a) :
    (openDisk d).1.disk = { d with data := AL.set (a + 1) [] d.data } := by
  rw [openDisk_disk, h.sim.rebuild h.hx, rebuild_snd_max h.mem h.max]

theorem Wit.open_eq {d1 d : Disk} {a : Nat} (h : Wit d1 d a) :
    ({ (openDisk d).1 with disk := (openDisk d1).1.disk } : St) = (openDisk d1).1 := by
  simp only [openDisk, h.sim.rebuild h.hx]

end Store
