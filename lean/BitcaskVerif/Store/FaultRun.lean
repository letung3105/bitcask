/-
  Histories with failed writes (C20): `stepF` / `runF`, their specification on the abstract map,
  the one-step refinement, and the durable map (what a restart reads) for merge-free histories.
-/
import BitcaskVerif.Store.FaultRecovery

namespace Store.Tr
inductive FOut where
  | done (o : OpOut)
  | error
deriving DecidableEq

def FOut.ofPut : Bool → FOut
  | true => .done .done
  | false => .error

def FOut.ofDel : Option Bool → FOut
  | some b => .done (.flag b)
  | none => .error

/-- one operation, possibly with a failing call (faults are modelled for put and delete; a `get`
    or `merge` paired with a fault runs fault-free) -/
def stepF (cfg : Cfg) (s : St) (op : Op) (fault : Option Fault) : St × FOut :=
  match op with
  | .put k v => ((putF cfg s 0 k v fault).1, .ofPut (putF cfg s 0 k v fault).2)
  | .del k => ((deleteF cfg s 0 k fault).1, .ofDel (deleteF cfg s 0 k fault).2)
  | .get k => (s, .done (.read (get s k)))
  | .merge sel order => ((mergeWith cfg s sel order).1, .done .done)

/-- the specification: a failed put / delete returns the error and has no effect -/
def _root_.Store.Map.stepF (m : Map) (op : Op) (fault : Option Fault) : Map × FOut :=
  match op, fault with
  | .put _ _, some _ => (m, .error)
  | .del _, some _ => (m, .error)
  | op, _ => ((m.step op).1, .done (m.step op).2)

def runF (cfg : Cfg) : St → List (Op × Option Fault) → St × List FOut
  | s, [] => (s, [])
  | s, (op, fl) :: ops => ((runF cfg (stepF cfg s op fl).1 ops).1, (stepF cfg s op fl).2 :: (runF cfg (stepF cfg s op fl).1 ops).2)

def _root_.Store.Map.runF : Map → List (Op × Option Fault) → Map × List FOut
  | m, [] => (m, [])
  | m, (op, fl) :: ops => ((Map.runF (m.stepF op fl).1 ops).1, (m.stepF op fl).2 :: (Map.runF (m.stepF op fl).1 ops).2)

def ValidF (cfg : Cfg) : St → List (Op × Option Fault) → Prop
  | _, [] => True
  | s, (op, fl) :: ops =>
    (match op with
     | .merge sel order => (∀ id, id ∈ sel → id ≤ s.active) ∧ Covers order s
     | _ => True) ∧ ValidF cfg (stepF cfg s op fl).1 ops

/-- an operation with a fault is the plain operation (no fault, or a `get` / `merge`), or a failed
    write; the specification makes the same distinction -/
theorem stepF_cases (cfg : Cfg) (s : St) (op : Op) (fl : Option Fault) :
    (stepF cfg s op fl = ((step cfg s op).1, .done (step cfg s op).2) ∧
      ∀ m : Map, m.stepF op fl = ((m.step op).1, .done (m.step op).2)) ∨
    ∃ r f, stepF cfg s op fl = (writeF s r f, .error) ∧ ∀ m : Map, m.stepF op fl = (m, .error) := by
  cases fl with
  | none => cases op <;> exact .inl ⟨rfl, fun _ => rfl⟩
  | some f =>
    cases op with
    | put k v => exact .inr ⟨_, f, rfl, fun _ => rfl⟩
    | del k => exact .inr ⟨_, f, rfl, fun _ => rfl⟩
    | get k => exact .inl ⟨rfl, fun _ => rfl⟩
    | merge sel order => exact .inl ⟨rfl, fun _ => rfl⟩

theorem stepF_refines (cfg : Cfg) (s : St) (op : Op) (fl : Option Fault) (h : Inv s)
    (hv : match op with
          | .merge sel order => (∀ id, id ∈ sel → id ≤ s.active) ∧ Covers order s
          | _ => True) :
    Inv (stepF cfg s op fl).1 ∧ (stepF cfg s op fl).2 = (s.abs.stepF op fl).2 ∧
      (stepF cfg s op fl).1.abs = (s.abs.stepF op fl).1 := by
  rcases stepF_cases cfg s op fl with ⟨e, em⟩ | ⟨r, f, e, em⟩ <;> rw [e, em]
  · obtain ⟨a, b, c⟩ := step_refines cfg s op h hv
    exact ⟨a, congrArg FOut.done b, c⟩
  · exact ⟨writeF_inv s r f h, rfl, writeF_abs s r f h⟩

/-- the id invariant (`Store/TraceLemmas.lean`) holds along every history with failed writes -/
theorem stepF_idinv (cfg : Cfg) (s : St) (op : Op) (fl : Option Fault) (h : IdInv s)
    (hv : match op with
          | .merge sel order => (∀ id, id ∈ sel → id ≤ s.active) ∧ Covers order s
          | _ => True) : IdInv (stepF cfg s op fl).1 := by
  rcases stepF_cases cfg s op fl with ⟨e, _⟩ | ⟨r, f, e, _⟩ <;> rw [e]
  · rw [← stepC_ofOp]
    refine stepC_idinv cfg s _ h ?_
    cases op with
    | merge sel order => exact hv.1
    | _ => trivial
  · exact writeF_idinv s r f h

theorem runF_idinv (cfg : Cfg) (ops : List (Op × Option Fault)) : ∀ (s : St), IdInv s → ValidF cfg s ops →
    IdInv (runF cfg s ops).1 := by
  induction ops with
  | nil => intro s h _; exact h
  | cons x ops ih =>
    obtain ⟨op, fl⟩ := x
    intro s h hv
    exact ih _ (stepF_idinv cfg s op fl h hv.1) hv.2

/-- the durable effect of one operation: a successful put / delete is durable; a failed one is
    durable iff its entry reached the file completely -/
def _root_.Store.Map.stepDur (d : Map) (op : Op) (fl : Option Fault) : Map :=
  match op, fl with
  | .put k v, none => d.set k v
  | .put k v, some f => if f.taken then d.set k v else d
  | .del k, none => d.del k
  | .del k, some f => if f.taken then d.del k else d
  | _, _ => d

def _root_.Store.Map.runDur : Map → List (Op × Option Fault) → Map
  | d, [] => d
  | d, (op, fl) :: ops => Map.runDur (d.stepDur op fl) ops

def _root_.Store.Op.isMerge : Op → Bool
  | .merge _ _ => true
  | _ => false

/-- histories without merges -/
def NoMerge (ops : List (Op × Option Fault)) : Prop := ∀ x, x ∈ ops → x.1.isMerge = false

instance (ops : List (Op × Option Fault)) : Decidable (NoMerge ops) :=
  inferInstanceAs (Decidable (∀ x, x ∈ ops → x.1.isMerge = false))

theorem NoMerge.head {x : Op × Option Fault} {ops : List (Op × Option Fault)} (h : NoMerge (x :: ops)) :
    x.1.isMerge = false := h x List.mem_cons_self

theorem NoMerge.tail {x : Op × Option Fault} {ops : List (Op × Option Fault)} (h : NoMerge (x :: ops)) :
    NoMerge ops := fun y hy => h y (List.mem_cons_of_mem _ hy)

theorem set_eq_ite (d : Map) (k : Key) (v : Val) :
    d.set k v = fun k' => if k' = ({ ts := 0, key := k, val := some v } : Rec).key then
      ({ ts := 0, key := k, val := some v } : Rec).val else d k' := rfl

theorem del_eq_ite (d : Map) (k : Key) :
    d.del k = fun k' => if k' = ({ ts := 0, key := k, val := none } : Rec).key then
      ({ ts := 0, key := k, val := none } : Rec).val else d k' := rfl

/-- one operation without merge: the durability invariant is kept and the durable map makes the
    step `Map.stepDur` -/
theorem stepF_dur (cfg : Cfg) (s : St) (op : Op) (fl : Option Fault) (h : DurInv s)
    (hm : op.isMerge = false) :
    DurInv (stepF cfg s op fl).1 ∧ (reopen (stepF cfg s op fl).1).1.abs = ((reopen s).1.abs).stepDur op fl := by
  cases op with
  | merge sel order => cases hm
  | get k => cases fl <;> exact ⟨h, rfl⟩
  | put k v =>
    cases fl with
    | none => simp only [stepF, putF]; exact write_dur cfg s _ h (put_disk ..) (put_active ..)
    | some f =>
      simp only [stepF, putF, Map.stepDur]
      refine ⟨(writeF_dur s _ f h).1, (writeF_dur s _ f h).2.trans ?_⟩
      cases f.taken <;> rfl
  | del k =>
    cases fl with
    | none => simp only [stepF, deleteF]; exact write_dur cfg s _ h (delete_disk ..) (delete_active ..)
    | some f =>
      simp only [stepF, deleteF, Map.stepDur]
      refine ⟨(writeF_dur s _ f h).1, (writeF_dur s _ f h).2.trans ?_⟩
      cases f.taken <;> rfl

theorem runF_dur (cfg : Cfg) (ops : List (Op × Option Fault)) : ∀ (s : St), DurInv s → NoMerge ops →
    DurInv (runF cfg s ops).1 ∧ (reopen (runF cfg s ops).1).1.abs = Map.runDur (reopen s).1.abs ops := by
  induction ops with
  | nil => intro s h _; exact ⟨h, rfl⟩
  | cons x ops ih =>
    obtain ⟨op, fl⟩ := x
    intro s h hm
    obtain ⟨a, b⟩ := stepF_dur cfg s op fl h hm.head
    obtain ⟨c, d⟩ := ih _ a hm.tail
    simp only [runF, Map.runDur]
    exact ⟨c, by rw [d, b]⟩

theorem valid_of_not_merge (s : St) (o : Op) : o.isMerge = false →
    (match o with
     | .merge sel order => (∀ id, id ∈ sel → id ≤ s.active) ∧ Covers order s
     | _ => True) := by
  intro h
  cases o with
  | merge sel order => cases h
  | _ => trivial

theorem validF_of_noMerge (cfg : Cfg) (ops : List (Op × Option Fault)) : ∀ (s : St), NoMerge ops → ValidF cfg s ops := by
  induction ops with
  | nil => intro s _; trivial
  | cons x ops ih => intro s hm; exact ⟨valid_of_not_merge s x.1 hm.head, ih _ hm.tail⟩

/-- after a restart no read hits a bad location -/
theorem DurInv.reads_sound {s : St} (h : DurInv s) (k : Key) : get (reopen s).1 k ≠ .corrupt := by
  cases hk : AL.get k (reopen s).1.keydir with
  | none => rw [get_absent_of_none hk]; simp
  | some loc =>
    obtain ⟨v, hv⟩ := get_of_locOk hk (h.locs k loc hk)
    rw [hv]; simp

/-- is the last put / delete of `k` in the history a failed one? (`b`: the status before) -/
def dirtyAfter (k : Key) : Bool → List (Op × Option Fault) → Bool
  | b, [] => b
  | b, (op, fl) :: ops =>
    dirtyAfter k (match op with
      | .put k' _ => if k' = k then fl.isSome else b
      | .del k' => if k' = k then fl.isSome else b
      | _ => b) ops

/-- the acknowledged map and the durable map agree on every key that is not dirty -/
theorem dur_agree (k : Key) (ops : List (Op × Option Fault)) : ∀ (b : Bool) (m d : Map),
    (b = false → m k = d k) → dirtyAfter k b ops = false → (Map.runF m ops).1 k = Map.runDur d ops k := by
  induction ops with
  | nil => intro b m d h hb; exact h hb
  | cons x ops ih =>
    obtain ⟨op, fl⟩ := x
    intro b m d h hb
    simp only [Map.runF, Map.runDur]
    simp only [dirtyAfter] at hb
    refine ih _ _ _ ?_ hb
    cases op with
    | get k' | merge sel order => intro hb'; cases fl <;> exact h hb'
    | put k' v | del k' =>
      by_cases e : k' = k
      · -- a write to `k` after which `k` is not dirty was acknowledged: both maps get the same update
        simp only [e, ↓reduceIte]
        intro hfl
        cases fl with
        | none => simp [Map.stepF, Map.stepDur, Map.step, Map.set, Map.del]
        | some f => simp at hfl
      · -- a write to another key, whether it took effect or not, changes neither map at `k`
        simp only [e, ↓reduceIte]
        intro hb'
        have e' : ¬ k = k' := fun c => e c.symm
        cases fl with
        | none => simp [Map.stepF, Map.stepDur, Map.step, Map.set, Map.del, e', h hb']
        | some f =>
          by_cases ht : f.taken = true
          · simp [Map.stepF, Map.stepDur, ht, Map.set, Map.del, e', h hb']
          · simp [Map.stepF, Map.stepDur, ht, h hb']

/-- reopening twice rebuilds the same index as reopening once -/
theorem rebuild_reopen {s : St} (h : IdInv s) : (rebuild (reopen s).1.disk).1 = (rebuild s.disk).1 := by
  rw [reopen_disk, reopen_active h]
  exact (rebuild_create s.disk (b := s.active + 1) _ (fun x hx => Nat.lt_succ_of_le (h.ids x hx))
    (h.no_hint (Nat.le_succ _)) fun _ _ => rfl).1

/-- the restarted store is itself healthy to restart, and restarting it changes nothing -/
theorem DurInv.reopen_again {s : St} (h : DurInv s) :
    DurInv (reopen s).1 ∧ (reopen (reopen s).1).1.abs = (reopen s).1.abs :=
  h.of_same (reopen_idinv h.idinv) (rebuild_reopen h.idinv) (reopen_dataOf h.idinv)

/-- the restarted store satisfies the store invariant and is itself healthy to restart -/
theorem DurInv.reopen {s : St} (h : DurInv s) : Inv (reopen s).1 ∧ DurInv (reopen s).1 :=
  have hi := reopen_idinv h.idinv
  ⟨⟨h.locs, hi.ids, fun id hid => Nat.le_of_lt (hi.hlt id hid), hi.act⟩, h.reopen_again.1⟩

/-- history events: an operation (possibly failing), or a restart of the store -/
inductive HEv where
  | op (o : Op) (fl : Option Fault)
  | restart

def stepH (cfg : Cfg) (s : St) : HEv → St × Option FOut
  | .op o fl => ((stepF cfg s o fl).1, some (stepF cfg s o fl).2)
  | .restart => ((reopen s).1, none)

def runH (cfg : Cfg) : St → List HEv → St × List (Option FOut)
  | s, [] => (s, [])
  | s, e :: es => ((runH cfg (stepH cfg s e).1 es).1, (stepH cfg s e).2 :: (runH cfg (stepH cfg s e).1 es).2)

/-- the specification: the acknowledged map `m` and the durable map `d`; a restart forgets `m` -/
structure SpecSt where
  m : Map
  d : Map

def SpecSt.step (x : SpecSt) : HEv → SpecSt × Option FOut
  | .op o fl => ({ m := (x.m.stepF o fl).1, d := x.d.stepDur o fl }, some (x.m.stepF o fl).2)
  | .restart => ({ m := x.d, d := x.d }, none)

def SpecSt.run : SpecSt → List HEv → SpecSt × List (Option FOut)
  | x, [] => (x, [])
  | x, e :: es => ((SpecSt.run (x.step e).1 es).1, (x.step e).2 :: (SpecSt.run (x.step e).1 es).2)

def HEv.isMerge : HEv → Bool
  | .op o _ => o.isMerge
  | .restart => false

structure HRel (s : St) (x : SpecSt) : Prop where
  inv : Inv s
  dur : DurInv s
  abs : s.abs = x.m
  dabs : (reopen s).1.abs = x.d

theorem stepH_refines (cfg : Cfg) (s : St) (x : SpecSt) (e : HEv) (h : HRel s x) (hm : e.isMerge = false) :
    HRel (stepH cfg s e).1 (x.step e).1 ∧ (stepH cfg s e).2 = (x.step e).2 := by
  cases e with
  | restart => exact ⟨⟨h.dur.reopen.1, h.dur.reopen_again.1, h.dabs, h.dur.reopen_again.2.trans h.dabs⟩, rfl⟩
  | op o fl =>
    have hm' : o.isMerge = false := hm
    have hv := valid_of_not_merge s o hm'
    obtain ⟨i1, i2, i3⟩ := stepF_refines cfg s o fl h.inv hv
    obtain ⟨d1, d2⟩ := stepF_dur cfg s o fl h.dur hm'
    refine ⟨⟨i1, d1, ?_, ?_⟩, ?_⟩
    · show (stepF cfg s o fl).1.abs = (x.m.stepF o fl).1
      rw [i3, h.abs]
    · show (reopen (stepF cfg s o fl).1).1.abs = x.d.stepDur o fl
      rw [d2, h.dabs]
    · show some (stepF cfg s o fl).2 = some (x.m.stepF o fl).2
      rw [i2, h.abs]

theorem runH_refines (cfg : Cfg) (es : List HEv) : ∀ (s : St) (x : SpecSt), HRel s x →
    (∀ e, e ∈ es → e.isMerge = false) →
    (runH cfg s es).2 = (x.run es).2 ∧ HRel (runH cfg s es).1 (x.run es).1 := by
  induction es with
  | nil => intro s x h _; exact ⟨rfl, h⟩
  | cons e es ih =>
    intro s x h hm
    obtain ⟨a, b⟩ := stepH_refines cfg s x e h (hm e List.mem_cons_self)
    obtain ⟨c, d⟩ := ih _ _ a (fun y hy => hm y (List.mem_cons_of_mem _ hy))
    simp only [runH, SpecSt.run]
    exact ⟨by rw [b, c], d⟩

theorem fresh_hrel : HRel fresh { m := Map.empty, d := Map.empty } :=
  ⟨fresh_inv, fresh_durInv, fresh_abs, fresh_dur_abs⟩

end Store.Tr