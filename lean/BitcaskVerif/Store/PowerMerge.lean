/-
  Power loss (C09): durability bookkeeping for data AND hint files, power-loss images, and the
  two shapes such an image can have:
    * everything durable: the image has the same files with the same contents (`SameFiles`);
    * everything durable except the current merge output `mid`: the image is the directory with
      the output's data file and hint file cut back independently (`OutImage`).
-/
import BitcaskVerif.Store.CutHazard
import BitcaskVerif.Store.SyncLemmas

namespace AL

theorem forall_getD {β : Type} {d : β} {P : Nat → β → Prop} (hd : ∀ id, P id d) :
    ∀ {l : List (Nat × β)}, (∀ p ∈ l, P p.1 p.2) → ∀ id, P id ((AL.get id l).getD d)
  | [], _, id => hd id
  | (k, v) :: xs, h, id => by
    by_cases e : k = id
    · subst e
      simp only [AL.get, ↓reduceIte, Option.getD_some]
      exact h _ List.mem_cons_self
    · simp only [AL.get, e, ↓reduceIte]
      exact AL.forall_getD hd (fun p hp => h p (List.mem_cons_of_mem _ hp)) id

end AL

namespace Store

def hintsOf (d : Disk) (id : Nat) : List Hint := (AL.get id d.hint).getD []
def tailOf (d : Disk) (id : Nat) : Nat := (AL.get id d.tails).getD 0

theorem get_map_val {β γ : Type} (g : Nat → β → γ) (id : Nat) (l : List (Nat × β)) :
    AL.get id (l.map (fun p => (p.1, g p.1 p.2))) = (AL.get id l).map (g id) := by
  induction l with
  | nil => rfl
  | cons x xs ih =>
    obtain ⟨k', v'⟩ := x
    by_cases e : k' = id
    · subst e; simp [AL.get]
    · simp only [List.map_cons, AL.get, e, ↓reduceIte, ih]

theorem keys_map_val {β γ : Type} (g : Nat → β → γ) (l : List (Nat × β)) :
    AL.keys (l.map (fun p => (p.1, g p.1 p.2))) = AL.keys l := by
  simp [AL.keys, List.map_map, Function.comp_def]

/-- a directory and, per data file / hint file, the number of entries on stable storage -/
structure SDisk2 where
  disk : Disk
  dsync : List (Nat × Nat)
  hsync : List (Nat × Nat)

def SDisk2.dOf (sd : SDisk2) (id : Nat) : Nat := (AL.get id sd.dsync).getD 0
def SDisk2.hOf (sd : SDisk2) (id : Nat) : Nat := (AL.get id sd.hsync).getD 0

def dsyncAfter (sd : SDisk2) : Call → List (Nat × Nat)
  | .fsync f =>
    match f.kind with
    | .data => AL.set f.id (dataOf sd.disk f.id).length sd.dsync
    | .hint => sd.dsync
  | .create f =>
    match f.kind with
    | .data => AL.set f.id 0 sd.dsync
    | .hint => sd.dsync
  | _ => sd.dsync

def hsyncAfter (sd : SDisk2) : Call → List (Nat × Nat)
  | .fsync f =>
    match f.kind with
    | .data => sd.hsync
    | .hint => AL.set f.id (hintsOf sd.disk f.id).length sd.hsync
  | .create f =>
    match f.kind with
    | .data => sd.hsync
    | .hint => AL.set f.id 0 sd.hsync
  | _ => sd.hsync

def syncCall2 (sd : SDisk2) (c : Call) : SDisk2 :=
  { disk := applyCall sd.disk c, dsync := dsyncAfter sd c, hsync := hsyncAfter sd c }

def syncCalls2 (sd : SDisk2) (cs : List Call) : SDisk2 := cs.foldl syncCall2 sd

@[simp] theorem syncCalls2_nil (sd : SDisk2) : syncCalls2 sd [] = sd := rfl
@[simp] theorem syncCalls2_cons (sd : SDisk2) (c : Call) (cs : List Call) :
    syncCalls2 sd (c :: cs) = syncCalls2 (syncCall2 sd c) cs := rfl
theorem syncCalls2_append (sd : SDisk2) (a b : List Call) :
    syncCalls2 sd (a ++ b) = syncCalls2 (syncCalls2 sd a) b := by
  simp [syncCalls2, List.foldl_append]

theorem syncCalls2_disk (cs : List Call) : ∀ (sd : SDisk2), (syncCalls2 sd cs).disk = applyCalls sd.disk cs := by
  induction cs with
  | nil => intro sd; rfl
  | cons c cs ih => intro sd; simp only [syncCalls2_cons, applyCalls_cons, ih]; rfl

def SyncedAt (sd : SDisk2) (id : Nat) : Prop :=
  (dataOf sd.disk id).length ≤ sd.dOf id ∧ (hintsOf sd.disk id).length ≤ sd.hOf id

def FullySynced2 (sd : SDisk2) : Prop := ∀ id, SyncedAt sd id

def AllBut (mid : Nat) (sd : SDisk2) : Prop := ∀ id, id ≠ mid → SyncedAt sd id

theorem FullySynced2.allBut {sd : SDisk2} (h : FullySynced2 sd) (mid : Nat) : AllBut mid sd := fun id _ => h id

def DurAt {α : Type} (l : List (Nat × List α)) (sy : List (Nat × Nat)) (id : Nat) : Prop :=
  ((AL.get id l).getD []).length ≤ (AL.get id sy).getD 0

section DurAt
variable {α : Type} {l : List (Nat × List α)} {sy : List (Nat × Nat)} {id : Nat}

theorem durAt_fsync_same (l : List (Nat × List α)) (sy : List (Nat × Nat)) (f : Nat) :
    DurAt l (AL.set f ((AL.get f l).getD []).length sy) f := by
  unfold DurAt
  rw [AL.get_set_same]
  exact Nat.le_refl _

theorem durAt_map_length (l : List (Nat × List α)) (id : Nat) : DurAt l (l.map fun p => (p.1, p.2.length)) id := by
  unfold DurAt
  rw [get_map_val (fun _ (v : List α) => v.length)]
  cases AL.get id l <;> exact Nat.le_refl _

theorem DurAt.fsync (h : DurAt l sy id) (f : Nat) : DurAt l (AL.set f ((AL.get f l).getD []).length sy) id := by
  by_cases e : id = f
  · subst e; exact durAt_fsync_same l sy id
  · unfold DurAt; rw [AL.get_set_other e]; exact h

theorem DurAt.set (h : DurAt l sy id) (f : Nat) {v : List α} {n : Nat} (hv : v.length ≤ n) :
    DurAt (AL.set f v l) (AL.set f n sy) id := by
  unfold DurAt
  by_cases e : id = f
  · subst e; rw [AL.get_set_same, AL.get_set_same]; exact hv
  · rw [AL.get_set_other e, AL.get_set_other e]; exact h

theorem DurAt.del (h : DurAt l sy id) (f : Nat) : DurAt (AL.del f l) sy id := by
  unfold DurAt
  by_cases e : id = f
  · subst e; rw [AL.get_del_same]; exact Nat.zero_le _
  · rw [AL.get_del_other e]; exact h

theorem DurAt.append (h : DurAt l sy id) {f : Nat} (hf : f ≠ id) (v : List α) : DurAt (AL.set f v l) sy id := by
  unfold DurAt
  rw [AL.get_set_other (Ne.symm hf)]
  exact h

end DurAt

theorem syncedAt_step {sd : SDisk2} {id : Nat} (h : SyncedAt sd id) (c : Call)
    (hc : ∀ f p, c = Call.append f p → f.id ≠ id) : SyncedAt (syncCall2 sd c) id := by
  cases c with
  | create f =>
    obtain ⟨kd, fid⟩ := f
    cases kd
    · exact ⟨DurAt.set h.1 fid (Nat.le_refl 0), h.2⟩
    · exact ⟨h.1, DurAt.set h.2 fid (Nat.le_refl 0)⟩
  | fsync f =>
    obtain ⟨kd, fid⟩ := f
    cases kd
    · exact ⟨DurAt.fsync h.1 fid, h.2⟩
    · exact ⟨h.1, DurAt.fsync h.2 fid⟩
  | unlink f =>
    obtain ⟨kd, fid⟩ := f
    cases kd
    · exact ⟨DurAt.del h.1 fid, h.2⟩
    · exact ⟨h.1, DurAt.del h.2 fid⟩
  | append f p =>
    obtain ⟨kd, fid⟩ := f
    have e : fid ≠ id := hc _ _ rfl
    cases kd <;> cases p
    · exact ⟨DurAt.append h.1 e _, h.2⟩
    · exact h
    · exact h
    · exact h
    · exact ⟨h.1, DurAt.append h.2 e _⟩
    · exact h

theorem SyncedAt.steps {sd : SDisk2} {id : Nat} (h : SyncedAt sd id) (cs : List Call)
    (hc : ∀ c ∈ cs, ∀ f p, c = Call.append f p → f.id ≠ id) : SyncedAt (syncCalls2 sd cs) id := by
  induction cs generalizing sd with
  | nil => exact h
  | cons c cs ih =>
    exact ih (syncedAt_step h c (hc c List.mem_cons_self)) (fun x hx => hc x (List.mem_cons_of_mem _ hx))

theorem allBut_append {mid : Nat} {sd : SDisk2} (h : AllBut mid sd) (kd : Kind) (p : Payload) :
    AllBut mid (syncCall2 sd (.append ⟨kd, mid⟩ p)) :=
  fun id hid => syncedAt_step (h id hid) _ (fun _ _ e => by cases e; exact Ne.symm hid)

theorem allBut_noAppend {mid : Nat} {sd : SDisk2} (h : AllBut mid sd) (cs : List Call)
    (hc : ∀ c ∈ cs, ∀ f p, c ≠ Call.append f p) : AllBut mid (syncCalls2 sd cs) :=
  fun id hid => (h id hid).steps cs (fun c hm f p e => absurd e (hc c hm f p))

theorem fullySynced2_steps (cs : List Call) : ∀ {sd : SDisk2}, FullySynced2 sd →
    (∀ c ∈ cs, ∀ f p, c ≠ Call.append f p) → FullySynced2 (syncCalls2 sd cs) :=
  fun h hc id => (h id).steps cs (fun c hm f p e => absurd e (hc c hm f p))

theorem allBut_fsyncs {sd : SDisk2} {mid : Nat} (h : AllBut mid sd) :
    FullySynced2 (syncCalls2 sd [Call.fsync ⟨.data, mid⟩, Call.fsync ⟨.hint, mid⟩]) := by
  intro id
  by_cases e : id = mid
  · subst e
    exact ⟨durAt_fsync_same _ _ _, durAt_fsync_same _ _ _⟩
  · exact syncedAt_step (syncedAt_step (h id e) (.fsync ⟨.data, mid⟩) (fun _ _ e => nomatch e))
      (.fsync ⟨.hint, mid⟩) (fun _ _ e => nomatch e)

def lossImage2 (d : Disk) (kD kH : Nat → Nat) (T : List (Nat × Nat)) : Disk :=
  { data := d.data.map (fun p => (p.1, p.2.take (kD p.1))),
    hint := d.hint.map (fun p => (p.1, p.2.take (kH p.1))),
    tails := T }

/-- where records were lost, the partial record left behind is shorter than the first lost
    record -/
def TailOk (d : Disk) (kD : Nat → Nat) (T : List (Nat × Nat)) : Prop :=
  ∀ id r, (dataOf d id)[kD id]? = some r → (AL.get id T).getD 0 < r.len

/-- `I` is a directory a power failure can leave: every data file and every hint file keeps at
    least its durable entries (independently of each other), all files still exist -/
def PowerLoss2 (sd : SDisk2) (I : Disk) : Prop :=
  ∃ kD kH T, (∀ id, sd.dOf id ≤ kD id) ∧ (∀ id, sd.hOf id ≤ kH id) ∧ TailOk sd.disk kD T ∧
    I = lossImage2 sd.disk kD kH T

theorem dataOf_lossImage2 (d : Disk) (kD kH : Nat → Nat) (T : List (Nat × Nat)) (id : Nat) :
    dataOf (lossImage2 d kD kH T) id = (dataOf d id).take (kD id) := by
  simp only [dataOf, lossImage2]
  rw [get_map_val (fun id (rs : List Rec) => rs.take (kD id))]
  cases AL.get id d.data <;> simp

theorem keys_lossImage2 (d : Disk) (kD kH : Nat → Nat) (T : List (Nat × Nat)) :
    AL.keys (lossImage2 d kD kH T).data = AL.keys d.data ∧
    AL.keys (lossImage2 d kD kH T).hint = AL.keys d.hint :=
  ⟨keys_map_val (fun id (rs : List Rec) => rs.take (kD id)) _,
   keys_map_val (fun id (hs : List Hint) => hs.take (kH id)) _⟩

theorem getHint_lossImage2 (d : Disk) (kD kH : Nat → Nat) (T : List (Nat × Nat)) (id : Nat) :
    AL.get id (lossImage2 d kD kH T).hint = (AL.get id d.hint).map (fun hs => hs.take (kH id)) := by
  simp only [lossImage2]
  exact get_map_val (fun id (hs : List Hint) => hs.take (kH id)) id d.hint

theorem hintsOf_lossImage2 (d : Disk) (kD kH : Nat → Nat) (T : List (Nat × Nat)) (id : Nat) :
    hintsOf (lossImage2 d kD kH T) id = (hintsOf d id).take (kH id) := by
  simp only [hintsOf, getHint_lossImage2]
  cases AL.get id d.hint <;> simp

/-! ### the conditions of `PowerLoss2` on a concrete directory, entry by entry (so that `decide` applies) -/

theorem SDisk2.dOf_le {sd : SDisk2} {kD : Nat → Nat} (h : ∀ p ∈ sd.dsync, p.2 ≤ kD p.1) (id : Nat) :
    sd.dOf id ≤ kD id :=
  AL.forall_getD (P := fun id n => n ≤ kD id) (fun _ => Nat.zero_le _) h id

theorem SDisk2.hOf_le {sd : SDisk2} {kH : Nat → Nat} (h : ∀ p ∈ sd.hsync, p.2 ≤ kH p.1) (id : Nat) :
    sd.hOf id ≤ kH id :=
  AL.forall_getD (P := fun id n => n ≤ kH id) (fun _ => Nat.zero_le _) h id

theorem tailOk_of_files {d : Disk} {kD : Nat → Nat} {T : List (Nat × Nat)}
    (h : ∀ p ∈ d.data, ∀ r : Rec, r ∈ p.2[kD p.1]? → (AL.get p.1 T).getD 0 < r.len) : TailOk d kD T :=
  fun id => AL.forall_getD (P := fun id (rs : List Rec) => ∀ r, rs[kD id]? = some r → (AL.get id T).getD 0 < r.len)
    (fun _ _ hr => by simp at hr) h id

/-- same files, same contents (tails may differ) -/
structure SameFiles (d I : Disk) : Prop where
  keys : AL.keys I.data = AL.keys d.data
  hkeys : AL.keys I.hint = AL.keys d.hint
  data : ∀ fid, dataOf I fid = dataOf d fid
  hint : ∀ fid, AL.get fid I.hint = AL.get fid d.hint

structure OutImage (d : Disk) (mid : Nat) (I : Disk) : Prop where
  keys : AL.keys I.data = AL.keys d.data
  hkeys : AL.keys I.hint = AL.keys d.hint
  data : ∀ fid, fid ≠ mid → dataOf I fid = dataOf d fid
  hint : ∀ fid, fid ≠ mid → AL.get fid I.hint = AL.get fid d.hint
  dmid : dataOf I mid <+: dataOf d mid
  tail : ∀ r, (dataOf d mid)[(dataOf I mid).length]? = some r → tailOf I mid < r.len
  hmid : hintsOf I mid <+: hintsOf d mid

theorem PowerLoss2.data {sd : SDisk2} {I : Disk} (hp : PowerLoss2 sd I) (id : Nat) :
    ∃ n, sd.dOf id ≤ n ∧ dataOf I id = (dataOf sd.disk id).take n ∧
      ∀ r, (dataOf sd.disk id)[n]? = some r → tailOf I id < r.len := by
  obtain ⟨kD, kH, T, h1, _, h3, rfl⟩ := hp
  exact ⟨kD id, h1 id, dataOf_lossImage2 .., h3 id⟩

theorem PowerLoss2.hint {sd : SDisk2} {I : Disk} (hp : PowerLoss2 sd I) (id : Nat) :
    ∃ n, sd.hOf id ≤ n ∧ AL.get id I.hint = (AL.get id sd.disk.hint).map (fun hs => hs.take n) ∧
      hintsOf I id = (hintsOf sd.disk id).take n := by
  obtain ⟨kD, kH, T, _, h2, _, rfl⟩ := hp
  exact ⟨kH id, h2 id, getHint_lossImage2 .., hintsOf_lossImage2 ..⟩

theorem PowerLoss2.keys {sd : SDisk2} {I : Disk} (hp : PowerLoss2 sd I) :
    AL.keys I.data = AL.keys sd.disk.data ∧ AL.keys I.hint = AL.keys sd.disk.hint := by
  obtain ⟨kD, kH, T, _, _, _, rfl⟩ := hp
  exact keys_lossImage2 ..

theorem PowerLoss2.data_eq {sd : SDisk2} {I : Disk} (hp : PowerLoss2 sd I) {id : Nat}
    (h : (dataOf sd.disk id).length ≤ sd.dOf id) : dataOf I id = dataOf sd.disk id := by
  obtain ⟨n, hn, e, _⟩ := hp.data id
  rw [e, List.take_of_length_le (Nat.le_trans h hn)]

theorem PowerLoss2.hint_eq {sd : SDisk2} {I : Disk} (hp : PowerLoss2 sd I) {id : Nat}
    (h : (hintsOf sd.disk id).length ≤ sd.hOf id) : AL.get id I.hint = AL.get id sd.disk.hint := by
  obtain ⟨n, hn, e, _⟩ := hp.hint id
  rw [e]
  cases hg : AL.get id sd.disk.hint with
  | none => rfl
  | some hs =>
    simp only [hintsOf, hg, Option.getD_some] at h
    rw [Option.map_some, List.take_of_length_le (Nat.le_trans h hn)]

theorem powerLoss2_sameFiles {sd : SDisk2} (h : FullySynced2 sd) {I : Disk} (hp : PowerLoss2 sd I) :
    SameFiles sd.disk I :=
  ⟨hp.keys.1, hp.keys.2, fun fid => hp.data_eq (h fid).1, fun fid => hp.hint_eq (h fid).2⟩

theorem powerLoss2_outImage {sd : SDisk2} {mid : Nat} (h : AllBut mid sd) {I : Disk} (hp : PowerLoss2 sd I) :
    OutImage sd.disk mid I := by
  obtain ⟨n, _, e, ht⟩ := hp.data mid
  refine ⟨hp.keys.1, hp.keys.2, fun fid hf => hp.data_eq (h fid hf).1, fun fid hf => hp.hint_eq (h fid hf).2,
    e ▸ List.take_prefix _ _, ?_, ?_⟩
  · intro r hr
    rw [e, List.length_take] at hr
    by_cases hk : n ≤ (dataOf sd.disk mid).length
    · rw [Nat.min_eq_left hk] at hr
      exact ht r hr
    · rw [Nat.min_eq_right (Nat.le_of_not_le hk), List.getElem?_eq_none (Nat.le_refl _)] at hr
      cases hr
  · obtain ⟨k, _, _, eh⟩ := hp.hint mid
    exact eh ▸ List.take_prefix _ _

end Store
