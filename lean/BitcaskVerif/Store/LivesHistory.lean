/-
  Lives after a crash inside a merge: histories.

  `ReachL`: the states reachable from a fresh store by sets, deletes, reads, reopens, hazard-free
  merge passes, and kills at ANY cut of ANY of these operations — merge passes included —
  followed by recovery.  Every such state satisfies the lives invariant `LJ`, so the crash
  theorems compose over any number of lives.
-/
import BitcaskVerif.Store.LivesMerge

namespace Store

open Tr

theorem stepC_lj (cfg : Cfg) {s : St} (h : LJ s) (op : TOp) (hop : opOk s op) :
    LJ (stepC cfg s op).1 ∧ (stepC cfg s op).1.abs = specOp s.abs op := by
  obtain ⟨d1, w⟩ := h
  cases op with
  | put ts k v => exact ⟨⟨_, put_lj cfg w ts k v⟩, put_abs cfg s ts k v w.inv⟩
  | del ts k =>
    -- reduce `stepC` first: unifying through it unfolds `delete`
    dsimp only [stepC]
    exact ⟨⟨_, delete_lj cfg w ts k⟩, (delete_abs cfg s ts k w.inv).1⟩
  | get k => exact ⟨⟨_, w⟩, rfl⟩
  | merge sel order =>
    obtain ⟨h1, h2, _, h4⟩ := hop
    obtain ⟨a, b⟩ := mergeWith_lj cfg w sel order h1 h2 h4
    exact ⟨⟨_, a⟩, b⟩
  | reopen => exact reopen_lj ⟨_, w⟩

theorem stepC_cut_recW (cfg : Cfg) {s : St} (h : LJ s) (op : TOp) (hop : opOk s op) {c : List Call}
    (hc : Cut (stepC cfg s op).2 c) :
    RecW (applyCalls s.disk c) s.abs ∨ RecW (applyCalls s.disk c) (specOp s.abs op) := by
  cases op with
  | put ts k v => exact put_cut_recW cfg h ts k v hc
  | del ts k => dsimp only [stepC] at hc; exact delete_cut_recW cfg h ts k hc
  | get k => rw [cut_nil hc]; exact .inl h.recW
  | merge sel order =>
    obtain ⟨d1, w⟩ := h
    obtain ⟨h1, h2, h3, h4⟩ := hop
    exact .inl (mergeWith_cut_recW cfg w sel order h1 h2
      (fun _ hd => noHazard_prefix_of_sorted w.asc w.fullA h3 h4 hd) hc)
  | reopen => exact .inl (reopen_cut_recW h hc)

theorem stepC_cut_recJ (cfg : Cfg) {s : St} (h : LJ s) (op : TOp) (hop : opOk s op) {c : List Call}
    (hc : Cut (stepC cfg s op).2 c) :
    RecJ (applyCalls s.disk c) s.abs ∨ RecJ (applyCalls s.disk c) (specOp s.abs op) := by
  rcases stepC_cut_recW cfg h op hop hc with r | r
  · exact .inl r.recJ
  · exact .inr r.recJ

theorem runC_lj (cfg : Cfg) (ops : List TOp) : ∀ {s : St}, LJ s → ValidOps cfg s ops →
    LJ (runC cfg s ops) ∧ (runC cfg s ops).abs = specRun s.abs ops := by
  induction ops with
  | nil => intro s h _; exact ⟨h, rfl⟩
  | cons op ops ih =>
    intro s h hv
    obtain ⟨a, c⟩ := stepC_lj cfg h op hv.1
    obtain ⟨a', c'⟩ := ih a hv.2
    refine ⟨a', ?_⟩
    show (runC cfg (stepC cfg s op).1 ops).abs = specRun (specOp s.abs op) ops
    rw [c', c]

inductive ReachL (cfg : Cfg) : St → Prop
  | fresh : ReachL cfg fresh
  | step {s : St} (op : TOp) : ReachL cfg s → opOk s op → ReachL cfg (stepC cfg s op).1
  | crash {s : St} (op : TOp) (c : List Call) : ReachL cfg s → opOk s op → Cut (stepC cfg s op).2 c →
      ReachL cfg (openDisk (applyCalls s.disk c)).1

theorem reachL_lj {cfg : Cfg} {s : St} (h : ReachL cfg s) : LJ s := by
  induction h with
  | fresh => exact lj_fresh
  | step op _ hop ih => exact (stepC_lj cfg ih op hop).1
  | crash op c _ hop hc ih =>
    rcases stepC_cut_recJ cfg ih op hop hc with r | r
    · exact r.1
    · exact r.1

theorem ReachM.toReachL {cfg : Cfg} {s : St} (h : ReachM cfg s) : ReachL cfg s := by
  induction h with
  | fresh => exact .fresh
  | step op _ hop ih => exact .step op ih hop
  | crash op c _ hop hc ih => exact .crash op c ih (opOk_of_mergeFree _ hop) hc

theorem reachL_runC {cfg : Cfg} (ops : List TOp) : ∀ {s : St}, ReachL cfg s → ValidOps cfg s ops →
    ReachL cfg (runC cfg s ops) := by
  induction ops with
  | nil => intro s h _; exact h
  | cons op ops ih => intro s h hv; exact ih (.step op h hv.1) hv.2

/-- a life whose acknowledged operations and operation in flight satisfy their side conditions
    (merge passes: existing files in ascending order, covering iteration order, `NoHazard`) -/
def ValidLifeM (cfg : Cfg) (s : St) (l : Life) : Prop :=
  ValidOps cfg s l.acked ∧ opOk (runC cfg s l.acked) l.inflight ∧
    Cut (stepC cfg (runC cfg s l.acked) l.inflight).2 l.cut

def ValidLivesM (cfg : Cfg) : St → List Life → Prop
  | _, [] => True
  | s, l :: ls => ValidLifeM cfg s l ∧ ValidLivesM cfg (crashLife cfg s l) ls

theorem crashLife_specM (cfg : Cfg) {s : St} (h : ReachL cfg s) (l : Life) (hv : ValidLifeM cfg s l) :
    ReachL cfg (crashLife cfg s l) ∧
    ((crashLife cfg s l).abs = specRun s.abs l.acked ∨
     (crashLife cfg s l).abs = specOp (specRun s.abs l.acked) l.inflight) := by
  obtain ⟨h1, h2, h3⟩ := hv
  have hr := reachL_runC l.acked h h1
  obtain ⟨a, c⟩ := runC_lj cfg l.acked (reachL_lj h) h1
  refine ⟨.crash l.inflight l.cut hr h2 h3, ?_⟩
  rcases stepC_cut_recJ cfg a l.inflight h2 h3 with r | r
  · left; rw [← c]; exact r.2
  · right; rw [← c]; exact r.2

theorem runLives_specM (cfg : Cfg) (ls : List Life) : ∀ {s : St}, ReachL cfg s → ValidLivesM cfg s ls →
    ReachL cfg (runLives cfg s ls) ∧ SpecLives s.abs ls (runLives cfg s ls).abs := by
  induction ls with
  | nil => intro s h _; exact ⟨h, rfl⟩
  | cons l ls ih =>
    intro s h hv
    obtain ⟨a, b⟩ := crashLife_specM cfg h l hv.1
    obtain ⟨c, d⟩ := ih a hv.2
    refine ⟨c, ?_⟩
    rcases b with b | b
    · left; rw [← b]; exact d
    · right; rw [← b]; exact d

end Store
