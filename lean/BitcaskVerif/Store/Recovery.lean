/-
  What the startup scan (`rebuild` / `openDisk`) recovers, expressed through the events of the
  directory: with data-file ids listed in ascending order and hint files that list exactly the
  records of their data file, the recovered KeyDir is `replay (allEvs d.data)` — "the last
  record of each key wins, a tombstone removes".
-/
import BitcaskVerif.Store.Events

namespace Store

def kdF (kd : List (Key × Loc)) : IdxF := fun k => AL.get k kd

theorem Idx.account_keydir (ix : Idx) (p : Option Loc) : (ix.account p).keydir = ix.keydir := by
  unfold Idx.account; cases p <;> rfl

/-- the loop body of `scanData` -/
def scanStep (fid : Nat) (acc : Idx × Nat) (r : Rec) : Idx × Nat :=
  let (ix, pos) := acc
  let len := r.len
  match r.val with
  | none =>
    let ix1 := { ix with stats := updStat ix.stats fid (·.addDead len) }
    let prev := AL.get r.key ix1.keydir
    (({ ix1 with keydir := AL.del r.key ix1.keydir } : Idx).account prev, pos + len)
  | some _ =>
    let loc : Loc := { fid := fid, pos := pos, len := len, ts := r.ts }
    let ix1 := { ix with stats := updStat ix.stats fid (·.addLive) }
    let prev := AL.get r.key ix1.keydir
    (({ ix1 with keydir := AL.set r.key loc ix1.keydir } : Idx).account prev, pos + len)

theorem scanData_eq (fid : Nat) (ix : Idx) (rs : List Rec) :
    scanData fid ix rs = (rs.foldl (scanStep fid) (ix, 0)).1 := rfl

theorem scanStep_spec (fid : Nat) (ix : Idx) (pos : Nat) (r : Rec) :
    ∃ ix', scanStep fid (ix, pos) r = (ix', pos + r.len) ∧
      kdF ix'.keydir = applyEv (kdF ix.keydir) (mkEv fid pos r) := by
  unfold scanStep
  cases hv : r.val with
  | none =>
    refine ⟨_, rfl, ?_⟩
    rw [Idx.account_keydir]
    funext k
    simp only [kdF, applyEv, mkEv, hv, Option.isNone_none, ↓reduceIte, AL.get_del]
  | some v =>
    refine ⟨_, rfl, ?_⟩
    rw [Idx.account_keydir]
    funext k
    simp only [kdF, applyEv, mkEv, hv, Option.isNone_some, Bool.false_eq_true, ↓reduceIte, AL.get_set]

theorem scanFold_keydir (fid : Nat) (rs : List Rec) : ∀ (ix : Idx) (pos : Nat),
    kdF (rs.foldl (scanStep fid) (ix, pos)).1.keydir =
      (evData fid rs pos).foldl applyEv (kdF ix.keydir) := by
  induction rs with
  | nil => intro ix pos; rfl
  | cons r rs ih =>
    intro ix pos
    obtain ⟨ix', h1, h2⟩ := scanStep_spec fid ix pos r
    simp only [List.foldl_cons, evData, h1, ih, h2]

theorem scanData_keydir (fid : Nat) (ix : Idx) (rs : List Rec) :
    kdF (scanData fid ix rs).keydir = (evData fid rs 0).foldl applyEv (kdF ix.keydir) := by
  rw [scanData_eq]; exact scanFold_keydir fid rs ix 0

/-- the loop body of `scanHints` -/
def hintStep (fid : Nat) (ix : Idx) (h : Hint) : Idx :=
  let loc : Loc := { fid := fid, pos := h.pos, len := h.len, ts := h.ts }
  let ix1 := { ix with stats := updStat ix.stats fid (·.addLive) }
  let prev := AL.get h.key ix1.keydir
  ({ ix1 with keydir := AL.set h.key loc ix1.keydir } : Idx).account prev

theorem scanHints_eq (fid : Nat) (ix : Idx) (hs : List Hint) (dataLen : Nat) :
    scanHints fid ix hs dataLen =
      (hs.takeWhile fun h => h.pos + h.len ≤ dataLen).foldl (hintStep fid) ix := rfl

theorem hintStep_keydir (fid : Nat) (ix : Idx) (h : Hint) :
    kdF (hintStep fid ix h).keydir = applyEv (kdF ix.keydir) (hintEv fid h) := by
  unfold hintStep
  simp only [Idx.account_keydir]
  funext k
  simp only [kdF, applyEv, hintEv, Bool.false_eq_true, ↓reduceIte, AL.get_set]

theorem hintFold_keydir (fid : Nat) (hs : List Hint) : ∀ (ix : Idx),
    kdF (hs.foldl (hintStep fid) ix).keydir = (hintEvs fid hs).foldl applyEv (kdF ix.keydir) := by
  induction hs with
  | nil => intro ix; rfl
  | cons h hs ih =>
    intro ix
    simp only [List.foldl_cons, hintEvs, List.map_cons] at ih ⊢
    rw [ih, hintStep_keydir]

theorem takeWhile_all {α : Type} (p : α → Bool) : ∀ (l : List α), (∀ a ∈ l, p a = true) → l.takeWhile p = l
  | [], _ => rfl
  | a :: as, h => by
    simp only [List.takeWhile, h a List.mem_cons_self]
    rw [takeWhile_all p as (fun b hb => h b (List.mem_cons_of_mem _ hb))]

/-- the loop body of `rebuild` -/
def fileScan (d : Disk) (ix : Idx) (fid : Nat) : Idx :=
  match AL.get fid d.hint with
  | some hs => scanHints fid ix hs (fileSize (dataOf d fid) + (AL.get fid d.tails).getD 0)
  | none => scanData fid ix (dataOf d fid)

theorem fileScan_takeWhile {d : Disk} {fid : Nat} {hs : List Hint} (hg : AL.get fid d.hint = some hs) (ix : Idx) :
    fileScan d ix fid =
      (hs.takeWhile fun h => h.pos + h.len ≤ fileSize (dataOf d fid) + (AL.get fid d.tails).getD 0).foldl
        (hintStep fid) ix := by
  unfold fileScan; rw [hg]; rfl

theorem fileScan_nohint {d : Disk} {fid : Nat} (h : AL.get fid d.hint = none) (ix : Idx) :
    fileScan d ix fid = scanData fid ix (dataOf d fid) := by
  unfold fileScan; rw [h]

/-- `rebuild` with the id list as a parameter (so that concrete instances can be evaluated) -/
def rebuildWith (ids : List Nat) (d : Disk) : Idx × Nat :=
  (ids.foldl (fileScan d) ({} : Idx), match ids.getLast? with | some m => m + 1 | none => 0)

theorem rebuild_eq (d : Disk) : rebuild d = rebuildWith (sortedIds d) d := rfl

def fileEvs (d : Disk) (fid : Nat) : List Ev :=
  match AL.get fid d.hint with
  | some hs => hintEvs fid
      (hs.takeWhile fun h => h.pos + h.len ≤ fileSize (dataOf d fid) + (AL.get fid d.tails).getD 0)
  | none => evData fid (dataOf d fid) 0

theorem fileScan_keydir (d : Disk) (ix : Idx) (fid : Nat) :
    kdF (fileScan d ix fid).keydir = (fileEvs d fid).foldl applyEv (kdF ix.keydir) := by
  unfold fileScan fileEvs
  cases AL.get fid d.hint with
  | none => exact scanData_keydir _ _ _
  | some hs => simp only [scanHints_eq]; exact hintFold_keydir _ _ _

theorem scanFiles_keydir (d : Disk) (ids : List Nat) : ∀ (ix : Idx),
    kdF (ids.foldl (fileScan d) ix).keydir = (ids.flatMap (fileEvs d)).foldl applyEv (kdF ix.keydir) := by
  induction ids with
  | nil => intro ix; rfl
  | cons fid ids ih =>
    intro ix
    simp only [List.foldl_cons, List.flatMap_cons, List.foldl_append, ih, fileScan_keydir]

/-- every hint file lists exactly the records of its data file (which therefore contains no
    tombstone): key, position, length and timestamp, in order -/
def HintsExact (d : Disk) : Prop :=
  ∀ fid hs, AL.get fid d.hint = some hs → hintEvs fid hs = evData fid (dataOf d fid) 0

theorem HintsExact.fit {d : Disk} (h : HintsExact d) {fid : Nat} {hs : List Hint}
    (hg : AL.get fid d.hint = some hs) : ∀ x ∈ hs, x.pos + x.len ≤ fileSize (dataOf d fid) := by
  intro x hx
  have hm : hintEv fid x ∈ evData fid (dataOf d fid) 0 := h fid hs hg ▸ List.mem_map.mpr ⟨x, hx, rfl⟩
  obtain ⟨r, q, _, h2, h3⟩ := mem_evData hm
  have hp : x.pos = 0 + q := congrArg (fun e => e.loc.pos) h2
  have hl : x.len = r.len := congrArg (fun e => e.loc.len) h2
  rw [hp, hl, Nat.zero_add]
  exact h3

theorem HintsExact.takeWhile {d : Disk} (h : HintsExact d) {fid : Nat} {hs : List Hint}
    (hg : AL.get fid d.hint = some hs) (extra : Nat) :
    (hs.takeWhile fun x => x.pos + x.len ≤ fileSize (dataOf d fid) + extra) = hs :=
  takeWhile_all _ _ fun x hx => decide_eq_true (Nat.le_trans (h.fit hg x hx) (Nat.le_add_right _ _))

theorem HintsExact.fileEvs {d : Disk} (h : HintsExact d) (fid : Nat) :
    fileEvs d fid = evData fid (dataOf d fid) 0 := by
  unfold Store.fileEvs
  cases hg : AL.get fid d.hint with
  | none => rfl
  | some hs => exact (congrArg (hintEvs fid) (h.takeWhile hg _)).trans (h fid hs hg)

theorem mem_sortedIds (d : Disk) (f : Nat) : f ∈ sortedIds d ↔ f ∈ AL.keys d.data := by
  unfold sortedIds
  rw [List.mem_mergeSort, List.mem_eraseDups]

theorem sortedIds_pairwise (d : Disk) : (sortedIds d).Pairwise (fun a b => decide (a ≤ b) = true) := by
  unfold sortedIds
  apply List.pairwise_mergeSort
  · intro a b c h1 h2
    exact decide_eq_true (Nat.le_trans (of_decide_eq_true h1) (of_decide_eq_true h2))
  · intro a b
    rcases Nat.le_total a b with e | e
    · rw [decide_eq_true e]; rfl
    · rw [decide_eq_true e]; exact Bool.or_true _

theorem nodup_eraseDups (l : List Nat) : l.eraseDups.Nodup := by
  induction hn : l.length using Nat.strongRecOn generalizing l with
  | _ n ih =>
    cases l with
    | nil => exact List.nodup_nil
    | cons a as =>
      rw [List.eraseDups_cons, List.nodup_cons]
      refine ⟨fun hm => ?_, ih _ (hn ▸ Nat.lt_succ_of_le (List.length_filter_le _ _)) _ rfl⟩
      have := (List.mem_filter.mp (List.mem_eraseDups.mp hm)).2
      simp at this

theorem sortedIds_nodup (d : Disk) : (sortedIds d).Nodup :=
  (List.mergeSort_perm _ _).nodup_iff.mpr (nodup_eraseDups _)

theorem sortedIds_last {d : Disk} {m : Nat} (h : (sortedIds d).getLast? = some m) :
    ∀ f, f ∈ AL.keys d.data → f ≤ m := by
  intro f hf
  obtain ⟨ys, hys⟩ := List.getLast?_eq_some_iff.mp h
  have hs := sortedIds_pairwise d
  have hf' := (mem_sortedIds d f).mpr hf
  rw [hys] at hs hf'
  rcases List.mem_append.mp hf' with e | e
  · exact of_decide_eq_true ((List.pairwise_append.mp hs).2.2 f e m List.mem_cons_self)
  · exact Nat.le_of_eq (List.mem_singleton.mp e)

theorem getLast_sortedIds {d : Disk} {a : Nat} (hm : a ∈ AL.keys d.data) (hmax : ∀ id ∈ AL.keys d.data, id ≤ a) :
    (sortedIds d).getLast? = some a := by
  cases hg : (sortedIds d).getLast? with
  | none =>
    have := (mem_sortedIds d a).mpr hm
    rw [List.getLast?_eq_none_iff.mp hg] at this; cases this
  | some m =>
    have hmem : m ∈ AL.keys d.data := (mem_sortedIds d m).mp (List.mem_of_getLast? hg)
    rw [Nat.le_antisymm (hmax m hmem) (sortedIds_last hg a hm)]

theorem eraseDups_of_asc : ∀ (l : List Nat), l.Pairwise (· < ·) → l.eraseDups = l
  | [], _ => rfl
  | a :: as, h => by
    rw [List.eraseDups_cons]
    simp only [List.pairwise_cons] at h
    have : as.filter (fun b => !b == a) = as := by
      rw [List.filter_eq_self]
      intro b hb
      have := h.1 b hb
      simp; omega
    rw [this, eraseDups_of_asc as h.2]

theorem sortedIds_of_asc {d : Disk} (h : Asc d.data) : sortedIds d = AL.keys d.data := by
  unfold sortedIds
  rw [eraseDups_of_asc _ h]
  apply List.mergeSort_of_pairwise
  exact h.imp (fun hab => by simpa using Nat.le_of_lt hab)

theorem rebuild_keydir {d : Disk} (ha : Asc d.data) (hh : HintsExact d) :
    kdF (rebuild d).1.keydir = replay (allEvs d.data) := by
  rw [rebuild_eq, sortedIds_of_asc ha]
  simp only [rebuildWith]
  rw [scanFiles_keydir]
  have : (AL.keys d.data).flatMap (fileEvs d) = allEvs d.data := by
    rw [← flatMap_keys_allEvs ha]
    apply flatMap_congr_mem
    intro fid _
    rw [hh.fileEvs]; rfl
  rw [this]
  rfl

theorem rebuild_snd (d : Disk) :
    (rebuild d).2 = match (sortedIds d).getLast? with | some m => m + 1 | none => 0 := rfl

theorem rebuild_snd_max {d : Disk} {a : Nat} (hm : a ∈ AL.keys d.data) (hmax : ∀ id ∈ AL.keys d.data, id ≤ a) :
    (rebuild d).2 = a + 1 := by
  rw [rebuild_snd, getLast_sortedIds hm hmax]

theorem hintFold_eq_scanFold (fid : Nat) : ∀ (rs : List Rec) (hs : List Hint) (ix : Idx) (p : Nat),
    hintEvs fid hs = evData fid rs p →
    hs.foldl (hintStep fid) ix = (rs.foldl (scanStep fid) (ix, p)).1 := by
  intro rs
  induction rs with
  | nil =>
    intro hs ix p he
    cases hs with
    | nil => rfl
    | cons h hs => simp [hintEvs, evData] at he
  | cons r rs ih =>
    intro hs ix p he
    cases hs with
    | nil => simp [hintEvs, evData] at he
    | cons h hs =>
      simp only [hintEvs, List.map_cons, evData, List.cons.injEq] at he
      obtain ⟨hhead, htail⟩ := he
      have hstep : scanStep fid (ix, p) r = (hintStep fid ix h, p + r.len) := by
        obtain ⟨hts, hlen, hpos, hkey⟩ := h
        simp only [hintEv, mkEv, Ev.mk.injEq, Loc.mk.injEq, true_and] at hhead
        obtain ⟨e1, ⟨e2, e3, e4⟩, e5⟩ := hhead
        subst e1 e2 e3 e4
        cases hv : r.val with
        | none => simp [hv] at e5
        | some v => simp only [scanStep, hintStep, hv]
      simp only [List.foldl_cons, hstep]
      exact ih hs _ _ htail

theorem fileScan_dropHints {d : Disk} (h : HintsExact d) (ix : Idx) (fid : Nat) :
    fileScan { d with hint := [] } ix fid = fileScan d ix fid := by
  unfold fileScan
  simp only [AL.get_nil]
  cases hg : AL.get fid d.hint with
  | none => rfl
  | some hs =>
    simp only [scanHints_eq, h.takeWhile hg]
    rw [hintFold_eq_scanFold fid (dataOf d fid) hs ix 0 (h fid hs hg)]
    rfl

theorem rebuild_dropHints {d : Disk} (h : HintsExact d) : rebuild { d with hint := [] } = rebuild d := by
  have hf : fileScan { d with hint := [] } = fileScan d :=
    funext fun ix => funext fun fid => fileScan_dropHints h ix fid
  show rebuildWith (sortedIds d) { d with hint := [] } = rebuildWith (sortedIds d) d
  unfold rebuildWith
  rw [hf]

/-! ### evaluating `openDisk` on concrete directories (`List.mergeSort` does not reduce) -/

def openDiskWith (ids : List Nat) (d : Disk) : St × List Call :=
  let (ix, act) := rebuildWith ids d
  ({ disk := { d with data := AL.set act [] d.data }, keydir := ix.keydir, stats := ix.stats,
     active := act, written := 0, bad := ix.bad },
   [.create ⟨.data, act⟩])

instance {β : Type} (l : List (Nat × β)) : Decidable (Asc l) :=
  inferInstanceAs (Decidable ((AL.keys l).Pairwise (· < ·)))

theorem openDisk_eq_with {d : Disk} (h : Asc d.data) : openDisk d = openDiskWith (AL.keys d.data) d := by
  rw [← sortedIds_of_asc h]; rfl

theorem get_congr_fun {s s' : St} (hk : kdF s'.keydir = kdF s.keydir) (hd : s'.disk.data = s.disk.data)
    (k : Key) : get s' k = get s k := by
  have : AL.get k s'.keydir = AL.get k s.keydir := congrFun hk k
  unfold get dataOf
  rw [this, hd]

end Store
