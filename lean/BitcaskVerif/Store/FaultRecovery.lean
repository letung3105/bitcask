/-
  What a restart reads after a history of puts and deletes some of which failed (C20), for
  histories without merges: the *durable* map evolves like the in-memory one, except that a
  failed operation is durable iff its entry reached the file completely (`Fault.taken`).

  The invariant `DurInv` (the index a restart would rebuild has valid entries) is preserved by
  every successful and every failed write; merges need the recovery theory of hint files and are
  not covered here.
-/
import BitcaskVerif.Store.FaultRestart

namespace Store.Tr
/-- what a restart would make of the current directory is healthy -/
structure DurInv (s : St) : Prop where
  idinv : IdInv s
  locs : ∀ k loc, AL.get k (reopen s).1.keydir = some loc → LocOk (reopen s).1.disk k loc

theorem reopen_congr_disk {x y : St} (h : x.disk = y.disk) : reopen x = reopen y := by
  unfold reopen; rw [h]

theorem DurInv.congr {s s' : St} (hd : s'.disk = s.disk) (ha : s'.active = s.active) (h : DurInv s) : DurInv s' :=
  ⟨h.idinv.congr hd ha, by rw [reopen_congr_disk hd]; exact h.locs⟩

/-- **a write whose entry is complete in the file (failed or not) is durable**: the invariant is
    kept and a restart reads the record's value for its key, everything else as before -/
theorem Taken.dur {s s' : St} {r : Rec} (t : Taken s r s') (h : DurInv s) :
    DurInv s' ∧ (reopen s').1.abs = fun k => if k = r.key then r.val else (reopen s).1.abs k := by
  constructor
  · refine ⟨t.idinv, fun k loc hg => ?_⟩
    by_cases hk : k = r.key
    · subst hk; exact t.locOk loc hg
    · rw [t.keydir_other hk] at hg
      exact (h.locs k loc hg).keeps (Nat.le_refl _) (t.keeps h.idinv _)
  · funext k
    by_cases hk : k = r.key
    · rw [if_pos hk, hk]; exact t.failed_key
    · rw [if_neg hk]; exact t.other_key h.idinv hk (h.locs k)

/-- a state that scans to the same index and holds the same records is as durable -/
theorem DurInv.of_same {s s' : St} (h : DurInv s) (hi : IdInv s') (e : (rebuild s'.disk).1 = (rebuild s.disk).1)
    (hd : ∀ fid, dataOf s'.disk fid = dataOf s.disk fid) :
    DurInv s' ∧ (reopen s').1.abs = (reopen s).1.abs := by
  refine ⟨⟨hi, fun k loc hg => ?_⟩, (reopen_eq_of hi h.idinv e hd).2.2.2⟩
  rw [reopen_keydir, e] at hg
  exact (h.locs k loc hg).keeps (Nat.le_refl _)
    (keeps_of_prefix (fun fid => by rw [reopen_dataOf hi, reopen_dataOf h.idinv, hd]; exact List.prefix_refl _) _)

/-- a successful write is durable (`s'`: the state after the `put` / `delete` built on it) -/
theorem write_dur (cfg : Cfg) (s : St) (r : Rec) (h : DurInv s) {s' : St} (hd : s'.disk = (write cfg s r).1.disk)
    (ha : s'.active = (write cfg s r).1.active) :
    DurInv s' ∧ (reopen s').1.abs = fun k => if k = r.key then r.val else (reopen s).1.abs k :=
  ((write_taken cfg s r h.idinv).congr hd ha).dur h

/-- a failed write is durable iff its entry reached the file -/
theorem writeF_dur (s : St) (r : Rec) (f : Fault) (h : DurInv s) :
    DurInv (writeF s r f) ∧ (reopen (writeF s r f)).1.abs =
      if f.taken then (fun k => if k = r.key then r.val else (reopen s).1.abs k) else (reopen s).1.abs := by
  cases ht : f.taken with
  | true => exact (writeF_taken s r f h.idinv ht).dur h
  | false =>
    obtain ⟨hdr, rfl⟩ := Fault.not_taken f ht
    exact h.of_same (writeF_idinv s r _ h.idinv) (rebuild_writeF_large s r hdr h.idinv).1
      (dataOf_set_empty s.disk _ (dataOf_above h.idinv (Nat.lt_succ_self _)) _ _)

theorem reopen_fresh_keydir : (reopen fresh).1.keydir = [] := by
  simp [reopen, openDisk, rebuild, sortedIds, fresh, AL.keys, List.eraseDups_cons, scanData, dataOf, AL.get]

theorem fresh_durInv : DurInv fresh :=
  ⟨fresh_idinv, fun k loc hg => by rw [reopen_fresh_keydir] at hg; cases hg⟩

theorem fresh_dur_abs : (reopen fresh).1.abs = Map.empty := by
  funext k
  exact abs_none_of_none (by rw [reopen_fresh_keydir]; rfl)

end Store.Tr
