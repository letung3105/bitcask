/-
  How the startup scan (`rebuild`) changes when the directory changes: files whose records, hint
  file and visible tail are the same scan the same; a record appended to a file is one more
  `scanStep` of that file's scan; an additional empty file with a larger id changes nothing.
  Used for the restart behaviour after a failed write (C20) and for the directories a crash
  leaves (C03).
-/
import BitcaskVerif.Store.TraceRun

namespace Store
open Tr

theorem rebuild_fst (d : Disk) : (rebuild d).1 = (sortedIds d).foldl (fileScan d) {} := rfl

theorem scanStep_pos (fid : Nat) (acc : Idx × Nat) (r : Rec) : (scanStep fid acc r).2 = acc.2 + r.len := by
  obtain ⟨ix, pos⟩ := acc
  unfold scanStep
  cases r.val <;> rfl

theorem scanFold_pos (fid : Nat) (rs : List Rec) : ∀ (acc : Idx × Nat),
    (rs.foldl (scanStep fid) acc).2 = acc.2 + fileSize rs := by
  induction rs with
  | nil => intro acc; simp
  | cons r rs ih =>
    intro acc
    simp only [List.foldl_cons, ih, scanStep_pos, fileSize_cons]
    omega

/-- scanning a file with one more record at its end is one more step, at the old end position -/
theorem scanData_snoc (fid : Nat) (ix : Idx) (rs : List Rec) (r : Rec) :
    scanData fid ix (rs ++ [r]) = (scanStep fid (scanData fid ix rs, fileSize rs) r).1 := by
  rw [scanData_eq, scanData_eq, List.foldl_append]
  have h2 := scanFold_pos fid rs (ix, 0)
  simp only [Nat.zero_add] at h2
  simp only [List.foldl_cons, List.foldl_nil]
  rw [← h2]

theorem scanData_nil (fid : Nat) (ix : Idx) : scanData fid ix [] = ix := rfl

/-- a hint file all of whose entries fit inside the data file is read completely -/
theorem fileScan_hinted {d : Disk} {fid : Nat} {hs : List Hint} (hg : AL.get fid d.hint = some hs)
    (hfit : ∀ h ∈ hs, h.pos + h.len ≤ fileSize (dataOf d fid) + (AL.get fid d.tails).getD 0) (ix : Idx) :
    fileScan d ix fid = hs.foldl (hintStep fid) ix := by
  rw [fileScan_takeWhile hg, takeWhile_all]
  exact fun h hh => decide_eq_true (hfit h hh)

/-- the scan of a file depends on its records, its hint file, and — only if it has a hint file —
    its tail -/
theorem fileScan_congr {d d' : Disk} {fid : Nat} (hh : AL.get fid d'.hint = AL.get fid d.hint)
    (hd : dataOf d' fid = dataOf d fid)
    (ht : AL.get fid d.hint ≠ none → AL.get fid d'.tails = AL.get fid d.tails) (ix : Idx) :
    fileScan d' ix fid = fileScan d ix fid := by
  unfold fileScan
  rw [hh, hd]
  cases hg : AL.get fid d.hint with
  | none => rfl
  | some hs => simp only; rw [ht (by rw [hg]; simp)]

theorem foldl_fileScan_congr {d d' : Disk} (ids : List Nat)
    (h : ∀ fid, fid ∈ ids → ∀ ix, fileScan d' ix fid = fileScan d ix fid) :
    ∀ ix, ids.foldl (fileScan d') ix = ids.foldl (fileScan d) ix := by
  induction ids with
  | nil => intro ix; rfl
  | cons i is ih =>
    intro ix
    simp only [List.foldl_cons]
    rw [h i List.mem_cons_self, ih (fun fid hf => h fid (List.mem_cons_of_mem _ hf))]

theorem sortedIds_eq_of_keys {d d' : Disk} (h : AL.keys d'.data = AL.keys d.data) : sortedIds d' = sortedIds d := by
  unfold sortedIds; rw [h]

/-- directories with the same files, each of which scans the same, rebuild the same index -/
theorem rebuild_congr {d d' : Disk} (hk : AL.keys d'.data = AL.keys d.data)
    (h : ∀ fid, fid ∈ sortedIds d → ∀ ix, fileScan d' ix fid = fileScan d ix fid) :
    rebuild d' = rebuild d := by
  rw [rebuild_eq, rebuild_eq, sortedIds_eq_of_keys hk]
  unfold rebuildWith
  rw [foldl_fileScan_congr (sortedIds d) h]

theorem keys_set_new {κ β : Type} [DecidableEq κ] (k : κ) (v : β) (l : List (κ × β))
    (h : k ∉ AL.keys l) : AL.keys (AL.set k v l) = AL.keys l ++ [k] := by
  rw [AL.set_of_not_mem h]; exact List.map_append

/-- under the id invariant the sorted ids end with the active id, everything before is smaller -/
theorem sortedIds_split {s : St} (h : IdInv s) :
    ∃ init, sortedIds s.disk = init ++ [s.active] ∧ ∀ x, x ∈ init → x < s.active := by
  obtain ⟨ys, hys⟩ := List.getLast?_eq_some_iff.mp (sortedIds_getLast h)
  refine ⟨ys, hys, ?_⟩
  intro x hx
  have hle : x ≤ s.active := h.ids x ((mem_sortedIds _ _).mp (by rw [hys]; simp [hx]))
  have hnd := sortedIds_nodup s.disk
  rw [hys, List.nodup_append] at hnd
  have hne : x ≠ s.active := hnd.2.2 x hx s.active (by simp)
  omega

/-- a new file above every existing id comes last -/
theorem sortedIds_new {d d' : Disk} {b : Nat} (hk : AL.keys d'.data = AL.keys d.data ++ [b])
    (hb : ∀ x, x ∈ AL.keys d.data → x < b) : sortedIds d' = sortedIds d ++ [b] := by
  have hnb : b ∉ AL.keys d.data := fun hc => Nat.lt_irrefl _ (hb b hc)
  have hperm : (sortedIds d').Perm (sortedIds d ++ [b]) := by
    unfold sortedIds
    rw [hk, List.eraseDups_append]
    have : ([b].removeAll (AL.keys d.data)).eraseDups = [b] := by
      simp [List.removeAll, hnb, List.eraseDups_cons]
    rw [this]
    exact (List.mergeSort_perm _ _).trans ((List.mergeSort_perm _ _).symm.append_right _)
  apply List.Perm.eq_of_pairwise (le := fun a b => decide (a ≤ b) = true) _ (sortedIds_pairwise d') _ hperm
  · intro x y _ _ h1 h2
    simp only [decide_eq_true_eq] at h1 h2; omega
  · rw [List.pairwise_append]
    refine ⟨sortedIds_pairwise d, by simp, ?_⟩
    intro x hx y hy
    simp only [List.mem_singleton] at hy
    have := hb x ((mem_sortedIds d x).mp hx)
    simp only [decide_eq_true_eq]; omega

/-- **an additional empty file above every id** (without a hint file; tails may change where there
    is no hint file): the rebuilt index is unchanged, the next active id is one above the new file -/
theorem rebuild_create (d : Disk) {b : Nat} (tails : List (Nat × Nat)) (hb : ∀ x, x ∈ AL.keys d.data → x < b)
    (hnb : AL.get b d.hint = none)
    (htails : ∀ fid, AL.get fid d.hint ≠ none → AL.get fid tails = AL.get fid d.tails) :
    (rebuild { data := AL.set b [] d.data, hint := d.hint, tails := tails }).1 = (rebuild d).1 ∧
    (rebuild { data := AL.set b [] d.data, hint := d.hint, tails := tails }).2 = b + 1 := by
  have hs : sortedIds { data := AL.set b [] d.data, hint := d.hint, tails := tails } = sortedIds d ++ [b] :=
    sortedIds_new (keys_set_new _ _ _ fun hc => Nat.lt_irrefl _ (hb _ hc)) hb
  constructor
  · rw [rebuild_fst, rebuild_fst, hs, List.foldl_append]
    simp only [List.foldl_cons, List.foldl_nil]
    rw [foldl_fileScan_congr (d := d) (d' := ⟨AL.set b [] d.data, d.hint, tails⟩) (sortedIds d) fun fid hf ix => by
      have hne : fid ≠ b := Nat.ne_of_lt (hb fid ((mem_sortedIds d fid).mp hf))
      exact fileScan_congr (by rfl) (by simp only [dataOf, AL.get_set_other hne]) (htails fid) ix]
    rw [fileScan_nohint (d := ⟨AL.set b [] d.data, d.hint, tails⟩) hnb, dataOf, AL.get_set_same]
    rfl
  · rw [rebuild_snd, hs, List.getLast?_concat]

end Store