/-
  C19 helper lemmas: a merge pass keeps the counting invariant `AccInv`.  During the loop
  the counters of the selected files are not maintained (the files are about to be removed);
  exactness is kept for all other files.
-/
import BitcaskVerif.Store.MergeShape
import BitcaskVerif.Store.StatsOps

namespace Store.Stats
open Store

/-- what the merge loop keeps: as `AccInv`, but only for the files outside the selection -/
structure MAcc (sel : List Nat) (s : St) : Prop where
  kdNodup : (AL.keys s.keydir).Nodup
  files : ∀ f, f ∉ sel → FileAcc s.keydir s.stats f (dataOf s.disk f)
  notBad : s.bad = false
  statsNodup : (AL.keys s.stats).Nodup

variable {sel : List Nat}

theorem MAcc.roll {s : St} (h : MAcc sel s) {mid : Nat} (hnew : mid ∉ AL.keys s.disk.data) :
    MAcc sel { s with disk := rollDisk s.disk mid } := by
  refine ⟨h.kdNodup, fun f hf => ?_, h.notBad, h.statsNodup⟩
  show FileAcc s.keydir s.stats f (dataOf (rollDisk s.disk mid) f)
  rw [dataOf_create (d := s.disk) rfl hnew]
  exact h.files f hf

theorem MAcc.move {m : MergeSt} (h : MAcc sel m.s) {k : Key} {loc : Loc} {r : Rec}
    (hk : AL.get k m.s.keydir = some loc) (hsel : loc.fid ∈ sel) (h4 : r.len = loc.len) :
    MAcc sel (moveSt m k loc r) := by
  refine ⟨nodup_set h.kdNodup, fun f hf => ?_, ?_, nodup_set h.statsNodup⟩
  · show FileAcc (AL.set k (newLocOf m loc) m.s.keydir) (updStat m.s.stats m.mid (·.addLive)) f
      (dataOf (moveDisk m k loc r) f)
    rw [dataOf_set (d := m.s.disk) (d' := moveDisk m k loc r) rfl, upd_snoc, newLocOf, ← h4]
    exact (h.files f hf).move_step m.mid r k m.mpos loc.ts
      fun p hp e => hf (e ▸ (Option.some.inj (hk.symm.trans hp)) ▸ hsel)
  · show (m.s.bad || decide (r.len ≠ loc.len)) = false
    rw [h.notBad, decide_eq_false (not_not_intro h4)]; rfl

theorem mergeWith_acc (cfg : Cfg) (s : St) (sel : List Nat) (order : List Key) (hi : Inv s)
    (h : AccInv s) (hsel : ∀ id, id ∈ sel → id ≤ s.active) (hcov : Covers order s) :
    AccInv (mergeWith cfg s sel order).1 := by
  apply merge_rule hi hsel hcov (fun m => MAcc sel m.s) AccInv
  · exact MAcc.roll ⟨h.kdNodup, fun f _ => h.files f, h.notBad, h.statsNodup⟩ (next_fresh hi)
  · intro m k loc r _ hp hk hks _ _ h4
    exact hp.move hk hks h4
  · intro m hnew hp
    exact hp.roll hnew
  · intro m _ hunsel hnew hA
    refine ⟨hA.kdNodup, fun f => ?_, hA.notBad, nodup_delAll sel hA.statsNodup⟩
    show FileAcc m.s.keydir (delAll sel m.s.stats) f (dataOf (mergedSt sel m).disk f)
    rw [dataOf_create (d := delDisk sel m.s.disk) rfl hnew, dataOf_delDisk]
    by_cases e : f ∈ sel
    · rw [if_pos e]
      exact FileAcc.empty (fun k l hm e' => hunsel k l (get_of_mem hA.kdNodup hm) (e' ▸ e))
        (by rw [get_delAll, if_pos e])
    · rw [if_neg e, FileAcc, get_delAll, if_neg e]
      exact hA.files f e

theorem mergeWith_tails (cfg : Cfg) (s : St) (sel : List Nat) (order : List Key) :
    (mergeWith cfg s sel order).1.disk.tails = s.disk.tails := by
  rw [mergeWith_eq_mergedSt]
  exact List.foldlRecOn order (mergeStep cfg sel) (motive := fun m => m.s.disk.tails = s.disk.tails)
    (b := mergeStart s) rfl
    fun m hm k _ => Tr.mergeStep_ind (fun m' => m'.s.disk.tails = s.disk.tails) cfg sel m k hm hm
      (fun _ _ _ _ _ => hm) (fun _ _ _ _ _ => hm)

end Store.Stats
