/-
  Power loss during a merge pass (C09): every image of the copy phase opens to the
  contents before the merge.

  `ImgOk s mid d`: every directory obtained from `d` by cutting back the data file and the hint
  file of output `mid` (independently; a partial record may remain) opens to `s.abs`.  It holds
  for the directory of every state of the merge loop and for the directories in between:
    * a record whose hint entry is missing is invisible (the source file still holds it);
    * a hint entry whose record is missing or incomplete does not fit inside the data file and is
      ignored by `scanHints` (trusting it is defect D5).
-/
import BitcaskVerif.Store.PowerMerge

namespace Store

theorem isSome_of_keys {β : Type} {l l' : List (Nat × β)} (hk : AL.keys l' = AL.keys l) (fid : Nat) :
    (AL.get fid l').isSome = (AL.get fid l).isSome := by
  rw [Bool.eq_iff_iff, AL.isSome_get, AL.isSome_get, hk]

theorem fileSize_prefix_getElem {P L : List Rec} (hp : P <+: L) {r : Rec} (hr : L[P.length]? = some r) :
    fileSize P + r.len ≤ fileSize L := by
  obtain ⟨t, rfl⟩ := hp
  rw [List.getElem?_append_right (Nat.le_refl _), Nat.sub_self] at hr
  cases t with
  | nil => simp at hr
  | cons x xs =>
    simp only [List.getElem?_cons_zero, Option.some.injEq] at hr
    subst hr
    simp only [fileSize_append, fileSize_cons]
    omega

theorem takeWhile_snoc_false {α : Type} (p : α → Bool) (l : List α) (x : α) (hx : p x = false) :
    (l ++ [x]).takeWhile p = l.takeWhile p := by
  induction l with
  | nil => simp [List.takeWhile, hx]
  | cons y ys ih =>
    simp only [List.cons_append, List.takeWhile]
    cases p y
    · rfl
    · simp only [ih]

theorem al_ext_of_asc {β : Type} {dflt : β} {l l' : List (Nat × β)} (ha : Asc l) (hk : AL.keys l' = AL.keys l)
    (hg : ∀ id, (AL.get id l').getD dflt = (AL.get id l).getD dflt) : l' = l := by
  induction l generalizing l' with
  | nil => exact List.map_eq_nil_iff.mp hk
  | cons x xs ih =>
    obtain ⟨k, v⟩ := x
    cases l' with
    | nil => cases hk
    | cons x' xs' =>
      obtain ⟨k', v'⟩ := x'
      simp only [AL.keys, List.map_cons, List.cons.injEq] at hk
      obtain ⟨rfl, hk⟩ := hk
      have hk' : AL.keys xs' = AL.keys xs := hk
      have hv := hg k'
      simp only [AL.get, ↓reduceIte, Option.getD_some] at hv
      subst hv
      congr 1
      refine ih ha.tail hk' (fun id => ?_)
      by_cases e : k' = id
      · subst e
        have hn : k' ∉ AL.keys xs := fun hm => Nat.lt_irrefl _ (ha.head_lt _ hm)
        rw [AL.get_eq_none_iff.mpr hn, AL.get_eq_none_iff.mpr (hk' ▸ hn)]
      · have := hg id
        simpa only [AL.get, e, ↓reduceIte] using this

/-- a directory with the same files and contents as a clean one is clean: the data files are
    the same lists (their ids ascend), and of the hint files only the entries matter -/
theorem Clean.sameFiles {d : Disk} {kd : List (Key × Loc)} {a : Nat} (hc : Clean d kd a) {I : Disk}
    (h : SameFiles d I) : Clean I kd a ∧ absOf I kd = absOf d kd := by
  obtain ⟨Id, Ih, It⟩ := I
  obtain rfl : Id = d.data := al_ext_of_asc hc.asc h.keys h.data
  refine ⟨⟨hc.asc, ?_, hc.mem, hc.max, ?_, hc.locs, hc.kd⟩, rfl⟩
  · intro fid hs hg
    exact hc.hx fid hs (h.hint fid ▸ hg)
  · intro id hid
    exact hc.hmax id (h.hkeys ▸ hid)

theorem CleanAbs.sameFiles {d : Disk} {m : Map} (hc : CleanAbs d m) {I : Disk} (h : SameFiles d I) :
    CleanAbs I m := by
  obtain ⟨kd, a, hcl, hm⟩ := hc
  exact ⟨kd, a, (hcl.sameFiles h).1, (hcl.sameFiles h).2.trans hm⟩

theorem recoversW_sameFiles {d : Disk} {kd : List (Key × Loc)} {a : Nat} {m : Map} (hc : Clean d kd a)
    (hm : absOf d kd = m) {I : Disk} (h : SameFiles d I) : RecoversW I m :=
  (CleanAbs.sameFiles ⟨kd, a, hc, hm⟩ h).recovers.weak

def ImgOk (s : St) (mid : Nat) (d : Disk) : Prop := ∀ I, OutImage d mid I → RecoversW I s.abs

theorem ImgOk.tails {s : St} {mid : Nat} {d : Disk} (h : ImgOk s mid d) (T : List (Nat × Nat)) :
    ImgOk s mid { d with tails := T } :=
  fun I hI => h I ⟨hI.keys, hI.hkeys, hI.data, hI.hint, hI.dmid, hI.tail, hI.hmid⟩

theorem OutImage.hint_mid {d I : Disk} {mid : Nat} (h : OutImage d mid I) {hs : List Hint}
    (hg : AL.get mid d.hint = some hs) : ∃ hsI, AL.get mid I.hint = some hsI ∧ hsI <+: hs := by
  have hsome := isSome_of_keys h.hkeys mid
  rw [hg] at hsome
  obtain ⟨hsI, hgI⟩ := Option.isSome_iff_exists.mp hsome
  have hp := h.hmid
  simp only [hintsOf, hgI, hg, Option.getD_some] at hp
  exact ⟨hsI, hgI, hp⟩

theorem outImage_sameFiles_of_empty {d : Disk} {mid : Nat} {I : Disk} (h : OutImage d mid I)
    (hd : dataOf d mid = []) (hh : hintsOf d mid = []) : SameFiles d I := by
  refine ⟨h.keys, h.hkeys, ?_, ?_⟩
  · intro fid
    by_cases e : fid = mid
    · subst e
      rw [hd]
      exact List.prefix_nil.mp (hd ▸ h.dmid)
    · exact h.data fid e
  · intro fid
    by_cases e : fid = mid
    · subst e
      cases hg : AL.get fid d.hint with
      | none => exact AL.get_eq_none_iff.mpr (h.hkeys ▸ AL.get_eq_none_iff.mp hg)
      | some hs =>
        obtain ⟨hsI, hgI, hp⟩ := h.hint_mid hg
        simp only [hintsOf, hg, Option.getD_some] at hh
        rw [hh] at hp
        rw [hgI, List.prefix_nil.mp hp, hh]
    · exact h.hint fid e

theorem imgOk_of_clean_empty {s : St} {d : Disk} {kd : List (Key × Loc)} {a : Nat} (hc : Clean d kd a)
    (hm : absOf d kd = s.abs) {b : Nat} (hd : dataOf d b = []) (hh : hintsOf d b = []) : ImgOk s b d :=
  fun _ hI => recoversW_sameFiles hc hm (outImage_sameFiles_of_empty hI hd hh)

/-- (a) after the data append: an image either lacks the new record (then it is an image of the
    directory before), or it has it without a hint entry (then the record is invisible) -/
theorem imgOk_half {s : St} {m : MergeSt} (h : LI s m) (himg : ImgOk s m.mid m.s.disk) (r : Rec) :
    ImgOk s m.mid (halfDisk m r) := by
  intro I hI
  have hkeys : AL.keys I.data = AL.keys m.s.disk.data := hI.keys.trans (keys_halfDisk h r)
  have hdata : ∀ fid, fid ≠ m.mid → dataOf I fid = dataOf m.s.disk fid :=
    fun fid hf => (hI.data fid hf).trans (dataOf_halfDisk_other m r hf)
  rcases (List.prefix_concat_iff.mp (dataOf_halfDisk_mid m r ▸ hI.dmid)).symm with hp | he
  · -- the new record is lost: `I` is an image of the old directory
    refine himg I ⟨hkeys, hI.hkeys, hdata, hI.hint, hp, ?_, hI.hmid⟩
    intro r' hr'
    apply hI.tail r'
    have hlt : (dataOf I m.mid).length < (dataOf m.s.disk m.mid).length :=
      Nat.lt_of_not_le fun hle => by rw [List.getElem?_eq_none hle] at hr'; cases hr'
    rw [dataOf_halfDisk_mid, List.getElem?_append_left hlt]
    exact hr'
  · -- the new record is there, without hint entry: `I` scans as without the record
    have hmI : (AL.get m.mid I.data).isSome := by rw [isSome_of_keys hkeys]; exact h.minv.midex
    have hk0 : AL.keys I.data = AL.keys (AL.set m.mid (dataOf m.s.disk m.mid) I.data) :=
      (AL.keys_set_of_mem (mem_keys_of_isSome hmI)).symm
    refine recoversW_at (J := { I with data := AL.set m.mid (dataOf m.s.disk m.mid) I.data }) m.mid hk0
      (fun _ hi => hi) (fun fid e => ⟨rfl, (dataOf_set_other _ e _).symm, rfl⟩) ?_ ?_ (himg _ ?_)
    · rw [dataOf_set_same, he]; exact List.prefix_append _ _
    · intro ix
      obtain ⟨hs, hg⟩ := Option.isSome_iff_exists.mp h.mr.hmid
      obtain ⟨hsI, hgI, hpre⟩ := hI.hint_mid (d := halfDisk m r) hg
      have hfit := fun x hx => h.mr.hx.fit hg x (hpre.subset hx)
      rw [fileScan_hinted hgI ?_ ix,
        fileScan_hinted (d := { I with data := AL.set m.mid (dataOf m.s.disk m.mid) I.data }) hgI ?_ ix]
      · intro x hx
        rw [dataOf_set_same]
        exact Nat.le_trans (hfit x hx) (Nat.le_add_right _ _)
      · intro x hx
        rw [he, fileSize_append]
        exact Nat.le_trans (hfit x hx) (Nat.le_trans (Nat.le_add_right _ _) (Nat.le_add_right _ _))
    · refine ⟨hk0.symm.trans hkeys, hI.hkeys, ?_, hI.hint, ?_, ?_, hI.hmid⟩
      · intro fid hf; rw [dataOf_set_other _ hf]; exact hdata fid hf
      · rw [dataOf_set_same]; exact List.prefix_refl _
      · intro r' hr'
        rw [dataOf_set_same, List.getElem?_eq_none (Nat.le_refl _)] at hr'
        cases hr'

theorem getHint_moveDisk_mid (m : MergeSt) (k : Key) (loc : Loc) (r : Rec) :
    AL.get m.mid (moveDisk m k loc r).hint =
      some (hintsOf m.s.disk m.mid ++ [{ ts := loc.ts, len := loc.len, pos := m.mpos, key := k }]) :=
  AL.get_set_same _ _ _

theorem keys_hint_moveDisk {s : St} {m : MergeSt} (h : LI s m) (k : Key) (loc : Loc) (r : Rec) :
    AL.keys (moveDisk m k loc r).hint = AL.keys m.s.disk.hint := AL.keys_set_of_mem (mem_keys_of_isSome h.mr.hmid)

/-- (b) after the hint append: an image either lacks the new hint entry (then it is an image of
    the directory before), or it has both the record and the entry (then nothing of this
    iteration is lost), or it has the entry but not the complete record — then the entry does
    not fit inside the data file and the scan ignores it -/
theorem imgOk_move {s : St} {m : MergeSt} (h : LI s m) (k : Key) (loc : Loc) (r : Rec) (hlen : r.len = loc.len)
    (hmove : LI s (Tr.moveNoRoll m k loc r)) (himg : ImgOk s m.mid (halfDisk m r)) :
    ImgOk s m.mid (moveDisk m k loc r) := by
  intro I hI
  obtain ⟨hs, hg⟩ := Option.isSome_iff_exists.mp h.mr.hmid
  have hgm := getHint_moveDisk_mid m k loc r
  rw [show hintsOf m.s.disk m.mid = hs by rw [hintsOf, hg]; rfl] at hgm
  obtain ⟨hsI, hgI, hpre⟩ := hI.hint_mid hgm
  have hhkeys : AL.keys I.hint = AL.keys (halfDisk m r).hint := hI.hkeys.trans (keys_hint_moveDisk h k loc r)
  have hhint : ∀ fid, fid ≠ m.mid → AL.get fid I.hint = AL.get fid (halfDisk m r).hint :=
    fun fid hf => (hI.hint fid hf).trans (AL.get_set_other hf _ _)
  have hdm : dataOf I m.mid <+: dataOf m.s.disk m.mid ++ [r] := dataOf_halfDisk_mid m r ▸ hI.dmid
  rcases (List.prefix_concat_iff.mp hpre).symm with hp | he
  · -- the new hint entry is lost: `I` is an image of the directory before the hint append
    refine himg I ⟨hI.keys, hhkeys, hI.data, hhint, hI.dmid, hI.tail, ?_⟩
    simp only [hintsOf, hgI, Option.getD_some]
    exact hp.trans (by rw [show AL.get m.mid (halfDisk m r).hint = some hs from hg]; exact List.prefix_refl _)
  · rcases (List.prefix_concat_iff.mp hdm).symm with hpd | hed
    · -- the entry is there, the record is not (completely): the entry reaches beyond the data
      -- file of the image, the scan stops in front of it
      have hsomeH : (AL.get m.mid I.hint).isSome := by rw [hgI]; rfl
      have hk0 : AL.keys (AL.set m.mid hs I.hint) = AL.keys I.hint := AL.keys_set_of_mem (mem_keys_of_isSome hsomeH)
      refine recoversW_at (J := { I with hint := AL.set m.mid hs I.hint }) m.mid rfl
        (fun id hid => by rw [hk0]; exact hid) (fun fid e => ⟨(AL.get_set_other e _ _).symm, rfl, rfl⟩)
        (List.prefix_refl _) ?_ (himg _ ?_)
      · intro ix
        have hlt : (dataOf I m.mid).length < (dataOf m.s.disk m.mid ++ [r]).length := by
          rw [List.length_append]
          exact Nat.lt_succ_of_le hpd.length_le
        have hget := List.getElem?_eq_getElem hlt
        have htail := hI.tail _ (by
          rw [show dataOf (moveDisk m k loc r) m.mid = _ from dataOf_halfDisk_mid m r]; exact hget)
        have hsz := fileSize_prefix_getElem hdm hget
        rw [fileSize_append, fileSize_cons, fileSize_nil, Nat.add_zero, ← h.minv.pos, hlen] at hsz
        have hnofit : fileSize (dataOf I m.mid) + tailOf I m.mid < m.mpos + loc.len :=
          Nat.lt_of_lt_of_le (Nat.add_lt_add_left htail _) hsz
        rw [fileScan_takeWhile hgI ix,
          fileScan_takeWhile (d := { I with hint := AL.set m.mid hs I.hint }) (AL.get_set_same _ _ _) ix, he]
        exact congrArg (List.foldl _ ix) (takeWhile_snoc_false _ _ _ (decide_eq_false (Nat.not_le_of_gt hnofit)))
      · refine ⟨hI.keys, hk0.trans hhkeys, hI.data, ?_, hI.dmid, hI.tail, ?_⟩
        · intro fid hf
          exact (AL.get_set_other hf _ _).trans (hhint fid hf)
        · simp only [hintsOf, AL.get_set_same, Option.getD_some]
          rw [show AL.get m.mid (halfDisk m r).hint = some hs from hg]
          exact List.prefix_refl _
    · -- both the record and the entry are there: nothing of this iteration is lost
      refine recoversW_sameFiles hmove.clean hmove.absOf ⟨hI.keys, hI.hkeys, ?_, ?_⟩
      · intro fid
        by_cases e : fid = m.mid
        · subst e; exact hed.trans (dataOf_halfDisk_mid m r).symm
        · exact hI.data fid e
      · intro fid
        by_cases e : fid = m.mid
        · subst e; exact (hgI.trans (congrArg some he)).trans hgm.symm
        · exact hI.hint fid e

end Store
