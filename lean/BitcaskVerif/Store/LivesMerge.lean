/-
  Lives after a crash inside a merge: every cut of a complete merge pass, and the pass
  itself, in a store that satisfies the lives invariant.
-/
import BitcaskVerif.Store.LivesUnlink

namespace Store

theorem LX.cjU {s : St} {d1 : Disk} (w : LJw s d1) {sel : List Nat} (hsel : ∀ id, id ∈ sel → id ≤ s.active)
    {L : MergeSt} (lx : LX { s with disk := d1 } L)
    (hunsel : ∀ k loc, AL.get k L.s.keydir = some loc → loc.fid ∉ sel)
    {done : List Nat} (hd : ∀ id, id ∈ done → id ∈ sel) (hz : NoHazard s done) :
    CJ (unlinkedDisk L.s.disk done) (unlinkedDisk (applyCalls s.disk L.calls) done) L.s.keydir L.mid s.abs := by
  obtain ⟨cj, _, _⟩ := lx.cj w
  have hz1 : NoHazard { s with disk := d1 } done := noHazard_visible w.sim w.rinv.asc w.junk.vals hz
  refine ⟨clean_unlinked lx.li hsel hunsel hd hz1, (lx.li.absOf_unlinked hd hunsel).trans w.abs, cj.sim.unlinked done,
    ?_, ?_⟩
  · refine cj.junk.mono ?_ ?_ ?_
    · intro fid p j h1 h2
      have hq : fid ∉ done := fun hc => by
        rw [dataOf_unlinked_mem hc] at h1; simp [recAt] at h1
      rw [dataOf_unlinked hq] at h1 h2
      exact ⟨h1, h2⟩
    · intro key loc j hl hr
      have hq : loc.fid ∉ done := fun hc => hunsel key loc hl (hd _ hc)
      rw [dataOf_unlinked hq]
      exact hr
    · intro fid p j key loc _ _ hl _
      exact hl
  · intro k hk
    obtain ⟨extra, x1, x2⟩ := lx.evs w
    show replay (allEvs ((applyCalls s.disk L.calls).data.filter (fun p => decide (p.1 ∉ done)))) k = none
    rw [allEvs_filter (fun f => decide (f ∉ done)), x1]
    exact replay_unlinked_absent hz x2 (lx.li.absent hk)

section
variable {s : St} {d1 : Disk} (w : LJw s d1) {sel : List Nat} (hsel : ∀ id, id ∈ sel → id ≤ s.active)
  {L1 L : MergeSt} (ls : LoopSim s d1 L1 L) (lx : LX { s with disk := d1 } L1)
  (hunsel : ∀ k loc, AL.get k L1.s.keydir = some loc → loc.fid ∉ sel)
include w hsel ls lx hunsel

theorem LoopSim.cjU {done : List Nat} (hd : ∀ id, id ∈ done → id ∈ sel) (hz : NoHazard s done) :
    CJ (unlinkedDisk L1.s.disk done) (unlinkedDisk L.s.disk done) L1.s.keydir L1.mid s.abs := by
  have := lx.cjU w hsel hunsel hd hz
  rwa [ls.ms.calls, ls.fr] at this

theorem LoopSim.unlink_cut_recW (hz : ∀ done, done <+: sel → NoHazard s done) {c : List Call}
    (hc : Cut ((sel.foldl unlinkOne (L.s, L.calls ++ [Call.fsync ⟨.data, L.mid⟩, Call.fsync ⟨.hint, L.mid⟩])).2 ++
      [Call.create ⟨.data, L.mid + 1⟩]) c) :
    Cut L.calls c ∨ RecW (applyCalls s.disk c) s.abs := by
  have hcj := fun done (hd : done <+: sel) => ls.cjU w hsel lx hunsel (fun _ hi => hd.subset hi) (hz done hd)
  refine (unlinkPhase_cut_cases ls.fr sel hc).imp_right fun hu => ?_
  generalize applyCalls s.disk c = D at hu
  cases hu with
  | removed hp => exact (hcj _ hp).recW
  | @hint done id rest hsp =>
    have cj := hcj done ⟨_, hsp⟩
    by_cases heq : dataOf (unlinkedDisk L.s.disk done) id = dataOf (unlinkedDisk L1.s.disk done) id
    · exact (cj.dropHintSame id heq).recW
    · exact cj.dropHintStale id heq
  | created => rw [← ls.ms.mid]; exact ((hcj sel (List.prefix_refl _)).addData (Nat.lt_succ_self _)).recW

end

theorem newActive_unlinkFold_disk (l : List Nat) (st : St × List Call) (b : Nat) :
    (newActive (l.foldl unlinkOne st).1 b).1.disk =
      { unlinkedDisk st.1.disk l with data := AL.set b [] (unlinkedDisk st.1.disk l).data } := by
  simp only [newActive]
  rw [unlinkFold_disk']

/-- **a kill anywhere in a merge pass**, in a store satisfying the lives invariant.  The hazard
    hypothesis is the one of the crash-free theorem (`mergeWith_cut_recovers`), stated for the
    real directory — i.e. for ALL its records, including those of stale merge outputs that the
    scan does not see. -/
theorem mergeWith_cut_recW (cfg : Cfg) {s : St} {d1 : Disk} (w : LJw s d1) (sel : List Nat) (order : List Key)
    (hsel : ∀ id, id ∈ sel → id ≤ s.active) (hcov : Covers order s)
    (hz : ∀ done, done <+: sel → NoHazard s done) {c : List Call}
    (hc : Cut (mergeWith cfg s sel order).2 c) : RecW (applyCalls s.disk c) s.abs := by
  have hl := mergeLoop_sim cfg w hsel order
  rw [mergeWith_calls] at hc
  rcases hl.unlink_cut_recW w hsel (mergeLoop_lx cfg w.rinv w.full1 sel hsel order)
    (mergeLoop_not_sel cfg _ sel order w.rinv.inv hsel hcov) hz hc with h | h
  · exact mergeLoop_cut_recW cfg w sel hsel order (hl.ms.calls ▸ h)
  · exact h

theorem mergeWith_lj (cfg : Cfg) {s : St} {d1 : Disk} (w : LJw s d1) (sel : List Nat) (order : List Key)
    (hsel : ∀ id, id ∈ sel → id ≤ s.active) (hcov : Covers order s) (hz : NoHazard s sel) :
    LJw (mergeWith cfg s sel order).1 (mergeWith cfg { s with disk := d1 } sel order).1.disk ∧
    (mergeWith cfg s sel order).1.abs = s.abs := by
  have hl := mergeLoop_sim cfg w hsel order
  have hz1 : NoHazard { s with disk := d1 } sel := noHazard_visible w.sim w.rinv.asc w.junk.vals hz
  have e1 := mergeWith_withDisk cfg w hsel order
  have cj := (hl.cjU w hsel (mergeLoop_lx cfg w.rinv w.full1 sel hsel order)
    (mergeLoop_not_sel cfg _ sel order w.rinv.inv hsel hcov) (fun _ hi => hi) hz).addData (Nat.lt_succ_self _)
  have hkd : (mergeWith cfg s sel order).1.keydir = (mergeLoop cfg { s with disk := d1 } sel order).s.keydir := by
    rw [mergeWith_fst]
    simp only [newActive]
    rw [unlinkFold_keydir]
    exact hl.ms.kd.symm
  refine ⟨⟨?_, ?_, ?_, ?_, ?_⟩, (mergeWith_inv_abs cfg s sel order w.inv hsel hcov).2⟩
  · rw [e1]; exact (mergeWith_rinv cfg _ sel order w.rinv hsel hcov).1
  · rw [e1]; exact (mergeWith_full_iff cfg _ sel order w.rinv hsel hcov).mpr hz1
  · rw [mergeWith_fst, mergeWith_fst, newActive_unlinkFold_disk, newActive_unlinkFold_disk, ← hl.ms.mid]
    exact cj.sim
  · rw [hkd, mergeWith_fst, mergeWith_fst, newActive_unlinkFold_disk, newActive_unlinkFold_disk, ← hl.ms.mid]
    exact cj.junk
  · rw [full_iff_fullAll, hkd, mergeWith_fst, newActive_unlinkFold_disk, ← hl.ms.mid]
    exact cj.fullA

end Store
