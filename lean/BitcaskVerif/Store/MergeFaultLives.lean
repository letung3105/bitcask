/-
  Fault-aware merge pass (C20): with the current order in `merge_files` (copy the
  record — append the hint entry — re-point the index entry; commit 924dfa8, `hintFirst = true`)
  the running store satisfies the LIVES INVARIANT `LJ` after a pass that failed at ANY call.

  Idea: whatever call fails, the index of the running process is exactly the index the crash
  theory of the merge pass (Store/LivesLoop.lean, LivesUnlink.lean) associates with the
  directory the failed pass leaves: `CJ dB D kd a abs` — `D` has the clean visible part `dB` from
  which a scan recovers `kd` — holds with `kd` = the index IN MEMORY.  (With the old order this
  fails exactly for a failing hint append: the index is ahead of the hint file.)  A store whose
  directory has a clean visible part for its own index satisfies `LJ` (`CJ.toLJw`).

  One case needs a side condition: the removal of the DATA file of a selected file fails after
  its hint file has been removed, and that file was a stale merge output holding records its
  hint file did not list (left by an earlier killed or failed pass).  These records become
  visible to a scan and can be recovered at a different (later) position than the one the running
  index holds — same record, different entry — so `LJ` (index = what the scan recovers) does not
  hold literally.  `hvis` excludes it: every selected file is completely visible.  It holds
  whenever the store has no stale outputs (`RInv`, `Full`: every history without a kill or a fault
  inside a merge pass), and for selections that contain no stale output.
-/
import BitcaskVerif.Store.MergeFaultSpec
import BitcaskVerif.Store.LivesHistory

namespace Store

/-- **a store whose directory has a clean visible part for its own index satisfies the lives
    invariant** -/
theorem CJ.toLJw {dB DB : Disk} {kd : List (Key × Loc)} {a : Nat} {m : Map} (h : CJ dB DB kd a m) {s : St}
    (hd : s.disk = DB) (hk : s.keydir = kd) (ha : s.active = a) (hh : AL.get a dB.hint = none) : LJw s dB := by
  subst hd hk ha
  have hkd : ∀ k, replay (allEvs dB.data) k = AL.get k s.keydir := fun k => (congrFun h.clean.kd k).symm
  exact ⟨⟨⟨h.clean.locs, h.clean.max, h.clean.hmax, (AL.isSome_get _ _).mpr h.clean.mem⟩, h.clean.asc,
      fun k _ hg => (hkd k).trans hg, h.clean.hx, hh⟩, fun k hg => (hkd k).trans hg, h.sim, h.junk, h.fullA⟩

/-- the state `sF` in which a failed pass (with `merge_fileid = mid`) leaves the store of a pass
    started in `s`: its directory has a clean visible part for ITS index, reading as before -/
def PJ (s : St) (mid : Nat) (sF : St) : Prop := ∃ dB a, CJ dB sF.disk sF.keydir a s.abs ∧ a ≤ mid

/-- the move of the active file above every id the pass has used -/
theorem PJ.finish {s : St} {mid : Nat} {sF : St} (h : PJ s mid sF) : LJ (newActive sF (mid + 1)).1 := by
  obtain ⟨dB, a, cj, hle⟩ := h
  refine ⟨_, (cj.addData (Nat.lt_succ_of_le hle)).toLJw (s := (newActive sF (mid + 1)).1) rfl rfl rfl ?_⟩
  exact AL.get_eq_none_iff.mpr fun hg => Nat.not_succ_le_self _ (Nat.le_trans (cj.clean.hmax _ hg) hle)

/-! ### the copy loop -/

section
variable {s : St} {d1 : Disk}

/-- the loop on the visible part and on the real directory after the same fault-free iterations -/
theorem loopSim_cj (w : LJw s d1) {m1 m : MergeSt} (ls : LoopSim s d1 m1 m) (lx : LX { s with disk := d1 } m1) :
    CJ m1.s.disk m.s.disk m.s.keydir m.mid s.abs ∧
    dataOf m.s.disk m.mid = dataOf m1.s.disk m.mid ∧
    AL.get m.mid m.s.disk.hint = AL.get m.mid m1.s.disk.hint := by
  obtain ⟨cj, hd, hh⟩ := lx.cj w
  have eD : applyCalls s.disk m1.calls = m.s.disk := by rw [ls.ms.calls]; exact ls.fr
  rw [eD, ls.ms.kd, ls.ms.mid] at cj
  rw [eD, ls.ms.mid] at hd hh
  exact ⟨cj, hd, hh⟩

/-- **a failing iteration, current order**: whichever of its calls fails, the directory has a
    clean visible part for the index in memory -/
theorem failMove_pj (w : LJw s d1) {sel : List Nat} (hsel : ∀ id, id ∈ sel → id ≤ s.active)
    {m1 m : MergeSt} (ls : LoopSim s d1 m1 m) (lx : LX { s with disk := d1 } m1) (k : Key) (loc : Loc) (r : Rec)
    (hk : AL.get k m.s.keydir = some loc) (hs : loc.fid ∈ sel)
    (hr : recAt (dataOf m.s.disk loc.fid) loc.pos = some r) (i torn : Nat) :
    PJ s (failMove true m k loc r i torn).mid (failMove true m k loc r i torn).s := by
  obtain ⟨cj, hd, hh⟩ := loopSim_cj w ls lx
  have hk1 : AL.get k m1.s.keydir = some loc := by rw [ls.ms.kd]; exact hk
  have hle : loc.fid ≤ s.active := hsel _ hs
  -- the record on the visible side is the same record
  obtain ⟨r', g1, g2, g3, _, _⟩ := ls.minv.locs k loc hk1
  have hrr : r' = r := by
    have h1 := g1
    rw [ls.disk1 w, dataOf_dapp_le ls.newOk hle] at h1
    have h2 := w.sim.recAt h1
    rw [ls.disk w, dataOf_dapp_le ls.newOk hle] at hr
    rw [hr] at h2
    exact (Option.some.inj h2).symm
  subst hrr
  have hgt : s.active < m.mid := by have := ls.minv.midgt; rw [ls.ms.mid] at this; exact this
  -- the loop state after the complete copy (no rollover)
  have hNR : mergeStep { maxFile := m1.mpos + loc.len } sel m k =
      { s := moveSt m k loc r', mid := m.mid, mpos := m.mpos + loc.len, calls := moveCalls m k loc r' } := by
    rw [mergeStep_move _ sel m k loc r' hk hs hr, ls.ms.mpos]; simp
  have ls' := ls.step { maxFile := m1.mpos + loc.len } w hsel k
  have lx' := mergeStep_lx { maxFile := m1.mpos + loc.len } sel (s := { s with disk := d1 }) hsel lx k
  obtain ⟨cj', _, _⟩ := loopSim_cj w ls' lx'
  rw [hNR] at cj'
  simp only at cj'
  rcases i with _ | _ | _ | _ | _ | i
  · -- 0: data append
    exact ⟨_, _, cj.setTail m.mid _ hd hh, Nat.le_refl _⟩
  · -- 1: hint append
    have hmid : (AL.get m.mid m1.s.disk.hint).isSome := by
      have := lx.li.mr.hmid; rw [ls.ms.mid] at this; exact this
    exact ⟨_, _, cj.half hmid hd hh hk (Nat.lt_of_le_of_lt hle hgt) g1 g2 g3, Nat.le_refl _⟩
  · exact ⟨_, _, cj', Nat.le_refl _⟩                                -- 2: fsync data
  · exact ⟨_, _, cj', Nat.le_refl _⟩                                -- 3: fsync hint
  · exact ⟨_, _, cj', Nat.le_succ _⟩                                -- 4: create data
  · exact ⟨_, _, cj'.addData (Nat.lt_succ_self _), Nat.le_refl _⟩   -- 5: create hint

/-! ### the removal of the inputs -/

theorem unlinked_disk (cfg : Cfg) (s : St) (sel : List Nat) (order : List Key) (done : List Nat) :
    (unlinked cfg s sel order done).1.disk = unlinkedDisk (mergeLoop cfg s sel order).s.disk done :=
  unlinkFold_disk' done _

theorem unlinked_keydir (cfg : Cfg) (s : St) (sel : List Nat) (order : List Key) (done : List Nat) :
    (unlinked cfg s sel order done).1.keydir = (mergeLoop cfg s sel order).s.keydir :=
  unlinkFold_keydir done _

/-! ### the pass -/

/-- **when `merge_files` returns — failed at any call, or not at all — the directory has a clean
    visible part for the index in memory** (current order).  `hvis`: the selected files are
    completely visible. -/
theorem Stop.pj (w : LJw s d1) {cfg : Cfg} {sel : List Nat} {order : List Key} {j torn : Nat}
    {z : (St × List Call) × Bool} {mid : Nat} (hsel : ∀ id, id ∈ sel → id ≤ s.active) (hcov : Covers order s)
    (hz : ∀ done, done <+: sel → NoHazard s done) (hvis : ∀ id, id ∈ sel → dataOf s.disk id = dataOf d1 id)
    (h : Stop true cfg s sel order j torn z mid) : PJ s mid z.1.1 := by
  have ls := fun ks => mergeLoop_sim cfg w hsel ks
  have lx := fun ks => mergeLoop_lx cfg w.rinv w.full1 sel hsel ks
  -- the state after the fault-free removal of a prefix of the inputs
  have hbase : ∀ done, done <+: sel →
      CJ (unlinkedDisk (mergeLoop cfg { s with disk := d1 } sel order).s.disk done) (unlinked cfg s sel order done).1.disk
        (unlinked cfg s sel order done).1.keydir (mergeLoop cfg s sel order).mid s.abs := by
    intro done hd
    have := (ls order).cjU w hsel (lx order) (mergeLoop_not_sel cfg { s with disk := d1 } sel order w.rinv.inv hsel hcov)
      (fun i hi => hd.subset hi) (hz done hd)
    rwa [(ls order).ms.kd, (ls order).ms.mid, ← unlinked_disk cfg s sel order done,
      ← unlinked_keydir cfg s sel order done] at this
  cases h with
  | done => exact ⟨_, _, hbase sel (List.prefix_refl _), Nat.le_refl _⟩
  | create0 => exact ⟨_, _, w.cj, Nat.le_succ _⟩
  | create1 => exact ⟨_, _, w.cj.addData (Nat.lt_succ_self _), Nat.le_refl _⟩
  | move ho hm hk hs hr => subst hm; exact failMove_pj w hsel (ls _) (lx _) _ _ _ hk hs hr _ _
  | sync => exact ⟨_, _, (loopSim_cj w (ls order) (lx order)).1, Nat.le_refl _⟩
  | unlink1 hsel' hu => subst hu; exact ⟨_, _, hbase _ ⟨_, hsel'.symm⟩, Nat.le_refl _⟩
  | @unlink2 done rest id u hsel' hu =>
    -- the hint file of `id` is gone, its data file is not
    subst hu
    have hidsel : id ∈ sel := hsel' ▸ List.mem_append_right _ List.mem_cons_self
    refine ⟨_, _, (hbase _ ⟨_, hsel'.symm⟩).dropHintSame id ?_, Nat.le_refl _⟩
    rw [unlinked_disk]
    by_cases hq : id ∈ done
    · rw [dataOf_unlinked_mem hq, dataOf_unlinked_mem hq]
    · rw [dataOf_unlinked hq, dataOf_unlinked hq, (ls order).disk w, (ls order).disk1 w,
        dataOf_dapp_le (ls order).newOk (hsel _ hidsel), dataOf_dapp_le (ls order).newOk (hsel _ hidsel)]
      exact hvis id hidsel

end

/-! ### the statements without the visible part -/

/-- the lives invariant, and every selected file is completely visible to a scan: no selected
    file is a stale merge output holding records that its hint file does not list -/
def LJsel (s : St) (sel : List Nat) : Prop :=
  ∃ d1, LJw s d1 ∧ ∀ id, id ∈ sel → dataOf s.disk id = dataOf d1 id

theorem LJsel.lj {s : St} {sel : List Nat} (h : LJsel s sel) : LJ s := let ⟨d1, w, _⟩ := h; ⟨d1, w⟩

/-- stores without stale merge outputs (every history without a kill or a fault inside a pass) -/
theorem ljsel_of_rinv {s : St} (h : RInv s) (hf : Full s) (sel : List Nat) : LJsel s sel :=
  ⟨s.disk, LJw.of_rinv h hf, fun _ _ => rfl⟩

/-- selections of files without hint files (files written by puts and deletes) -/
theorem ljsel_of_unhinted {s : St} (h : LJ s) {sel : List Nat} (hu : ∀ id, id ∈ sel → AL.get id s.disk.hint = none) :
    LJsel s sel := by
  obtain ⟨d1, w⟩ := h
  exact ⟨d1, w, fun id hid => (w.sim.file id).unh (hu id hid)⟩

/-- in a store satisfying the lives invariant the index is the index a restart would build -/
theorem LJ.keydir_open {s : St} (h : LJ s) : kdF (openDisk s.disk).1.keydir = kdF s.keydir := by
  obtain ⟨d1, w⟩ := h
  rw [w.wit.keydir, w.kd_eq]

end Store
