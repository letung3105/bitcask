/-
  Power loss (C09), merge-free histories with `sync = always`, in the model that tracks data
  files only.

  Failure model of the property: creations and removals of files are persistent; of every data
  file, any suffix written after that file's last completed fsync may be missing (at record
  granularity, possibly leaving a partial record, i.e. an arbitrary invisible tail).
  `SDisk` carries, per data file, the number of records that are on stable storage; `PowerLoss sd
  d'` says that `d'` is one of the directories a power failure can leave.

  This is the model of Store/PowerMerge.lean (`SDisk2`, `PowerLoss2`) restricted to hint files
  that lose nothing, with the partial record left behind unconstrained: the bookkeeping of the
  data files is the same, and every image has the files of an image of that model.  What holds of
  the images there (Store/PowerAll.lean) holds here.
-/
import BitcaskVerif.Store.PowerAll

namespace Store

structure SDisk where
  disk : Disk
  synced : List (Nat × Nat)

def syncedOf (sd : SDisk) (id : Nat) : Nat := (AL.get id sd.synced).getD 0

/-- durability bookkeeping of one call: an fsync of a data file makes all its current records
    durable; a new file starts with nothing (its creation itself is persistent) -/
def syncedAfter (sd : SDisk) : Call → List (Nat × Nat)
  | .fsync f =>
    match f.kind with
    | .data => AL.set f.id (dataOf sd.disk f.id).length sd.synced
    | .hint => sd.synced
  | .create f =>
    match f.kind with
    | .data => AL.set f.id 0 sd.synced
    | .hint => sd.synced
  | _ => sd.synced

def syncCall (sd : SDisk) (c : Call) : SDisk := { disk := applyCall sd.disk c, synced := syncedAfter sd c }

def syncCalls (sd : SDisk) (cs : List Call) : SDisk := cs.foldl syncCall sd

@[simp] theorem syncCalls_nil (sd : SDisk) : syncCalls sd [] = sd := rfl
@[simp] theorem syncCalls_cons (sd : SDisk) (c : Call) (cs : List Call) :
    syncCalls sd (c :: cs) = syncCalls (syncCall sd c) cs := rfl
theorem syncCalls_append (sd : SDisk) (a b : List Call) :
    syncCalls sd (a ++ b) = syncCalls (syncCalls sd a) b := by
  simp [syncCalls, List.foldl_append]

theorem syncCalls_disk (cs : List Call) : ∀ (sd : SDisk), (syncCalls sd cs).disk = applyCalls sd.disk cs := by
  induction cs with
  | nil => intro sd; rfl
  | cons c cs ih => intro sd; simp only [syncCalls_cons, applyCalls_cons, ih]; rfl

def FullySynced (sd : SDisk) : Prop := ∀ id, (dataOf sd.disk id).length ≤ syncedOf sd id

def allSynced (d : Disk) : List (Nat × Nat) := d.data.map (fun p => (p.1, p.2.length))

theorem fullySynced_all (d : Disk) : FullySynced ⟨d, allSynced d⟩ := durAt_map_length d.data

/-- of file `id` only the first `keep id` records survive; `T` are the resulting partial records -/
def lossImage (d : Disk) (keep : Nat → Nat) (T : List (Nat × Nat)) : Disk :=
  { data := d.data.map (fun p => (p.1, p.2.take (keep p.1))), hint := d.hint, tails := T }

/-- `d'` is a directory a power failure can leave: every file keeps at least its durable records,
    all files still exist -/
def PowerLoss (sd : SDisk) (d' : Disk) : Prop :=
  ∃ keep T, (∀ id, syncedOf sd id ≤ keep id) ∧ d' = lossImage sd.disk keep T

theorem lossImage_full {d : Disk} (ha : Asc d.data) {keep : Nat → Nat}
    (h : ∀ id, (dataOf d id).length ≤ keep id) (T : List (Nat × Nat)) :
    lossImage d keep T = { d with tails := T } := by
  have : d.data.map (fun p => (p.1, p.2.take (keep p.1))) = d.data := by
    have hall : ∀ p ∈ d.data, (p.1, p.2.take (keep p.1)) = p := by
      intro p hp
      obtain ⟨id, rs⟩ := p
      have hg := get_of_mem_asc ha hp
      have := h id
      simp only [dataOf, hg, Option.getD_some] at this
      simp only [List.take_of_length_le this]
    generalize d.data = l at hall
    induction l with
    | nil => rfl
    | cons x xs ih =>
      simp only [List.map_cons, hall x List.mem_cons_self,
        ih (fun p hp => hall p (List.mem_cons_of_mem _ hp))]
  simp only [lossImage, this]

theorem powerLoss_full {sd : SDisk} (ha : Asc sd.disk.data) (hfs : FullySynced sd) {d' : Disk}
    (hp : PowerLoss sd d') : ∃ T, d' = { sd.disk with tails := T } := by
  obtain ⟨keep, T, hk, rfl⟩ := hp
  exact ⟨T, lossImage_full ha (fun id => Nat.le_trans (hfs id) (hk id)) T⟩

theorem syncCalls2_fst (cs : List Call) : ∀ (sd : SDisk) (hsy : List (Nat × Nat)),
    ∃ hsy', syncCalls2 ⟨sd.disk, sd.synced, hsy⟩ cs = ⟨(syncCalls sd cs).disk, (syncCalls sd cs).synced, hsy'⟩ := by
  induction cs with
  | nil => intro sd hsy; exact ⟨hsy, rfl⟩
  | cons c cs ih => intro sd hsy; exact ih (syncCall sd c) _

theorem PowerLoss.to2 {sd : SDisk} {d' : Disk} (hp : PowerLoss sd d') (hsy : List (Nat × Nat)) :
    ∃ I, PowerLoss2 ⟨sd.disk, sd.synced, hsy⟩ I ∧ SameFiles I d' := by
  obtain ⟨keep, T, hk, rfl⟩ := hp
  obtain ⟨kH, hkH⟩ : ∃ kH : Nat → Nat, ∀ id, (AL.get id hsy).getD 0 ≤ kH id ∧ (hintsOf sd.disk id).length ≤ kH id :=
    ⟨fun id => (AL.get id hsy).getD 0 + (hintsOf sd.disk id).length,
      fun id => ⟨Nat.le_add_right _ _, Nat.le_add_left _ _⟩⟩
  refine ⟨_, ⟨keep, kH, [], hk, fun id => (hkH id).1, fun id r _ => r.len_pos, rfl⟩, rfl,
    (keys_map_val (fun id (hs : List Hint) => hs.take (kH id)) _).symm, fun _ => rfl, ?_⟩
  intro fid
  rw [getHint_lossImage2]
  show AL.get fid sd.disk.hint = _
  cases hg : AL.get fid sd.disk.hint with
  | none => rfl
  | some hs =>
    have : hintsOf sd.disk fid = hs := by rw [hintsOf, hg]; rfl
    rw [Option.map_some, List.take_of_length_le (this ▸ (hkH fid).2)]

theorem powerLoss_embed {d : Disk} {sy : List (Nat × Nat)} (hfs : FullySynced ⟨d, sy⟩) :
    ∃ sd0 : SDisk2, sd0.disk = d ∧ FullySynced2 sd0 ∧ ∀ c,
      (FullySynced2 (syncCalls2 sd0 c) → FullySynced (syncCalls ⟨d, sy⟩ c)) ∧
      ∀ d', PowerLoss (syncCalls ⟨d, sy⟩ c) d' → ∃ I, PowerLoss2 (syncCalls2 sd0 c) I ∧ SameFiles I d' := by
  obtain ⟨hsy, hh⟩ : ∃ hsy, ∀ id, DurAt d.hint hsy id := ⟨_, durAt_map_length d.hint⟩
  refine ⟨⟨d, sy, hsy⟩, rfl, fun id => ⟨hfs id, hh id⟩, ?_⟩
  intro c
  obtain ⟨hsy', e⟩ := syncCalls2_fst c ⟨d, sy⟩ hsy
  rw [e]
  exact ⟨fun h id => (h id).1, fun d' hp => hp.to2 hsy'⟩

end Store
