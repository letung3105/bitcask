/-
  Fault-aware MERGE pass (C20): what `Writer::merge` (src/storage/bitcask.rs: `merge`,
  `merge_files`, `move_above_created_files`, `new_active_datafile`) leaves behind when ONE of the
  file-system calls of the pass fails.

  `mergeF hintFirst cfg s sel order j torn` is the pass in which call number `j` fails — `j` is the 0-based
  index into the call list `(mergeWith cfg s sel order).2` of the fault-free pass (its last call
  is the creation of the new active file).  The calls before `j` have taken effect, call `j` has
  not, and `merge_files` returns the error AT ONCE:

    * index entries copied before the failing call stay re-pointed to their copies.  Inside one
      iteration the order is the one of the Rust code.  `hintFirst = true`, the current order
      (since commit 924dfa8): data append — hint append — re-point the entry — count it live in the
      output — (output rollover: fsync data, fsync hint, `merge_fileid += 1`, create data, create
      hint); a failing DATA or HINT append leaves the entry un-re-pointed and uncounted.
      `hintFirst = false`, the previous order: data append — re-point — count — hint
      append — …; a failing HINT append leaves the entry re-pointed and counted (harmful:
      `c20_merge_old_order_data_loss_counterexample`, Props/C20Merge.lean).  The fault-free pass
      and its call list are the same for both orders.  Everything after the hint append leaves
      the entry re-pointed and counted; a failing rollover `create` happens after `merge_fileid`
      was advanced;
    * an input file is forgotten by the counters (`stats.remove`) only after both of its unlinks
      have succeeded; a failing hint unlink removes nothing, a failing data unlink leaves the data
      file without its hint file;
    * then `merge()` moves the active file above every id the pass has used
      (`pending_active_fileid = Some(merge_fileid + 1); move_above_created_files()`): the new
      active file `merge_fileid + 1` is created and the pass returns the error.  If the failing
      call `j` is that creation itself (the last call of the list) everything else has
      happened, the active id / writer are unchanged and the id stays PENDING: the next
      put / delete / merge performs the move first (`StP`, `putP`, `deleteP`, `mergeWithP`).

  Granularity of a failing APPEND: a prefix of the entry's bytes may have reached the file, i.e.
  the call `append f p` is replaced by `append f (.raw bs)` with `bs.length < payLen p`, exactly
  as in a crash cut (`Cut`, Store/CutLemmas.lean).  `torn` is the number of bytes that reached the
  file, clipped to `payLen p - 1`.  In the model's directory a torn data append lengthens the
  invisible tail of the output file (`Disk.tails`), a torn hint append leaves no trace (the hint
  scanner stops silently at a truncated entry).

  Modelling assumption (as in `mergeStep`): the copied record is in the output file when the
  index entry is re-pointed.  In the Rust code the data output is a `BufWriter`: bytes of records
  copied so far may still be in its buffer when `merge_files` returns early; they are written when
  the writer is dropped at that return — before anything else looks at the file.  This is the
  single-fault assumption: that write-out does not fail as well.  A `write` that fails while the
  buffer is flushed in the middle of copying a later record, or in `sync_merge_outputs`, leaves —
  after the drop — the state of a failing data append of that later record, resp. of a failing
  fsync.

  Everything here is computable (a driver can run it).
-/
import BitcaskVerif.Store.MergeLemmas

namespace Store

/-- store state plus `Writer::pending_active_fileid`: the id of the active file that still has to
    be opened before the next entry may be appended -/
structure StP where
  st : St
  pending : Option Nat := none
deriving Repr

/-- the bytes of a failed append of an `n`-byte entry that reached the file: fewer than `n` -/
def tornBytes (torn n : Nat) : List UInt8 := List.replicate (min torn (n - 1)) 0

/-- the hint entry the merge writes for key `k` whose entry was `loc` -/
def hintOf (m : MergeSt) (k : Key) (loc : Loc) : Hint :=
  { ts := loc.ts, len := loc.len, pos := m.mpos, key := k }

/-- state of the fault-aware copy loop: the loop state (its `calls` are the calls that have taken
    effect) and whether a call has failed (then nothing more happens) -/
structure FM where
  m : MergeSt
  failed : Bool := false

/-- the iteration for key `k` (index entry `loc`, addressing record `r`) in which call number `i`
    of the iteration fails.  Calls of an iteration: 0 data append, 1 hint append, and if the output
    rolls over 2 fsync data, 3 fsync hint, 4 create next data file, 5 create next hint file.
    `mid` of the result is the value of `merge_fileid` when the error is returned. -/
def failMove (hintFirst : Bool) (m : MergeSt) (k : Key) (loc : Loc) (r : Rec) (i torn : Nat) : MergeSt :=
  match i with
  | 0 =>
    -- `readers.copy(..)?` fails: nothing but a prefix of the record's bytes has happened
    { m with
      s := { m.s with disk := { m.s.disk with
               tails := AL.set m.mid ((AL.get m.mid m.s.disk.tails).getD 0 + (tornBytes torn r.len).length)
                          m.s.disk.tails } },
      calls := m.calls ++ [Call.append ⟨.data, m.mid⟩ (.raw (tornBytes torn r.len))] }
  | 1 =>
    -- the record is copied; `merge_hintfile_writer.append(..)?` fails
    { m with
      s := if hintFirst then
             -- current order: the entry still points at the input; the copy nothing points at is counted
             -- as dead in the output (`stats.entry(*merge_fileid).or_default().add_dead(nbytes)`, commit
             -- 8c97bf1), so that a later pass selects this file and removes it
             { m.s with
               disk := { m.s.disk with data := AL.set m.mid (dataOf m.s.disk m.mid ++ [r]) m.s.disk.data },
               stats := updStat m.s.stats m.mid (·.addDead r.len) }
           else
             -- order before commit 924dfa8: the entry is already re-pointed and counted
             { moveSt m k loc r with
               disk := { m.s.disk with data := AL.set m.mid (dataOf m.s.disk m.mid ++ [r]) m.s.disk.data } },
      calls := m.calls ++ [Call.append ⟨.data, m.mid⟩ (.ofRec r),
                           Call.append ⟨.hint, m.mid⟩ (.raw (tornBytes torn (hintOf m k loc).size))] }
  | 2 =>
    -- `sync_merge_outputs(..)?` fails at the data file
    { m with s := moveSt m k loc r, calls := moveCalls m k loc r }
  | 3 =>
    -- ... at the hint file
    { m with s := moveSt m k loc r, calls := moveCalls m k loc r ++ [Call.fsync ⟨.data, m.mid⟩] }
  | 4 =>
    -- `*merge_fileid += 1` has happened, `log::create(datafile_name(..))?` fails
    { s := moveSt m k loc r, mid := m.mid + 1, mpos := 0,
      calls := moveCalls m k loc r ++ [Call.fsync ⟨.data, m.mid⟩, Call.fsync ⟨.hint, m.mid⟩] }
  | _ =>
    -- the next data file exists, `log::create(hintfile_name(..))?` fails
    { s := { moveSt m k loc r with
             disk := { moveDisk m k loc r with data := AL.set (m.mid + 1) [] (moveDisk m k loc r).data } },
      mid := m.mid + 1, mpos := 0,
      calls := moveCalls m k loc r ++ [Call.fsync ⟨.data, m.mid⟩, Call.fsync ⟨.hint, m.mid⟩,
                                     Call.create ⟨.data, m.mid + 1⟩] }

/-- one iteration of the merge loop when call number `j` of the pass fails: if all calls of the
    fault-free iteration have an index below `j` the iteration is the fault-free one; otherwise
    call `j - (calls so far)` of this iteration fails -/
def mergeStepF (hintFirst : Bool) (cfg : Cfg) (sel : List Nat) (j torn : Nat) (x : FM) (k : Key) : FM :=
  if x.failed then x else
  let m' := mergeStep cfg sel x.m k
  if m'.calls.length ≤ j then { m := m', failed := false }
  else
    match AL.get k x.m.s.keydir with
    | none => { x with failed := true }      -- not reachable: such an iteration issues no call
    | some loc =>
      match recAt (dataOf x.m.s.disk loc.fid) loc.pos with
      | none => { x with failed := true }    -- not reachable: such an iteration issues no call
      | some r => { m := failMove hintFirst x.m k loc r (j - x.m.calls.length) torn, failed := true }

/-- creation of the first output pair `active + 1` (calls 0 and 1 of the pass) -/
def startF (s : St) (j : Nat) : FM :=
  match j with
  | 0 => { m := { s := s, mid := s.active + 1, mpos := 0, calls := [] }, failed := true }
  | 1 => { m := { s := { s with disk := { s.disk with data := AL.set (s.active + 1) [] s.disk.data } },
                  mid := s.active + 1, mpos := 0, calls := [Call.create ⟨.data, s.active + 1⟩] },
           failed := true }
  | _ => { m := { s := { s with disk := rollDisk s.disk (s.active + 1) }, mid := s.active + 1, mpos := 0,
                  calls := [Call.create ⟨.data, s.active + 1⟩, Call.create ⟨.hint, s.active + 1⟩] },
           failed := false }

/-- `sync_merge_outputs` after the loop -/
def syncF (j : Nat) (x : FM) : FM :=
  if x.failed then x
  else if j = x.m.calls.length then { m := x.m, failed := true }
  else if j = x.m.calls.length + 1 then
    { m := { x.m with calls := x.m.calls ++ [Call.fsync ⟨.data, x.m.mid⟩] }, failed := true }
  else
    { m := { x.m with calls := x.m.calls ++ [Call.fsync ⟨.data, x.m.mid⟩, Call.fsync ⟨.hint, x.m.mid⟩] },
      failed := false }

/-- removal of one merged file when call `j` of the pass fails (state, calls so far, failed?).
    As in `unlinkOne`, a `remove_file` of a file that does not exist (`NotFound`, tolerated by the
    Rust code) is not a call of the model; a fault injected into such a call has the effect of
    the second branch below (nothing of this file has been removed, the counters stay). -/
def unlinkOneF (j : Nat) (x : (St × List Call) × Bool) (id : Nat) : (St × List Call) × Bool :=
  if x.2 then x else
  if (unlinkOne x.1 id).2.length ≤ j then (unlinkOne x.1 id, false)
  else if (AL.get id x.1.1.disk.hint).isSome && decide (j ≠ x.1.2.length) then
    -- the hint file is gone, `fs::remove_file(datafile_name(..))` fails; the counters stay
    (({ x.1.1 with disk := { x.1.1.disk with hint := AL.del id x.1.1.disk.hint } },
      x.1.2 ++ [Call.unlink ⟨.hint, id⟩]), true)
  else
    -- the first removal of this file fails: nothing has changed
    (x.1, true)

/-- result of a (possibly failing) merge pass -/
structure MergeFOut where
  p : StP
  /-- the calls that have taken effect, in order; of a failed append the torn prefix that reached
      the file; the failing call itself does not appear -/
  calls : List Call
  /-- `Writer::merge` returned `Err` -/
  err : Bool

/-- after `merge_files` returned an error with `merge_fileid = mid`:
    `pending_active_fileid = Some(mid + 1); move_above_created_files()` (which succeeds: one fault
    per pass); the error is returned -/
def finishF (s : St) (mid : Nat) (calls : List Call) : MergeFOut :=
  { p := { st := (newActive s (mid + 1)).1, pending := none },
    calls := calls ++ (newActive s (mid + 1)).2, err := true }

/-- **the merge pass in which call number `j` fails** (`torn`: bytes of a failing append that
    reached the file; `hintFirst = true`: current order in `merge_files`, `false`: the order
    before commit 924dfa8).  For `j` beyond the last call this is the fault-free pass. -/
def mergeF (hintFirst : Bool) (cfg : Cfg) (s : St) (sel : List Nat) (order : List Key) (j torn : Nat) : MergeFOut :=
  let x := order.foldl (mergeStepF hintFirst cfg sel j torn) (startF s j)
  let y := syncF j x
  let z := sel.foldl (unlinkOneF j) ((y.m.s, y.m.calls), y.failed)
  if z.2 then finishF z.1.1 y.m.mid z.1.2
  else if j = z.1.2.length then
    -- `merge_files` succeeded, the creation of the new active file fails: the move stays pending
    { p := { st := z.1.1, pending := some (y.m.mid + 1) }, calls := z.1.2, err := true }
  else
    { p := { st := (newActive z.1.1 (y.m.mid + 1)).1, pending := none },
      calls := z.1.2 ++ (newActive z.1.1 (y.m.mid + 1)).2, err := false }

/-! ### operations on a store with a pending move -/

/-- `move_above_created_files` (fault-free) -/
def StP.move (p : StP) : St × List Call :=
  match p.pending with
  | none => (p.st, [])
  | some id => newActive p.st id

/-- `Writer::put`: `write` starts with `move_above_created_files()?` -/
def putP (cfg : Cfg) (p : StP) (ts : Int) (k : Key) (v : Val) : StP × List Call :=
  ({ st := (put cfg p.move.1 ts k v).1, pending := none }, p.move.2 ++ (put cfg p.move.1 ts k v).2)

/-- `Writer::delete` -/
def deleteP (cfg : Cfg) (p : StP) (ts : Int) (k : Key) : StP × Bool × List Call :=
  ({ st := (delete cfg p.move.1 ts k).1, pending := none }, (delete cfg p.move.1 ts k).2.1,
   p.move.2 ++ (delete cfg p.move.1 ts k).2.2)

/-- `Reader::get` (reads do not move) -/
def getP (p : StP) (k : Key) : GetRes := get p.st k

/-- `Writer::merge` starts with `move_above_created_files()?` -/
def mergeWithP (cfg : Cfg) (p : StP) (sel : List Nat) (order : List Key) : StP × List Call :=
  ({ st := (mergeWith cfg p.move.1 sel order).1, pending := none },
   p.move.2 ++ (mergeWith cfg p.move.1 sel order).2)

/-- ... the files are selected after the move -/
def mergeP (cfg : Cfg) (p : StP) (order : List Key) : StP × List Call :=
  mergeWithP cfg p (selectFiles cfg p.move.1) order

/-- a merge pass with a failing call on a store with a pending move (the move comes first and
    succeeds: one fault per pass) -/
def mergeFP (hintFirst : Bool) (cfg : Cfg) (p : StP) (sel : List Nat) (order : List Key) (j torn : Nat) : MergeFOut :=
  let r := mergeF hintFirst cfg p.move.1 sel order j torn
  { r with calls := p.move.2 ++ r.calls }

/-- what every key reads -/
def StP.abs (p : StP) : Map := p.st.abs

end Store
