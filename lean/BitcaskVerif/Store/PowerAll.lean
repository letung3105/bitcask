/-
  Power loss (C09), all operations in one durability model (`SDisk2`: data and hint files):
  `put` / `delete` with `sync = always`, `reopen`, merge passes; histories.
-/
import BitcaskVerif.Store.PowerCuts

namespace Store

open Tr

theorem SameFiles.of_tails {d I : Disk} {T : List (Nat × Nat)} (h : SameFiles { d with tails := T } I) :
    SameFiles d I := ⟨h.keys, h.hkeys, h.data, h.hint⟩

theorem powerLoss2_oneShort {sd : SDisk2} {a : Nat} {recs : List Rec} {r : Rec}
    (hother : ∀ id, id ≠ a → SyncedAt sd id) (hha : (hintsOf sd.disk a).length ≤ sd.hOf a)
    (hda : dataOf sd.disk a = recs ++ [r]) (hsa : recs.length ≤ sd.dOf a) {I : Disk} (hp : PowerLoss2 sd I) :
    AL.keys I.data = AL.keys sd.disk.data ∧ AL.keys I.hint = AL.keys sd.disk.hint ∧
    (∀ fid, AL.get fid I.hint = AL.get fid sd.disk.hint) ∧
    (∀ fid, fid ≠ a → dataOf I fid = dataOf sd.disk fid) ∧
    (dataOf I a = recs ∨ dataOf I a = recs ++ [r]) := by
  refine ⟨hp.keys.1, hp.keys.2, ?_, fun fid hf => hp.data_eq (hother fid hf).1, ?_⟩
  · intro fid
    by_cases e : fid = a
    · subst e; exact hp.hint_eq hha
    · exact hp.hint_eq (hother fid e).2
  · obtain ⟨n, hn, e, _⟩ := hp.data a
    rw [e, hda]
    by_cases hk : recs.length + 1 ≤ n
    · exact .inr (List.take_of_length_le (by simp; omega))
    · obtain rfl : n = recs.length := by omega
      exact .inl (List.take_left' rfl)

theorem write_sync_cuts (cfg : Cfg) (hs : cfg.syncAlways = true) (s : St) (r : Rec) {c : List Call}
    (hc : Cut (write cfg s r).2.2 c) :
    c = [] ∨ (∃ bs, c = [Call.append ⟨.data, s.active⟩ (.raw bs)]) ∨
    c = [Call.append ⟨.data, s.active⟩ (.ofRec r)] ∨
    c = [Call.append ⟨.data, s.active⟩ (.ofRec r), Call.fsync ⟨.data, s.active⟩] ∨ c = (write cfg s r).2.2 := by
  rw [write_calls_sync cfg s r hs] at hc ⊢
  rcases cut_append hc with h1 | ⟨c', rfl, h2⟩
  · rcases cut_append (a := [_]) (b := [_]) h1 with h3 | ⟨c', rfl, h4⟩
    · rcases cut_single_append h3 with rfl | ⟨bs, rfl⟩ | rfl
      · exact .inl rfl
      · exact .inr (.inl ⟨bs, rfl⟩)
      · exact .inr (.inr (.inl rfl))
    · rcases cut_single_noappend (fun _ _ => Call.noConfusion) h4 with rfl | rfl
      · exact .inr (.inr (.inl rfl))
      · exact .inr (.inr (.inr (.inl rfl)))
  · rcases cut_if_single (fun _ _ => Call.noConfusion) h2 with rfl | ⟨hroll, rfl⟩
    · exact .inr (.inr (.inr (.inl (List.append_nil _))))
    · exact .inr (.inr (.inr (.inr (by rw [if_pos hroll]))))

theorem fullySynced2_append_fsync {sd : SDisk2} (h : FullySynced2 sd) (a : Nat) (r : Rec) :
    FullySynced2 (syncCalls2 sd [Call.append ⟨.data, a⟩ (.ofRec r), Call.fsync ⟨.data, a⟩]) := by
  intro id
  by_cases e : id = a
  · subst e; exact ⟨durAt_fsync_same _ _ _, (h id).2⟩
  · exact syncedAt_step (syncedAt_step (h id) (.append ⟨.data, a⟩ (.ofRec r)) (fun _ _ e' => by cases e'; exact Ne.symm e))
      (.fsync ⟨.data, a⟩) (fun _ _ e' => nomatch e')

theorem fullySynced2_write (cfg : Cfg) (hs : cfg.syncAlways = true) (s : St) (r : Rec) {sd : SDisk2}
    (hfs : FullySynced2 sd) : FullySynced2 (syncCalls2 sd (write cfg s r).2.2) := by
  rw [write_calls_sync cfg s r hs, syncCalls2_append]
  refine fullySynced2_steps _ (fullySynced2_append_fsync hfs _ _) ?_
  split
  · exact noAppend_of rfl
  · exact fun _ hc => nomatch hc

/-- the three kinds of directory a power failure during `write` (`sync = always`) can leave: the
    files of the old directory, of the directory with the record appended, of the final
    directory (tails arbitrary); once the fsync has completed, not the old one -/
theorem write_powerLoss2_cases (cfg : Cfg) (hs : cfg.syncAlways = true) {s : St} (h : Inv s) (r : Rec)
    {sd0 : SDisk2} (hd : sd0.disk = s.disk) (hfs : FullySynced2 sd0) {c : List Call}
    (hc : Cut (write cfg s r).2.2 c) {I : Disk} (hp : PowerLoss2 (syncCalls2 sd0 c) I) :
    (SameFiles s.disk I ∧ Call.fsync ⟨.data, s.active⟩ ∉ c) ∨ SameFiles (appendDisk s r) I ∨
    SameFiles (write cfg s r).1.disk I := by
  obtain ⟨disk0, dsy, hsy⟩ := sd0
  subst hd
  rcases write_sync_cuts cfg hs s r hc with rfl | ⟨bs, rfl⟩ | rfl | rfl | rfl
  · exact .inl ⟨powerLoss2_sameFiles hfs hp, fun hm => nomatch hm⟩
  · -- a torn append to a data file changes neither the files nor what is durable, only a tail
    exact .inl ⟨(powerLoss2_sameFiles hfs hp).of_tails, by simp⟩
  · -- after the append everything is durable except the new record
    obtain ⟨k1, k2, k3, k4, k5⟩ := powerLoss2_oneShort (sd := ⟨appendDisk s r, dsy, hsy⟩) (a := s.active)
      (fun id hid => syncedAt_step (hfs id) (.append ⟨.data, s.active⟩ (.ofRec r))
        (fun _ _ e => by cases e; exact Ne.symm hid))
      (hfs s.active).2 (dataOf_set_same _ _ _) (hfs s.active).1 hp
    rcases k5 with k5 | k5
    · refine .inl ⟨⟨k1.trans (AL.keys_set_of_mem (mem_keys_of_isSome h.act)), k2, ?_, k3⟩, by simp⟩
      intro fid
      by_cases e : fid = s.active
      · subst e; exact k5
      · exact (k4 fid e).trans (dataOf_set_other _ e _)
    · refine .inr (.inl ⟨k1, k2, ?_, k3⟩)
      intro fid
      by_cases e : fid = s.active
      · subst e; exact k5.trans (dataOf_set_same _ _ _).symm
      · exact k4 fid e
  · exact .inr (.inl (powerLoss2_sameFiles (fullySynced2_append_fsync hfs _ _) hp))
  · have := powerLoss2_sameFiles (fullySynced2_write cfg hs s r hfs) hp
    rw [syncCalls2_disk, write_frame] at this
    exact .inr (.inr this)

theorem cleanAbs_of_rinv {t : St} (h : RInv t) (hf : Full t) : CleanAbs t.disk t.abs :=
  ⟨_, _, clean_of_rinv h hf, (abs_eq_absOf t).symm⟩

/-- **power failure inside a merge-free operation** (`sync = always`): every image is a clean
    directory; it reads as before the operation or as after it, and as after it once all calls
    of the operation have been issued.  For `put` / `delete` the image has the files of the old
    directory, of the final one, or of the one in between — the final directory of the same
    operation under a size limit that is just not exceeded. -/
theorem stepC_powerLoss2_clean (cfg : Cfg) (hs : cfg.syncAlways = true) {s : St} (h : RInv s) (hf : Full s)
    {sd0 : SDisk2} (hd : sd0.disk = s.disk) (hfs : FullySynced2 sd0) (op : TOp) (hop : mergeFree op)
    {c : List Call} (hc : Cut (stepC cfg s op).2 c) {I : Disk} (hp : PowerLoss2 (syncCalls2 sd0 c) I) :
    (CleanAbs I s.abs ∨ CleanAbs I (specOp s.abs op)) ∧
    (c = (stepC cfg s op).2 → CleanAbs I (specOp s.abs op)) := by
  have old : SameFiles s.disk I → CleanAbs I s.abs := (cleanAbs_of_rinv h hf).sameFiles
  have new : ∀ cfg', SameFiles (stepC cfg' s op).1.disk I → CleanAbs I (specOp s.abs op) := by
    intro cfg' e
    have hok : opOk s op := by
      cases op with
      | merge sel order => exact hop.elim
      | _ => trivial
    obtain ⟨a, b, ab⟩ := stepC_rinv_ok cfg' h hf op hok
    exact ab ▸ (cleanAbs_of_rinv a b).sameFiles e
  -- where everything is durable the image has the files of the directory at the cut
  have synced : FullySynced2 (syncCalls2 sd0 c) → SameFiles (applyCalls s.disk c) I := by
    intro h2
    have := powerLoss2_sameFiles h2 hp
    rwa [syncCalls2_disk, hd] at this
  have wr : ∀ r, opRec op = some r → (CleanAbs I s.abs ∨ CleanAbs I (specOp s.abs op)) ∧
      (c = (stepC cfg s op).2 → CleanAbs I (specOp s.abs op)) := by
    intro r hr
    rw [(stepC_write hr cfg s).1] at hc ⊢
    rcases write_powerLoss2_cases cfg hs h.inv r hd hfs hc hp with ⟨e, hn⟩ | e | e
    · refine ⟨.inl (old e), fun ec => absurd ?_ hn⟩
      rw [ec, write_calls_sync cfg s r hs]
      exact List.mem_append_left _ (List.mem_cons_of_mem _ List.mem_cons_self)
    · have := new (noRollCfg cfg s r) (by rw [(stepC_write hr _ s).2, write_noRollCfg]; exact e)
      exact ⟨.inr this, fun _ => this⟩
    · have := new cfg (by rw [(stepC_write hr cfg s).2]; exact e)
      exact ⟨.inr this, fun _ => this⟩
  cases op with
  | put ts k v => exact wr _ rfl
  | del ts k => exact wr _ rfl
  | get k =>
    obtain rfl : c = [] := cut_nil hc
    exact ⟨.inl (old (synced hfs)), fun _ => old (synced hfs)⟩
  | merge sel order => exact hop.elim
  | reopen =>
    rcases cut_single_noappend (x := .create ⟨.data, (reopen s).1.active⟩) (fun _ _ => nofun) hc with rfl | rfl
    · exact ⟨.inl (old (synced hfs)), fun _ => old (synced hfs)⟩
    · have := new cfg (synced (fullySynced2_steps _ hfs (noAppend_of rfl)))
      exact ⟨.inr this, fun _ => this⟩

theorem mergeFree_or_merge (op : TOp) : mergeFree op ∨ ∃ sel order, op = .merge sel order := by
  cases op with
  | merge sel order => exact .inr ⟨sel, order, rfl⟩
  | put ts k v => exact .inl trivial
  | del ts k => exact .inl trivial
  | get k => exact .inl trivial
  | reopen => exact .inl trivial

theorem stepC_powerLoss2_recovers (cfg : Cfg) (hs : cfg.syncAlways = true) {s : St} (h : RInv s) (hf : Full s)
    {sd0 : SDisk2} (hd : sd0.disk = s.disk) (hfs : FullySynced2 sd0) (op : TOp) (hop : opOk s op)
    {c : List Call} (hc : Cut (stepC cfg s op).2 c) {I : Disk} (hp : PowerLoss2 (syncCalls2 sd0 c) I) :
    (RecoversW I s.abs ∨ RecoversW I (specOp s.abs op)) ∧
    (c = (stepC cfg s op).2 → RecoversW I (specOp s.abs op)) := by
  rcases mergeFree_or_merge op with hm | ⟨sel, order, rfl⟩
  · obtain ⟨a, b⟩ := stepC_powerLoss2_clean cfg hs h hf hd hfs op hm hc hp
    exact ⟨a.imp (·.recovers.weak) (·.recovers.weak), fun e => (b e).recovers.weak⟩
  · obtain ⟨h1, h2, h3, h4⟩ := hop
    have r := mergeWith_powerLoss_recovers cfg h sel order h1 h2
      (fun _ hd => noHazard_prefix_of_sorted h.asc hf h3 h4 hd) hd hfs hc hp
    exact ⟨.inl r, fun _ => r⟩

theorem stepC_frame_all (cfg : Cfg) (s : St) (op : TOp) :
    applyCalls s.disk (stepC cfg s op).2 = (stepC cfg s op).1.disk := by
  cases op with
  | put ts k v => rw [(stepC_write (op := .put ts k v) rfl cfg s).1, (stepC_write (op := .put ts k v) rfl cfg s).2]; exact write_frame ..
  | del ts k => rw [(stepC_write (op := .del ts k) rfl cfg s).1, (stepC_write (op := .del ts k) rfl cfg s).2]; exact write_frame ..
  | get k => rfl
  | merge sel order => exact mergeWith_frame cfg s sel order
  | reopen => rfl

/-- with `sync = always` everything is durable again when an operation returns; for a merge pass
    this holds under every configuration -/
theorem stepC_fullySynced2 (cfg : Cfg) (hs : cfg.syncAlways = true) (s : St) {sd0 : SDisk2}
    (hfs : FullySynced2 sd0) (op : TOp) : FullySynced2 (syncCalls2 sd0 (stepC cfg s op).2) := by
  cases op with
  | put ts k v => rw [(stepC_write (op := .put ts k v) rfl cfg s).1]; exact fullySynced2_write cfg hs s _ hfs
  | del ts k => rw [(stepC_write (op := .del ts k) rfl cfg s).1]; exact fullySynced2_write cfg hs s _ hfs
  | get k => exact hfs
  | merge sel order => exact mergeWith_fullySynced2 cfg s sel order hfs
  | reopen => exact fullySynced2_steps _ hfs (noAppend_of rfl)

theorem runC_sync2 (cfg : Cfg) (hs : cfg.syncAlways = true) (ops : List TOp) : ∀ {s : St} (sd0 : SDisk2),
    sd0.disk = s.disk → FullySynced2 sd0 →
    (syncCalls2 sd0 (traceOf cfg s ops)).disk = (runC cfg s ops).disk ∧
      FullySynced2 (syncCalls2 sd0 (traceOf cfg s ops)) := by
  induction ops with
  | nil => intro s sd0 hd hfs; exact ⟨hd, hfs⟩
  | cons op ops ih =>
    intro s sd0 hd hfs
    have hd1 : (syncCalls2 sd0 (stepC cfg s op).2).disk = (stepC cfg s op).1.disk := by
      rw [syncCalls2_disk, hd]; exact stepC_frame_all cfg s op
    have := ih (syncCalls2 sd0 (stepC cfg s op).2) hd1 (stepC_fullySynced2 cfg hs s hfs op)
    rwa [← syncCalls2_append] at this

theorem history_powerLoss2_recovers (cfg : Cfg) (hs : cfg.syncAlways = true) {s : St} (h : RInv s) (hf : Full s)
    {sd0 : SDisk2} (hd : sd0.disk = s.disk) (hfs : FullySynced2 sd0) (ops : List TOp) (hv : ValidOps cfg s ops)
    (op : TOp) (hop : opOk (runC cfg s ops) op) {c : List Call} (hc : Cut (stepC cfg (runC cfg s ops) op).2 c)
    {I : Disk} (hp : PowerLoss2 (syncCalls2 sd0 (traceOf cfg s ops ++ c)) I) :
    (RecoversW I (specRun s.abs ops) ∨ RecoversW I (specOp (specRun s.abs ops) op)) ∧
    (c = (stepC cfg (runC cfg s ops) op).2 → RecoversW I (specOp (specRun s.abs ops) op)) := by
  obtain ⟨e1, e2⟩ := runC_sync2 cfg hs ops sd0 hd hfs
  obtain ⟨a, b, e⟩ := runC_rinv_ok cfg ops h hf hv
  rw [syncCalls2_append] at hp
  have := stepC_powerLoss2_recovers cfg hs a b e1 e2 op hop hc hp
  rw [e] at this
  exact this

theorem fullySynced2_fresh : FullySynced2 ⟨fresh.disk, [], []⟩ := by
  intro id
  have : dataOf fresh.disk id = [] := by
    unfold dataOf fresh
    simp only [AL.get]
    split <;> rfl
  exact ⟨by rw [this]; exact Nat.zero_le _, Nat.zero_le _⟩

def allSynced2 (d : Disk) : SDisk2 :=
  ⟨d, d.data.map (fun p => (p.1, p.2.length)), d.hint.map (fun p => (p.1, p.2.length))⟩

theorem fullySynced2_all (d : Disk) : FullySynced2 (allSynced2 d) :=
  fun id => ⟨durAt_map_length d.data id, durAt_map_length d.hint id⟩

end Store
