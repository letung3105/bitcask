/-
  Crash cuts of the merge pass (C03): the removal of the merged files and the creation
  of the new active file; the theorem for the whole merge pass.

  A kill in the unlink phase leaves the directory without a prefix `done` of the selected files
  (possibly with the hint file of the next one removed as well).  Keys that are present are
  found in an output or an unselected file; for keys that are absent the scan of the remaining
  files must not resurrect an old value, which is the hazard hypothesis `NoHazard s done`.
-/
import BitcaskVerif.Store.CutMerge

namespace Store

/-- the directory without the files `done` -/
def unlinkedDisk (d : Disk) (done : List Nat) : Disk :=
  { data := d.data.filter (fun p => decide (p.1 ∉ done)),
    hint := d.hint.filter (fun p => decide (p.1 ∉ done)),
    tails := d.tails }

/-- `unlinkFold_disk` (`Store/MergeRecovery.lean`) with its right-hand side folded into `unlinkedDisk` -/
theorem unlinkFold_disk' (l : List Nat) (st : St × List Call) :
    (l.foldl unlinkOne st).1.disk = unlinkedDisk st.1.disk l := unlinkFold_disk l st

theorem get_data_unlinked {d : Disk} {done : List Nat} {fid : Nat} (h : fid ∉ done) :
    AL.get fid (unlinkedDisk d done).data = AL.get fid d.data := by
  simp only [unlinkedDisk]
  rw [get_filter (fun f => decide (f ∉ done))]
  simp [h]

theorem dataOf_unlinked {d : Disk} {done : List Nat} {fid : Nat} (h : fid ∉ done) :
    dataOf (unlinkedDisk d done) fid = dataOf d fid := by
  simp only [dataOf, get_data_unlinked h]

/-- with the files `done` removed an absent key stays absent for the scan, whatever value records
    of present keys have been added -/
theorem replay_unlinked_absent {s : St} {done : List Nat} (hz : NoHazard s done) {extra : List Ev}
    (hx : ∀ e ∈ extra, (AL.get e.key s.keydir).isSome = true) {k : Key} (hks : AL.get k s.keydir = none) :
    replay ((allEvs s.disk.data ++ extra).filter (fun e => decide (e.loc.fid ∉ done))) k = none := by
  rw [List.filter_append, replay_append_of_no_key]
  · exact hz k hks
  · intro e he hek
    have := hx e (List.mem_filter.mp he).1
    rw [hek, hks] at this
    cases this

/-- after the files `done` (all selected) have been removed, the directory is clean for the
    index the merge loop has built, provided the remaining files do not resurrect an absent key -/
theorem clean_unlinked {s : St} {m : MergeSt} (h : LI s m) {sel : List Nat}
    (hsel : ∀ id, id ∈ sel → id ≤ s.active)
    (hunsel : ∀ k loc, AL.get k m.s.keydir = some loc → loc.fid ∉ sel)
    {done : List Nat} (hd : ∀ id, id ∈ done → id ∈ sel) (hz : NoHazard s done) :
    Clean (unlinkedDisk m.s.disk done) m.s.keydir m.mid := by
  have hmid : m.mid ∉ done := fun hc =>
    Nat.lt_irrefl _ (Nat.lt_of_lt_of_le h.minv.midgt (hsel _ (hd _ hc)))
  have hev : allEvs (unlinkedDisk m.s.disk done).data =
      (allEvs m.s.disk.data).filter (fun e => decide (e.loc.fid ∉ done)) :=
    allEvs_filter (fun f => decide (f ∉ done)) _
  constructor
  · exact asc_filter _ h.mr.asc
  · intro fid hs hg
    simp only [unlinkedDisk] at hg
    rw [get_filter (fun f => decide (f ∉ done))] at hg
    by_cases hq : fid ∈ done
    · simp [hq] at hg
    · simp only [hq, not_false_eq_true, decide_true, ↓reduceIte] at hg
      rw [dataOf_unlinked hq]
      exact h.mr.hx fid hs hg
  · exact mem_keys_of_isSome (by rw [get_data_unlinked hmid]; exact h.minv.midex)
  · intro id hid; exact h.minv.ids id (mem_keys_filter hid)
  · intro id hid; exact h.minv.hids id (mem_keys_filter hid)
  · intro k loc hk
    obtain ⟨x, h1, h2, h3, h4, h5⟩ := h.minv.locs k loc hk
    have hq : loc.fid ∉ done := fun hc => hunsel k loc hk (hd _ hc)
    exact ⟨x, by rw [dataOf_unlinked hq]; exact h1, h2, h3, h4, by rw [get_data_unlinked hq]; exact h5⟩
  · funext k
    rw [hev]
    unfold kdF
    cases hg : AL.get k m.s.keydir with
    | some loc =>
      symm
      apply replay_filter_keep
      · rw [← congrFun h.kd k]; exact hg
      · simp only [decide_eq_true_eq]
        exact fun hc => hunsel k loc hg (hd _ hc)
    | none =>
      obtain ⟨extra, e1, e2⟩ := h.evs
      rw [e1]
      exact (replay_unlinked_absent hz e2 (h.absent hg)).symm

/-- reading through the merge loop's index does not touch the removed files -/
theorem LI.absOf_unlinked {s : St} {m : MergeSt} (h : LI s m) {sel done : List Nat}
    (hd : ∀ id, id ∈ done → id ∈ sel)
    (hunsel : ∀ k loc, AL.get k m.s.keydir = some loc → loc.fid ∉ sel) :
    Store.absOf (unlinkedDisk m.s.disk done) m.s.keydir = s.abs := by
  rw [← h.absOf]
  exact absOf_congr rfl fun k loc hg => get_data_unlinked fun hc => hunsel k loc hg (hd _ hc)

theorem Clean.dropHint {d : Disk} {kd : List (Key × Loc)} {a : Nat} (h : Clean d kd a) (id : Nat) :
    Clean { d with hint := AL.del id d.hint } kd a := by
  refine ⟨h.asc, ?_, h.mem, h.max, ?_, h.locs, h.kd⟩
  · intro fid hs hg
    simp only at hg
    rw [AL.get_del] at hg
    by_cases e : fid = id
    · simp [e] at hg
    · simp only [e, ↓reduceIte] at hg
      exact h.hx fid hs hg
  · intro i hi
    exact h.hmax i (AL.mem_keys_del.mp hi).2

theorem unlinkCalls_cases (d : Disk) (id : Nat) :
    unlinkCalls d id = [] ∨ unlinkCalls d id = [Call.unlink ⟨.hint, id⟩] ∨
    unlinkCalls d id = [Call.unlink ⟨.data, id⟩] ∨
    unlinkCalls d id = [Call.unlink ⟨.hint, id⟩, Call.unlink ⟨.data, id⟩] := by
  unfold unlinkCalls
  cases (AL.get id d.hint).isSome <;> cases (AL.get id d.data).isSome
  · exact .inl rfl
  · exact .inr (.inr (.inl rfl))
  · exact .inr (.inl rfl)
  · exact .inr (.inr (.inr rfl))

/-- the prefixes of the calls that remove one file: nothing yet, the hint file only, or all -/
theorem unlinkCalls_prefix {d : Disk} {id : Nat} {x post : List Call} (h : unlinkCalls d id = x ++ post) :
    x = [] ∨ applyCalls d x = { d with hint := AL.del id d.hint } ∨ x = unlinkCalls d id := by
  rcases unlinkCalls_cases d id with e | e | e | e <;> rw [e] at h ⊢
  · exact .inl (List.append_eq_nil_iff.mp h.symm).1
  · exact (prefix_cases1 h).imp_right .inr
  · exact (prefix_cases1 h).imp_right .inr
  · rcases prefix_cases2 h with rfl | rfl | rfl
    · exact .inl rfl
    · exact .inr (.inl rfl)
    · exact .inr (.inr rfl)

theorem unlinkCalls_noappend (d : Disk) (id : Nat) : ∀ x ∈ unlinkCalls d id, ∀ f p, x ≠ Call.append f p := by
  intro x hx f p
  obtain ⟨kd, rfl⟩ := mem_unlinkCalls hx
  exact Call.noConfusion

/-- `d` is a clean directory whose index reads as `m` -/
def CleanAbs (d : Disk) (m : Map) : Prop := ∃ kd a, Clean d kd a ∧ absOf d kd = m

theorem CleanAbs.recovers {d : Disk} {m : Map} (h : CleanAbs d m) : Recovers d m := by
  obtain ⟨kd, a, hc, rfl⟩ := h
  exact hc.recovers

theorem CleanAbs.tails {d : Disk} {m : Map} (h : CleanAbs d m) (T : List (Nat × Nat)) :
    CleanAbs { d with tails := T } m := by
  obtain ⟨kd, a, hc, rfl⟩ := h
  exact ⟨kd, a, hc.tails T, rfl⟩

theorem unlinkedDisk_nil (d : Disk) : unlinkedDisk d [] = d := by
  have e : ∀ {β : Type} (l : List (Nat × β)), l.filter (fun p => decide (p.1 ∉ ([] : List Nat))) = l :=
    fun l => List.filter_eq_self.mpr fun _ _ => by simp
  simp only [unlinkedDisk, e]

/-- the directories a kill after the copy phase can leave (`d`: the directory after the copy
    phase): a prefix `done` of the selected files removed; these and the hint file of the next
    one; all of them removed and the new active file `b` created -/
inductive UnlinkCut (d : Disk) (sel : List Nat) (b : Nat) : Disk → Prop
  | removed {done : List Nat} : done <+: sel → UnlinkCut d sel b (unlinkedDisk d done)
  | hint {done : List Nat} {id : Nat} {rest : List Nat} : done ++ id :: rest = sel →
      UnlinkCut d sel b { unlinkedDisk d done with hint := AL.del id (unlinkedDisk d done).hint }
  | created : UnlinkCut d sel b { unlinkedDisk d sel with data := AL.set b [] (unlinkedDisk d sel).data }

/-- a kill inside the removal of one merged file (`st0` is the state after the copy phase, `done`
    the files removed before this one) -/
theorem unlinkOne_cut_cases {d0 : Disk} (st0 : St × List Call) (hf0 : applyCalls d0 st0.2 = st0.1.disk)
    {sel done : List Nat} {id : Nat} {rest : List Nat} (hsplit : done ++ id :: rest = sel) (b : Nat)
    {c : List Call} (hc : Cut (unlinkOne (done.foldl unlinkOne st0) id).2 c) :
    Cut (done.foldl unlinkOne st0).2 c ∨ UnlinkCut st0.1.disk sel b (applyCalls d0 c) := by
  rw [unlinkOne_calls] at hc
  rcases cut_append hc with h1 | ⟨c', rfl, h2⟩
  · exact .inl h1
  right
  rw [applyCalls_append, unlinkFold_frame d0 done st0 hf0]
  obtain ⟨post, e⟩ := cut_noappend (unlinkCalls_noappend _ _) h2
  rcases unlinkCalls_prefix e with rfl | e' | rfl
  · rw [applyCalls_nil, unlinkFold_disk']; exact .removed ⟨id :: rest, hsplit⟩
  · rw [e', unlinkFold_disk']; exact .hint hsplit
  · have hstep : unlinkOne (done.foldl unlinkOne st0) id = (done ++ [id]).foldl unlinkOne st0 := by
      rw [List.foldl_append]; rfl
    rw [unlinkCalls_frame, ← unlinkOne_disk, hstep, unlinkFold_disk']
    exact .removed ⟨rest, by rw [List.append_assoc]; exact hsplit⟩

/-- **a kill after the copy phase**: in the fsyncs of the last output, the removal of the merged
    files or the creation of the new active file (`m` is the state after the merge loop, started
    on the directory `d0`) -/
theorem unlinkPhase_cut_cases {d0 : Disk} {m : MergeSt} (hfr : applyCalls d0 m.calls = m.s.disk) (sel : List Nat)
    {c : List Call}
    (hc : Cut ((sel.foldl unlinkOne (m.s, m.calls ++ [Call.fsync ⟨.data, m.mid⟩, Call.fsync ⟨.hint, m.mid⟩])).2 ++
      [Call.create ⟨.data, m.mid + 1⟩]) c) :
    Cut m.calls c ∨ UnlinkCut m.s.disk sel (m.mid + 1) (applyCalls d0 c) := by
  have hf0 : applyCalls d0 (m.calls ++ [Call.fsync ⟨.data, m.mid⟩, Call.fsync ⟨.hint, m.mid⟩]) = m.s.disk := by
    rw [applyCalls_append, hfr]; rfl
  rcases cut_append hc with h1 | ⟨c', rfl, h2⟩
  · rcases foldl_cut (calls := Prod.snd) sel _ (fun _ _ _ e _ hc =>
      unlinkOne_cut_cases (_, _) hf0 e (m.mid + 1) hc) h1 with h3 | h3
    · rcases cut_append h3 with h4 | ⟨c', rfl, h5⟩
      · exact .inl h4
      right
      obtain ⟨post, e'⟩ := cut_noappend_list rfl h5
      -- fsyncs do not change the directory
      have : applyCalls d0 (m.calls ++ c') = m.s.disk := by
        rw [applyCalls_append, hfr]
        rcases prefix_cases2 e' with rfl | rfl | rfl <;> rfl
      have hu := UnlinkCut.removed (d := m.s.disk) (b := m.mid + 1) (List.nil_prefix (l := sel))
      rw [this]
      rwa [unlinkedDisk_nil] at hu
    · exact .inr h3
  · right
    rw [applyCalls_append, unlinkFold_frame _ _ _ hf0, unlinkFold_disk']
    rcases cut_single_noappend (fun _ _ => Call.noConfusion) h2 with rfl | rfl
    · exact .removed (List.prefix_refl _)
    · exact .created

theorem noHazard_nil_iff (s : St) : NoHazard s [] ↔ Full s := by
  have e : (allEvs s.disk.data).filter (fun e => decide (e.loc.fid ∉ ([] : List Nat))) = allEvs s.disk.data := by
    rw [List.filter_eq_self]; intro a _; simp
  unfold NoHazard Full
  rw [e]

/-- the calls of the copy phase are a prefix of the calls of the merge pass -/
theorem mergeWith_calls_prefix (cfg : Cfg) (s : St) (sel : List Nat) (order : List Key) :
    ∃ post, (mergeWith cfg s sel order).2 = (mergeLoop cfg s sel order).calls ++ post := by
  obtain ⟨ul, e, _⟩ := mergeWith_calls_shape cfg s sel order
  exact ⟨_, by rw [e, List.append_assoc, List.append_assoc]⟩

/-- after the copy phase every kill leaves a clean directory that reads as before the merge -/
theorem unlinkPhase_cuts {s : St} {m : MergeSt} (h : LI s m) {sel : List Nat}
    (hsel : ∀ id, id ∈ sel → id ≤ s.active)
    (hunsel : ∀ k loc, AL.get k m.s.keydir = some loc → loc.fid ∉ sel)
    (hz : ∀ done, done <+: sel → NoHazard s done) {c : List Call}
    (hc : Cut ((sel.foldl unlinkOne (m.s, m.calls ++ [Call.fsync ⟨.data, m.mid⟩, Call.fsync ⟨.hint, m.mid⟩])).2 ++
      [Call.create ⟨.data, m.mid + 1⟩]) c) :
    Cut m.calls c ∨ CleanAbs (applyCalls s.disk c) s.abs := by
  refine (unlinkPhase_cut_cases h.frame sel hc).imp_right fun hu => ?_
  have hcl : ∀ {dn : List Nat}, dn <+: sel → Clean (unlinkedDisk m.s.disk dn) m.s.keydir m.mid := fun hp =>
    clean_unlinked h hsel hunsel (fun _ hi => hp.subset hi) (hz _ hp)
  have habs : ∀ {dn : List Nat}, dn <+: sel → absOf (unlinkedDisk m.s.disk dn) m.s.keydir = s.abs := fun hp =>
    h.absOf_unlinked (fun _ hi => hp.subset hi) hunsel
  generalize applyCalls s.disk c = D at hu
  cases hu with
  | removed hp => exact ⟨_, _, hcl hp, habs hp⟩
  | hint hsp => exact ⟨_, _, (hcl ⟨_, hsp⟩).dropHint _, habs ⟨_, hsp⟩⟩
  | created =>
    exact ⟨_, _, (hcl (List.prefix_refl _)).addData (Nat.lt_succ_self _),
      ((hcl (List.prefix_refl _)).absOf_addData (Nat.lt_succ_self _)).trans (habs (List.prefix_refl _))⟩

/-- every cut of a merge pass is a cut of the copy phase, or leaves a clean directory (fsyncs
    after the loop, unlinks, creation of the new active file) -/
theorem mergeWith_cut_cases (cfg : Cfg) {s : St} (h : RInv s) (sel : List Nat) (order : List Key)
    (hsel : ∀ id, id ∈ sel → id ≤ s.active) (hcov : Covers order s)
    (hz : ∀ done, done <+: sel → NoHazard s done) {c : List Call}
    (hc : Cut (mergeWith cfg s sel order).2 c) :
    Cut (mergeLoop cfg s sel order).calls c ∨
    (CleanAbs (applyCalls s.disk c) s.abs ∧ ∃ c', c = (mergeLoop cfg s sel order).calls ++ c') := by
  by_cases hcl : Cut (mergeLoop cfg s sel order).calls c
  · exact .inl hcl
  · have hf : Full s := (noHazard_nil_iff s).mp (hz [] (List.nil_prefix))
    have hclean := (unlinkPhase_cuts (mergeLoop_li cfg h hf sel hsel order) hsel
      (mergeLoop_not_sel cfg s sel order h.inv hsel hcov) hz (mergeWith_calls cfg s sel order ▸ hc)).resolve_left hcl
    obtain ⟨post, hall⟩ := mergeWith_calls_prefix cfg s sel order
    rw [hall] at hc
    rcases cut_append hc with h1 | ⟨c', e, _⟩
    · exact absurd h1 hcl
    · exact .inr ⟨hclean, c', e⟩

/-- **a kill anywhere in a merge pass**: creation of the outputs, copy loop (data append, hint
    append, output rollover, each append torn at any byte), fsyncs, removal of the merged files
    (hint file, then data file, in the order of `sel`), creation of the new active file.
    The hazard hypothesis is needed for every prefix `done` of `sel` (the files already removed
    when the process is killed); `done = []` is `Full s`. -/
theorem mergeWith_cut_recovers (cfg : Cfg) {s : St} (h : RInv s) (sel : List Nat) (order : List Key)
    (hsel : ∀ id, id ∈ sel → id ≤ s.active) (hcov : Covers order s)
    (hz : ∀ done, done <+: sel → NoHazard s done) {c : List Call}
    (hc : Cut (mergeWith cfg s sel order).2 c) : RecoversW (applyCalls s.disk c) s.abs := by
  have hf : Full s := (noHazard_nil_iff s).mp (hz [] (List.nil_prefix))
  rcases mergeWith_cut_cases cfg h sel order hsel hcov hz hc with h1 | ⟨h1, _⟩
  · exact mergeLoop_cuts cfg h hf sel hsel order h1
  · exact h1.recovers.weak

end Store
