/-
  Fault-aware merge pass (C20): where `merge_files` returns.

  `mergeF` with the fault at call `j` IS the fault-free pass up to call `j`: `Stop` lists the
  states in which `merge_files` can return — all inputs removed (no call of it failed), or a state
  of the fault-free pass (after a prefix `ks` of the keys, resp. a prefix `done` of the inputs)
  followed by what the failing call leaves — and `mfZ_stop` says that these are all.  Every
  statement about a failed pass is then proved by cases on `Stop`, from the corresponding fact
  about the fault-free loop and removal.
-/
import BitcaskVerif.Store.MergeFault
import BitcaskVerif.Store.CutLemmas

namespace Store

variable {hintFirst : Bool}

/-! ### one iteration -/

/-- the calls one iteration adds when it copies record `r` of key `k` -/
def addedCalls (cfg : Cfg) (m : MergeSt) (k : Key) (loc : Loc) (r : Rec) : List Call :=
  [Call.append ⟨.data, m.mid⟩ (.ofRec r), Call.append ⟨.hint, m.mid⟩ (.ofHint (hintOf m k loc))] ++
  (if m.mpos + loc.len > cfg.maxFile then
     [Call.fsync ⟨.data, m.mid⟩, Call.fsync ⟨.hint, m.mid⟩,
      Call.create ⟨.data, m.mid + 1⟩, Call.create ⟨.hint, m.mid + 1⟩]
   else [])

/-- the calls of an iteration that copies a record -/
theorem mergeStep_calls_move (cfg : Cfg) (sel : List Nat) (m : MergeSt) (k : Key) {loc : Loc} {r : Rec}
    (hk : AL.get k m.s.keydir = some loc) (hs : loc.fid ∈ sel)
    (hr : recAt (dataOf m.s.disk loc.fid) loc.pos = some r) :
    (mergeStep cfg sel m k).calls = m.calls ++ addedCalls cfg m k loc r := by
  rw [mergeStep_move cfg sel m k loc r hk hs hr, addedCalls]
  split
  · exact List.append_assoc _ _ _
  · rfl

/-- an iteration issues no call, or it copies a record -/
theorem mergeStep_calls_cases (cfg : Cfg) (sel : List Nat) (m : MergeSt) (k : Key) :
    (mergeStep cfg sel m k).calls = m.calls ∨
    ∃ loc r, AL.get k m.s.keydir = some loc ∧ loc.fid ∈ sel ∧
      recAt (dataOf m.s.disk loc.fid) loc.pos = some r ∧
      (mergeStep cfg sel m k).calls = m.calls ++ addedCalls cfg m k loc r := by
  cases hk : AL.get k m.s.keydir with
  | none => rw [mergeStep_skip_none cfg sel m k hk]; exact .inl rfl
  | some loc =>
    by_cases hsel : loc.fid ∈ sel
    · cases hr : recAt (dataOf m.s.disk loc.fid) loc.pos with
      | none => rw [Tr.mergeStep_bad cfg sel m k loc hk hsel hr]; exact .inl rfl
      | some r => exact .inr ⟨loc, r, rfl, hsel, hr, mergeStep_calls_move cfg sel m k hk hsel hr⟩
    · rw [mergeStep_skip_unsel cfg sel m k loc hk hsel]; exact .inl rfl

theorem mergeStepF_of_failed (cfg : Cfg) (sel : List Nat) (j torn : Nat) {x : FM} (h : x.failed = true) (k : Key) :
    mergeStepF hintFirst cfg sel j torn x k = x := by
  unfold mergeStepF; simp only [h, ↓reduceIte]

theorem foldF_of_failed (cfg : Cfg) (sel : List Nat) (j torn : Nat) (order : List Key) {x : FM} (h : x.failed = true) :
    order.foldl (mergeStepF hintFirst cfg sel j torn) x = x :=
  foldl_inv (P := (· = x)) (fun _ k e => e.symm ▸ mergeStepF_of_failed cfg sel j torn h k) order rfl

theorem mergeStepF_no_fault {cfg : Cfg} {sel : List Nat} {j torn : Nat} {m : MergeSt} {k : Key}
    (hle : (mergeStep cfg sel m k).calls.length ≤ j) :
    mergeStepF hintFirst cfg sel j torn { m := m, failed := false } k =
      { m := mergeStep cfg sel m k, failed := false } := by
  unfold mergeStepF
  simp only [Bool.false_eq_true, ↓reduceIte, hle]

theorem mergeStepF_fault {cfg : Cfg} {sel : List Nat} {j torn : Nat} {m : MergeSt} {k : Key} {loc : Loc} {r : Rec}
    (hle : ¬ (mergeStep cfg sel m k).calls.length ≤ j)
    (hk : AL.get k m.s.keydir = some loc) (hr : recAt (dataOf m.s.disk loc.fid) loc.pos = some r) :
    mergeStepF hintFirst cfg sel j torn { m := m, failed := false } k =
      { m := failMove hintFirst m k loc r (j - m.calls.length) torn, failed := true } := by
  unfold mergeStepF
  simp only [Bool.false_eq_true, ↓reduceIte, hle, hk, hr]

/-! ### the fsyncs and the removal -/

/-- state and calls after the fsyncs that follow the loop -/
def synced (m : MergeSt) : St × List Call :=
  (m.s, m.calls ++ [Call.fsync ⟨.data, m.mid⟩, Call.fsync ⟨.hint, m.mid⟩])

theorem lt_two {i : Nat} (h : i < 2) : i = 0 ∨ i = 1 :=
  Nat.le_one_iff_eq_zero_or_eq_one.mp (Nat.le_of_lt_succ h)

theorem syncF_of_failed (j : Nat) {x : FM} (h : x.failed = true) : syncF j x = x := by
  unfold syncF; rw [if_pos h]

theorem syncF_no_fault {j : Nat} {m : MergeSt} (h : m.calls.length + 2 ≤ j) :
    syncF j { m := m, failed := false } = { m := { m with calls := (synced m).2 }, failed := false } := by
  unfold syncF
  rw [if_neg Bool.false_ne_true, if_neg (Nat.ne_of_gt (Nat.lt_of_lt_of_le (Nat.lt_add_of_pos_right Nat.zero_lt_two) h)),
    if_neg (Nat.ne_of_gt (Nat.lt_of_lt_of_le (Nat.lt_succ_self _) h))]
  rfl

theorem syncF_fault {m : MergeSt} {i : Nat} (hi : i < 2) :
    syncF (m.calls.length + i) { m := m, failed := false } =
      { m := { m with calls := m.calls ++ [Call.fsync ⟨.data, m.mid⟩, Call.fsync ⟨.hint, m.mid⟩].take i },
        failed := true } := by
  unfold syncF
  rw [if_neg Bool.false_ne_true]
  rcases lt_two hi with rfl | rfl
  · rw [if_pos (Nat.add_zero _), List.take_zero, List.append_nil]
  · rw [if_neg (Nat.add_one_ne_self _), if_pos rfl]; rfl

theorem unlinkOneF_of_failed (j : Nat) {x : (St × List Call) × Bool} (h : x.2 = true) (id : Nat) :
    unlinkOneF j x id = x := by
  unfold unlinkOneF; rw [if_pos h]

theorem unlinkFoldF_of_failed (j : Nat) (l : List Nat) {x : (St × List Call) × Bool} (h : x.2 = true) :
    l.foldl (unlinkOneF j) x = x :=
  foldl_inv (P := (· = x)) (fun _ id e => e.symm ▸ unlinkOneF_of_failed j h id) l rfl

theorem unlinkOneF_no_fault {j : Nat} {u : St × List Call} {id : Nat} (h : (unlinkOne u id).2.length ≤ j) :
    unlinkOneF j (u, false) id = (unlinkOne u id, false) := by
  unfold unlinkOneF
  rw [if_neg Bool.false_ne_true, if_pos h]

/-- the removal of input `id` fails: at its first call, nothing has changed; or at the removal of
    the data file, the hint file is gone -/
theorem unlinkOneF_fault {j : Nat} {u : St × List Call} {id : Nat} (h1 : u.2.length ≤ j)
    (h2 : ¬ (unlinkOne u id).2.length ≤ j) :
    (j = u.2.length ∧ 0 < (unlinkCalls u.1.disk id).length ∧ unlinkOneF j (u, false) id = (u, true)) ∨
    (j = u.2.length + 1 ∧ unlinkCalls u.1.disk id = [Call.unlink ⟨.hint, id⟩, Call.unlink ⟨.data, id⟩] ∧
      unlinkOneF j (u, false) id =
        (({ u.1 with disk := { u.1.disk with hint := AL.del id u.1.disk.hint } }, u.2 ++ [Call.unlink ⟨.hint, id⟩]),
          true)) := by
  have hlt := Nat.lt_of_not_le h2
  rw [unlinkOne_calls, List.length_append] at hlt
  unfold unlinkOneF
  rw [if_neg Bool.false_ne_true, if_neg h2]
  unfold unlinkCalls at hlt ⊢
  revert hlt
  -- by the files of `id` that exist: the calls of this removal are at most `unlink hint`, `unlink data`
  cases (AL.get id u.1.disk.hint).isSome <;> cases (AL.get id u.1.disk.data).isSome <;> intro hlt
  · exact absurd h1 (Nat.not_le_of_lt hlt)
  · exact .inl ⟨Nat.le_antisymm (Nat.le_of_lt_succ hlt) h1, Nat.zero_lt_one, rfl⟩
  · have hj := Nat.le_antisymm (Nat.le_of_lt_succ hlt) h1
    exact .inl ⟨hj, Nat.zero_lt_one, if_neg (by simp [hj])⟩
  · by_cases hj : j = u.2.length
    · exact .inl ⟨hj, Nat.zero_lt_two, if_neg (by simp [hj])⟩
    · exact .inr ⟨Nat.le_antisymm (Nat.le_of_lt_succ hlt) (Nat.lt_of_le_of_ne h1 (Ne.symm hj)), rfl,
        if_pos (by simp [hj])⟩

/-! ### the phases of the fault-free `merge_files` -/

theorem mergeLoop_concat (cfg : Cfg) (s : St) (sel : List Nat) (ks : List Key) (k : Key) :
    mergeLoop cfg s sel (ks ++ [k]) = mergeStep cfg sel (mergeLoop cfg s sel ks) k := by
  simp only [mergeLoop, List.foldl_append, List.foldl_cons, List.foldl_nil]

/-- the loop over `order`, the fsyncs, and the removal of the inputs `done` -/
def unlinked (cfg : Cfg) (s : St) (sel : List Nat) (order : List Key) (done : List Nat) : St × List Call :=
  done.foldl unlinkOne (synced (mergeLoop cfg s sel order))

theorem unlinked_concat (cfg : Cfg) (s : St) (sel : List Nat) (order : List Key) (done : List Nat) (id : Nat) :
    unlinked cfg s sel order (done ++ [id]) = unlinkOne (unlinked cfg s sel order done) id := by
  simp only [unlinked, List.foldl_append, List.foldl_cons, List.foldl_nil]

theorem mergeWith_unlinked (cfg : Cfg) (s : St) (sel : List Nat) (order : List Key) :
    mergeWith cfg s sel order =
      ((newActive (unlinked cfg s sel order sel).1 ((mergeLoop cfg s sel order).mid + 1)).1,
       (unlinked cfg s sel order sel).2 ++ [Call.create ⟨.data, (mergeLoop cfg s sel order).mid + 1⟩]) := rfl

/-! ### where `merge_files` returns -/

/-- `Stop … z mid`: `merge_files` of the pass in which call `j` fails returns with state and calls
    `z.1`, with an error iff `z.2`, and with `merge_fileid = mid`.
    `done`: no call of `merge_files` fails.  `create0`, `create1`: the creation of the first output
    pair fails.  `move`: a call of the iteration for key `k` fails, after the fault-free
    iterations for `ks`.  `sync`: one of the two fsyncs after the loop fails.  `unlink1`: the first
    removal of input `id` fails, after the inputs `done` have been removed; `unlink2`: its hint
    file has been removed, the removal of its data file fails. -/
inductive Stop (hintFirst : Bool) (cfg : Cfg) (s : St) (sel : List Nat) (order : List Key) (j torn : Nat) :
    (St × List Call) × Bool → Nat → Prop
  | done (hj : (unlinked cfg s sel order sel).2.length ≤ j) :
      Stop hintFirst cfg s sel order j torn (unlinked cfg s sel order sel, false) (mergeLoop cfg s sel order).mid
  | create0 (hj : j = 0) : Stop hintFirst cfg s sel order j torn ((s, []), true) (s.active + 1)
  | create1 (hj : j = 1) :
      Stop hintFirst cfg s sel order j torn
        (({ s with disk := { s.disk with data := AL.set (s.active + 1) [] s.disk.data } },
          [Call.create ⟨.data, s.active + 1⟩]), true) (s.active + 1)
  | move {ks rest : List Key} {k : Key} {m : MergeSt} {loc : Loc} {r : Rec} {i : Nat}
      (ho : order = ks ++ k :: rest) (hm : m = mergeLoop cfg s sel ks)
      (hk : AL.get k m.s.keydir = some loc) (hs : loc.fid ∈ sel)
      (hr : recAt (dataOf m.s.disk loc.fid) loc.pos = some r)
      (hj : j = m.calls.length + i) (hi : i < (addedCalls cfg m k loc r).length) :
      Stop hintFirst cfg s sel order j torn
        (((failMove hintFirst m k loc r i torn).s, (failMove hintFirst m k loc r i torn).calls), true)
        (failMove hintFirst m k loc r i torn).mid
  | sync {i : Nat} (hi : i < 2) (hj : j = (mergeLoop cfg s sel order).calls.length + i) :
      Stop hintFirst cfg s sel order j torn
        (((mergeLoop cfg s sel order).s, (mergeLoop cfg s sel order).calls ++
          [Call.fsync ⟨.data, (mergeLoop cfg s sel order).mid⟩,
           Call.fsync ⟨.hint, (mergeLoop cfg s sel order).mid⟩].take i), true)
        (mergeLoop cfg s sel order).mid
  | unlink1 {done rest : List Nat} {id : Nat} {u : St × List Call}
      (hsel : sel = done ++ id :: rest) (hu : u = unlinked cfg s sel order done)
      (hj : j = u.2.length) (hne : 0 < (unlinkCalls u.1.disk id).length) :
      Stop hintFirst cfg s sel order j torn (u, true) (mergeLoop cfg s sel order).mid
  | unlink2 {done rest : List Nat} {id : Nat} {u : St × List Call}
      (hsel : sel = done ++ id :: rest) (hu : u = unlinked cfg s sel order done)
      (hj : j = u.2.length + 1) (hc : unlinkCalls u.1.disk id = [Call.unlink ⟨.hint, id⟩, Call.unlink ⟨.data, id⟩]) :
      Stop hintFirst cfg s sel order j torn
        (({ u.1 with disk := { u.1.disk with hint := AL.del id u.1.disk.hint } }, u.2 ++ [Call.unlink ⟨.hint, id⟩]),
          true)
        (mergeLoop cfg s sel order).mid

section
variable {cfg : Cfg} {s : St} {sel : List Nat} {order : List Key} {j torn : Nat}

/-- the copy loop after the fault-free iterations for `ks`: it completes, or it stops in `Stop.move` -/
theorem foldF_stop (rest : List Key) : ∀ (ks : List Key), order = ks ++ rest →
    (mergeLoop cfg s sel ks).calls.length ≤ j →
    ∃ x, rest.foldl (mergeStepF hintFirst cfg sel j torn) { m := mergeLoop cfg s sel ks, failed := false } = x ∧
      ((x = { m := mergeLoop cfg s sel order, failed := false } ∧ (mergeLoop cfg s sel order).calls.length ≤ j) ∨
       (x.failed = true ∧ Stop hintFirst cfg s sel order j torn ((x.m.s, x.m.calls), true) x.m.mid)) := by
  induction rest with
  | nil => intro ks ho hlen; rw [List.append_nil] at ho; subst ho; exact ⟨_, rfl, .inl ⟨rfl, hlen⟩⟩
  | cons k rest ih =>
    intro ks ho hlen
    rw [List.foldl_cons]
    by_cases hle : (mergeStep cfg sel (mergeLoop cfg s sel ks) k).calls.length ≤ j
    · rw [mergeStepF_no_fault hle, ← mergeLoop_concat]
      rw [← mergeLoop_concat] at hle
      exact ih (ks ++ [k]) (by rw [ho, List.append_assoc]; rfl) hle
    · rcases mergeStep_calls_cases cfg sel (mergeLoop cfg s sel ks) k with h | ⟨loc, r, hk, hs, hr, h⟩
      · rw [h] at hle; exact absurd hlen hle
      · obtain ⟨i, rfl⟩ := Nat.exists_eq_add_of_le hlen
        rw [mergeStepF_fault hle hk hr, foldF_of_failed cfg sel _ torn rest rfl, Nat.add_sub_cancel_left]
        rw [h, List.length_append] at hle
        exact ⟨_, rfl, .inr ⟨rfl, .move ho rfl hk hs hr rfl (Nat.lt_of_add_lt_add_left (Nat.lt_of_not_le hle))⟩⟩

/-- the removal after the inputs `done` have been removed: it completes (`Stop.done`), or it stops
    at the first or at the second removal of an input -/
theorem unlinkFoldF_stop (rest : List Nat) : ∀ (done : List Nat), sel = done ++ rest →
    (unlinked cfg s sel order done).2.length ≤ j →
    Stop hintFirst cfg s sel order j torn (rest.foldl (unlinkOneF j) (unlinked cfg s sel order done, false))
      (mergeLoop cfg s sel order).mid := by
  induction rest with
  | nil => intro done hsel hlen; rw [List.append_nil] at hsel; subst hsel; exact .done hlen
  | cons id rest ih =>
    intro done hsel hlen
    rw [List.foldl_cons]
    by_cases hle : (unlinkOne (unlinked cfg s sel order done) id).2.length ≤ j
    · rw [unlinkOneF_no_fault hle, ← unlinked_concat]
      rw [← unlinked_concat] at hle
      exact ih (done ++ [id]) (by rw [hsel, List.append_assoc]; rfl) hle
    · rcases unlinkOneF_fault hlen hle with ⟨hj, hne, e⟩ | ⟨hj, hc, e⟩
      · rw [e, unlinkFoldF_of_failed j rest rfl]; exact .unlink1 hsel rfl hj hne
      · rw [e, unlinkFoldF_of_failed j rest rfl]; exact .unlink2 hsel rfl hj hc

/-- the fsyncs and the removal, after a loop that completed or stopped -/
theorem tail_stop {x : FM}
    (hx : (x = { m := mergeLoop cfg s sel order, failed := false } ∧ (mergeLoop cfg s sel order).calls.length ≤ j) ∨
      (x.failed = true ∧ Stop hintFirst cfg s sel order j torn ((x.m.s, x.m.calls), true) x.m.mid)) :
    Stop hintFirst cfg s sel order j torn
      (sel.foldl (unlinkOneF j) (((syncF j x).m.s, (syncF j x).m.calls), (syncF j x).failed)) (syncF j x).m.mid := by
  rcases hx with ⟨rfl, hlen⟩ | ⟨hf, hst⟩
  · obtain ⟨i, rfl⟩ := Nat.exists_eq_add_of_le hlen
    by_cases h2 : 2 ≤ i
    · rw [syncF_no_fault (Nat.add_le_add_left h2 _)]
      exact unlinkFoldF_stop sel [] rfl (Nat.le_trans (Nat.le_of_eq List.length_append) (Nat.add_le_add_left h2 _))
    · rw [syncF_fault (Nat.lt_of_not_le h2), unlinkFoldF_of_failed _ sel rfl]
      exact .sync (Nat.lt_of_not_le h2) rfl
  · rw [syncF_of_failed j hf, hf, unlinkFoldF_of_failed j sel rfl]
    exact hst

end

/-! ### the pass -/

/-- `mergeF` when `merge_files` has returned: after the loop and the fsyncs … -/
def mfY (hintFirst : Bool) (cfg : Cfg) (s : St) (sel : List Nat) (order : List Key) (j torn : Nat) : FM :=
  syncF j (order.foldl (mergeStepF hintFirst cfg sel j torn) (startF s j))

/-- … and after the removal of the inputs -/
def mfZ (hintFirst : Bool) (cfg : Cfg) (s : St) (sel : List Nat) (order : List Key) (j torn : Nat) :
    (St × List Call) × Bool :=
  sel.foldl (unlinkOneF j) (((mfY hintFirst cfg s sel order j torn).m.s, (mfY hintFirst cfg s sel order j torn).m.calls),
    (mfY hintFirst cfg s sel order j torn).failed)

/-- **the simulation**: `merge_files` of the pass in which call `j` fails returns in one of the
    states of `Stop` -/
theorem mfZ_stop (cfg : Cfg) (s : St) (sel : List Nat) (order : List Key) (j torn : Nat) :
    Stop hintFirst cfg s sel order j torn (mfZ hintFirst cfg s sel order j torn)
      (mfY hintFirst cfg s sel order j torn).m.mid := by
  unfold mfZ mfY
  apply tail_stop
  match j with
  | 0 => rw [foldF_of_failed cfg sel 0 torn order rfl]; exact .inr ⟨rfl, .create0 rfl⟩
  | 1 => rw [foldF_of_failed cfg sel 1 torn order rfl]; exact .inr ⟨rfl, .create1 rfl⟩
  | j + 2 =>
    obtain ⟨x, hx, h⟩ := foldF_stop (hintFirst := hintFirst) (s := s) (torn := torn) order [] rfl (Nat.le_add_left 2 j)
    exact hx ▸ h

/-- `merge()` after `merge_files` has returned with state and calls `z.1`, error iff `z.2`, and
    `merge_fileid = mid` -/
def closeF (j : Nat) (z : (St × List Call) × Bool) (mid : Nat) : MergeFOut :=
  if z.2 then finishF z.1.1 mid z.1.2
  else if j = z.1.2.length then { p := { st := z.1.1, pending := some (mid + 1) }, calls := z.1.2, err := true }
  else { p := { st := (newActive z.1.1 (mid + 1)).1, pending := none },
         calls := z.1.2 ++ (newActive z.1.1 (mid + 1)).2, err := false }

theorem mergeF_eq (cfg : Cfg) (s : St) (sel : List Nat) (order : List Key) (j torn : Nat) :
    mergeF hintFirst cfg s sel order j torn =
      closeF j (mfZ hintFirst cfg s sel order j torn) (mfY hintFirst cfg s sel order j torn).m.mid := rfl

/-- in each of the three cases: the state after the (possibly pending) move, and the calls
    including those of the move -/
theorem closeF_move (j : Nat) (z : (St × List Call) × Bool) (mid : Nat) :
    (closeF j z mid).p.move.1 = (newActive z.1.1 (mid + 1)).1 ∧
    (closeF j z mid).calls ++ (closeF j z mid).p.move.2 = z.1.2 ++ [Call.create ⟨.data, mid + 1⟩] := by
  unfold closeF
  cases z.2
  · rw [if_neg Bool.false_ne_true]
    by_cases h : j = z.1.2.length
    · rw [if_pos h]; exact ⟨rfl, rfl⟩
    · rw [if_neg h]; exact ⟨rfl, List.append_nil _⟩
  · exact ⟨rfl, List.append_nil _⟩

end Store
