/-
  Hint files in the terms of the per-file accounting.  The entries of a hint file describe exactly
  the records of its data file, all of them values (`HintsMatch`); an exact hint file
  (`HintsExact`, kept by the recovery invariant) is such a file.  The proof of C19 does not use
  `HintsMatch`.
-/
import BitcaskVerif.Store.Recovery

namespace Store.Stats
open Store

/-- the hint entries `hs` describe exactly the records `rs` laid out from byte `pos` on, and all
    of them are value records -/
def HintsMatch : List Hint → List Rec → Nat → Prop
  | [], [], _ => True
  | h :: hs, r :: rs, pos =>
    h.pos = pos ∧ h.len = r.len ∧ h.key = r.key ∧ r.val.isSome ∧ HintsMatch hs rs (pos + r.len)
  | _, _, _ => False

theorem HintsMatch.append {hs : List Hint} {rs : List Rec} {pos : Nat} (h : HintsMatch hs rs pos)
    (x : Hint) (r : Rec) (h1 : x.pos = pos + fileSize rs) (h2 : x.len = r.len) (h3 : x.key = r.key)
    (h4 : r.val.isSome) : HintsMatch (hs ++ [x]) (rs ++ [r]) pos := by
  induction hs generalizing rs pos with
  | nil =>
    cases rs with
    | nil => exact ⟨h1, h2, h3, h4, trivial⟩
    | cons r' rs' => exact h.elim
  | cons y ys ih =>
    cases rs with
    | nil => exact h.elim
    | cons r' rs' =>
      obtain ⟨a, b, c, d, e⟩ := h
      exact ⟨a, b, c, d, ih e (by rw [h1, fileSize_cons, Nat.add_assoc])⟩

theorem HintsMatch.of_events {fid : Nat} : ∀ {hs : List Hint} {rs : List Rec} {pos : Nat},
    hintEvs fid hs = evData fid rs pos → HintsMatch hs rs pos
  | [], [], _, _ => trivial
  | [], _ :: _, _, h => nomatch h
  | _ :: _, [], _, h => nomatch h
  | x :: hs, r :: rs, pos, h => by
    obtain ⟨hd, tl⟩ := List.cons.inj h
    have hv : r.val.isSome := by
      have : false = r.val.isNone := congrArg Ev.tomb hd
      cases hv : r.val with
      | none => rw [hv] at this; cases this
      | some v => rfl
    exact ⟨congrArg (·.loc.pos) hd, congrArg (·.loc.len) hd, congrArg Ev.key hd, hv, HintsMatch.of_events tl⟩

theorem _root_.Store.HintsExact.hintsMatch {d : Disk} (h : HintsExact d) {f : Nat} {hs : List Hint}
    (hg : AL.get f d.hint = some hs) : HintsMatch hs (dataOf d f) 0 :=
  HintsMatch.of_events (h f hs hg)

end Store.Stats
