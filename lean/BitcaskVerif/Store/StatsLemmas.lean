/-
  C19 helper lemmas: the counting form of "the counters of a file are exact" (`Acc` on
  plain numbers, `FileAcc` for a KeyDir and a counter list), how it changes when one record is
  appended and the key's previous entry is accounted, and the two index steps every writer and
  the startup scan are made of (`idxValue`, `idxTomb`) with the invariant they keep (`IdxAcc`).
-/
import BitcaskVerif.Store.ALSum
import BitcaskVerif.Store.Lemmas

namespace Store.Stats
open Store

/-- the counters of file `f` (`Default` when there is no entry, as `entry().or_default()`) -/
def statOf (stats : List (Nat × Stat)) (f : Nat) : Stat := (AL.get f stats).getD {}

theorem get_updStat (stats : List (Nat × Stat)) (g : Nat) (h : Stat → Stat) (f : Nat) :
    AL.get f (updStat stats g h) = if f = g then some (h (statOf stats g)) else AL.get f stats :=
  AL.get_set g f _ stats

def acct (stats : List (Nat × Stat)) (prev : Option Loc) : List (Nat × Stat) :=
  match prev with
  | none => stats
  | some p => updStat stats p.fid (·.overwrite p.len)

def underfl (stats : List (Nat × Stat)) (prev : Option Loc) : Bool :=
  match prev with
  | none => false
  | some p => overwriteUnderflows stats p.fid

theorem nodup_acct {stats : List (Nat × Stat)} (h : (AL.keys stats).Nodup) (prev : Option Loc) :
    (AL.keys (acct stats prev)).Nodup := by
  cases prev with
  | none => exact h
  | some p => exact nodup_set h

theorem get_acct_other (stats : List (Nat × Stat)) {prev : Option Loc} {f : Nat}
    (h : ∀ p, prev = some p → p.fid ≠ f) : AL.get f (acct stats prev) = AL.get f stats := by
  cases prev with
  | none => rfl
  | some p => exact (get_updStat stats p.fid (·.overwrite p.len) f).trans (if_neg (Ne.symm (h p rfl)))

/-- the counters `st` are exact for a file with records `rs` into which `n` KeyDir entries of
    total length `b` point: `live` = `n`, `live + dead` = number of records, `b + deadBytes` =
    file size -/
structure Cnt (n b : Nat) (st : Stat) (rs : List Rec) : Prop where
  live : st.live = n
  tot : st.live + st.dead = rs.length
  bytes : b + st.deadBytes = fileSize rs

variable {n b len : Nat} {st st' : Stat} {o : Option Stat} {rs : List Rec}

theorem Cnt.addLive (h : Cnt n b st rs) (r : Rec) : Cnt (n + 1) (b + r.len) st.addLive (rs ++ [r]) := by
  obtain ⟨h1, h2, h3⟩ := h
  refine ⟨congrArg (· + 1) h1, ?_, ?_⟩
  · show st.live + 1 + st.dead = (rs ++ [r]).length
    rw [List.length_append, Nat.add_right_comm, h2]; rfl
  · show b + r.len + st.deadBytes = fileSize (rs ++ [r])
    rw [fileSize_append, Nat.add_right_comm, h3]; rfl

theorem Cnt.addDead (h : Cnt n b st rs) (r : Rec) : Cnt n b (st.addDead r.len) (rs ++ [r]) := by
  obtain ⟨h1, h2, h3⟩ := h
  refine ⟨h1, ?_, ?_⟩
  · show st.live + (st.dead + 1) = (rs ++ [r]).length
    rw [List.length_append, ← Nat.add_assoc, h2]; rfl
  · show b + (st.deadBytes + r.len) = fileSize (rs ++ [r])
    rw [fileSize_append, ← Nat.add_assoc, h3]; rfl

theorem Cnt.overwrite (h : Cnt (n + 1) (b + len) st rs) : Cnt n b (st.overwrite len) rs := by
  obtain ⟨h1, h2, h3⟩ := h
  refine ⟨?_, ?_, ?_⟩
  · show st.live - 1 = n
    rw [h1]; rfl
  · show st.live - 1 + (st.dead + 1) = rs.length
    rw [← h2, h1, Nat.add_comm st.dead 1, ← Nat.add_assoc]; rfl
  · show b + (st.deadBytes + len) = fileSize rs
    rw [← h3, Nat.add_comm st.deadBytes len, Nat.add_assoc]

theorem Cnt.unique (h : Cnt n b st rs) (h' : Cnt n b st' rs) : st = st' := by
  obtain ⟨l, d, db⟩ := st
  obtain ⟨l', d', db'⟩ := st'
  have e1 : l = l' := h.live.trans h'.live.symm
  subst e1
  have e2 : d = d' := Nat.add_left_cancel (h.tot.trans h'.tot.symm)
  have e3 : db = db' := Nat.add_left_cancel (h.bytes.trans h'.bytes.symm)
  rw [e2, e3]

/-- … and `o` is the file's entry in the counter list (`none`: no entry): an entry exists iff
    there is a record -/
structure Acc (n b : Nat) (o : Option Stat) (rs : List Rec) : Prop where
  cnt : Cnt n b (o.getD {}) rs
  dom : o = none ↔ rs = []

theorem Acc.empty : Acc 0 0 none [] := ⟨⟨rfl, rfl, rfl⟩, fun _ => rfl, fun _ => rfl⟩

theorem Acc.addLive (h : Acc n b o rs) (r : Rec) :
    Acc (n + 1) (b + r.len) (some (o.getD {}).addLive) (rs ++ [r]) :=
  ⟨h.cnt.addLive r, by simp⟩

theorem Acc.addDead (h : Acc n b o rs) (r : Rec) :
    Acc n b (some ((o.getD {}).addDead r.len)) (rs ++ [r]) :=
  ⟨h.cnt.addDead r, by simp⟩

/-- `live` does not underflow, and the counter entry exists, because `live` was the number of the
    entries pointing into the file -/
theorem Acc.overwrite (h : Acc (n + 1) (b + len) o rs) : Acc n b (some ((o.getD {}).overwrite len)) rs := by
  have hne : rs ≠ [] := fun e => by have := h.cnt.live; rw [h.dom.mpr e] at this; cases this
  exact ⟨h.cnt.overwrite, by simp [hne]⟩

def liveCnt (kd : List (Key × Loc)) (f : Nat) : Nat := wsum (fun l => if l.fid = f then 1 else 0) kd

def liveBytes (kd : List (Key × Loc)) (f : Nat) : Nat := wsum (fun l => if l.fid = f then l.len else 0) kd

def FileAcc (kd : List (Key × Loc)) (stats : List (Nat × Stat)) (f : Nat) (rs : List Rec) : Prop :=
  Acc (liveCnt kd f) (liveBytes kd f) (AL.get f stats) rs

variable {kd : List (Key × Loc)} {stats : List (Nat × Stat)} {f : Nat}

theorem Acc.append_live (h : Acc n b (AL.get f stats) rs) (f0 : Nat) (r : Rec) :
    Acc (n + if f0 = f then 1 else 0) (b + if f0 = f then r.len else 0)
      (AL.get f (updStat stats f0 (·.addLive))) (if f = f0 then rs ++ [r] else rs) := by
  rw [get_updStat]
  by_cases e : f = f0
  · subst e; simp only [↓reduceIte]; exact h.addLive r
  · simp only [e, Ne.symm e, ↓reduceIte]; exact h

theorem Acc.append_dead (h : Acc n b (AL.get f stats) rs) (f0 : Nat) (r : Rec) :
    Acc n b (AL.get f (updStat stats f0 (·.addDead r.len))) (if f = f0 then rs ++ [r] else rs) := by
  rw [get_updStat]
  by_cases e : f = f0
  · subst e; simp only [↓reduceIte]; exact h.addDead r
  · simp only [e, ↓reduceIte]; exact h

theorem Acc.account (prev : Option Loc)
    (h : Acc (n + ow (fun l => if l.fid = f then 1 else 0) prev)
      (b + ow (fun l => if l.fid = f then l.len else 0) prev) (AL.get f stats) rs) :
    Acc n b (AL.get f (acct stats prev)) rs := by
  cases prev with
  | none => exact h
  | some p =>
    simp only [acct, get_updStat]
    by_cases e : p.fid = f
    · subst e; simp only [ow_some, ↓reduceIte] at h ⊢; exact h.overwrite
    · simp only [ow_some, e, Ne.symm e, ↓reduceIte] at h ⊢; exact h

/-- **value step**: a value record `r` is appended to file `f0`, the key is pointed at it, the
    file's `live` is incremented and the key's previous entry is accounted. Exactness of every
    file `f` is preserved. (`put`, the data-file scan on a value, the hint-file scan.) -/
theorem FileAcc.value_step (h : FileAcc kd stats f rs) (f0 : Nat) (r : Rec) (k : Key) (pos : Nat) (ts : Int) :
    FileAcc (AL.set k ⟨f0, pos, r.len, ts⟩ kd)
      (acct (updStat stats f0 (·.addLive)) (AL.get k kd)) f (if f = f0 then rs ++ [r] else rs) := by
  apply Acc.account (AL.get k kd)
  rw [liveCnt, liveBytes, wsum_set, wsum_set]
  exact h.append_live f0 r

/-- **tombstone step**: a tombstone `r` is appended to file `f0`, the key is removed, the file's
    `dead`/`deadBytes` grow and the key's previous entry is accounted. (`delete`, the data-file
    scan on a tombstone.) -/
theorem FileAcc.tomb_step (hnd : (AL.keys kd).Nodup) (h : FileAcc kd stats f rs) (f0 : Nat) (r : Rec) (k : Key) :
    FileAcc (AL.del k kd)
      (acct (updStat stats f0 (·.addDead r.len)) (AL.get k kd)) f (if f = f0 then rs ++ [r] else rs) := by
  apply Acc.account (AL.get k kd)
  rw [liveCnt, liveBytes, wsum_del _ k hnd, wsum_del _ k hnd]
  exact h.append_dead f0 r

/-- **move step** (merge): as the value step, but the previous entry is not accounted; seen from
    any file other than the previous entry's that makes no difference -/
theorem FileAcc.move_step (h : FileAcc kd stats f rs) (f0 : Nat) (r : Rec) (k : Key) (pos : Nat) (ts : Int)
    (hsrc : ∀ p, AL.get k kd = some p → p.fid ≠ f) :
    FileAcc (AL.set k ⟨f0, pos, r.len, ts⟩ kd)
      (updStat stats f0 (·.addLive)) f (if f = f0 then rs ++ [r] else rs) := by
  have := h.value_step f0 r k pos ts
  unfold FileAcc at this ⊢
  rwa [get_acct_other _ hsrc] at this

theorem liveCnt_pos {k : Key} {p : Loc} (h : AL.get k kd = some p) : 1 ≤ liveCnt kd p.fid := by
  have := wsum_ge_of_get (fun l : Loc => if l.fid = p.fid then 1 else 0) h
  rwa [if_pos rfl] at this

theorem FileAcc.no_underfl {c : Nat → List Rec} (h : ∀ f, FileAcc kd stats f (c f)) (f0 : Nat) (g : Stat → Stat)
    (hg : ∀ st, st.live ≤ (g st).live) (k : Key) :
    underfl (updStat stats f0 g) (AL.get k kd) = false := by
  cases hp : AL.get k kd with
  | none => rfl
  | some p =>
    have h1 : 1 ≤ (statOf stats p.fid).live := (h p.fid).cnt.live ▸ liveCnt_pos hp
    have h2 : 1 ≤ ((AL.get p.fid (updStat stats f0 g)).getD {}).live := by
      rw [get_updStat]
      by_cases e : p.fid = f0
      · rw [if_pos e, ← e]; exact Nat.le_trans h1 (hg _)
      · rw [if_neg e]; exact h1
    exact decide_eq_false (Nat.ne_of_gt h2)

theorem FileAcc.empty (hkd : ∀ k l, (k, l) ∈ kd → l.fid ≠ f) (hs : AL.get f stats = none) :
    FileAcc kd stats f [] := by
  unfold FileAcc liveCnt liveBytes
  rw [hs, wsum_zero fun k l hm => if_neg (hkd k l hm), wsum_zero fun k l hm => if_neg (hkd k l hm)]
  exact Acc.empty

def upd (c : Nat → List Rec) (f0 : Nat) (rs : List Rec) : Nat → List Rec :=
  fun f => if f = f0 then rs else c f

theorem upd_same (c : Nat → List Rec) (f0 : Nat) (rs : List Rec) : upd c f0 rs f0 = rs := if_pos rfl
theorem upd_other (c : Nat → List Rec) {f0 f : Nat} (h : f ≠ f0) (rs : List Rec) : upd c f0 rs f = c f :=
  if_neg h
theorem upd_upd (c : Nat → List Rec) (f0 : Nat) (a b : List Rec) : upd (upd c f0 a) f0 b = upd c f0 b := by
  funext f; by_cases e : f = f0 <;> simp [upd, e]
theorem upd_self (c : Nat → List Rec) (f0 : Nat) : upd c f0 (c f0) = c := by
  funext f; by_cases e : f = f0 <;> simp [upd, e]
theorem upd_snoc (c : Nat → List Rec) (f0 : Nat) (r : Rec) (f : Nat) :
    upd c f0 (c f0 ++ [r]) f = if f = f0 then c f ++ [r] else c f := by
  by_cases e : f = f0 <;> simp [upd, e]

/-- the index (KeyDir, counters, failure flag) is exact for the file contents `c`: distinct KeyDir
    keys, every file's counters exact in the counting form, the sticky failure flag clear -/
structure IdxAcc (ix : Idx) (c : Nat → List Rec) : Prop where
  kdNodup : (AL.keys ix.keydir).Nodup
  files : ∀ f, FileAcc ix.keydir ix.stats f (c f)
  notBad : ix.bad = false
  statsNodup : (AL.keys ix.stats).Nodup

def idxValue (fid : Nat) (ix : Idx) (key : Key) (pos len : Nat) (ts : Int) : Idx :=
  ({ ix with stats := updStat ix.stats fid (·.addLive),
             keydir := AL.set key ⟨fid, pos, len, ts⟩ ix.keydir } : Idx).account (AL.get key ix.keydir)

def idxTomb (fid : Nat) (ix : Idx) (key : Key) (len : Nat) : Idx :=
  ({ ix with stats := updStat ix.stats fid (·.addDead len),
             keydir := AL.del key ix.keydir } : Idx).account (AL.get key ix.keydir)

theorem idx_account (ix : Idx) (p : Option Loc) :
    ix.account p = { keydir := ix.keydir, stats := acct ix.stats p, bad := ix.bad || underfl ix.stats p } := by
  cases p with
  | none => exact congrArg (Idx.mk _ _) (Bool.or_false _).symm
  | some p => rfl

variable {ix : Idx} {c : Nat → List Rec}

theorem IdxAcc.value (h : IdxAcc ix c) (fid : Nat) (k : Key) (pos : Nat) (r : Rec) (ts : Int) :
    IdxAcc (idxValue fid ix k pos r.len ts) (upd c fid (c fid ++ [r])) := by
  rw [idxValue, idx_account]
  refine ⟨nodup_set h.kdNodup, fun f => ?_, ?_, nodup_acct (nodup_set h.statsNodup) _⟩
  · rw [upd_snoc]; exact (h.files f).value_step fid r k pos ts
  · show (ix.bad || _) = false
    rw [h.notBad, FileAcc.no_underfl h.files fid (·.addLive) (fun _ => Nat.le_succ _) k]; rfl

theorem IdxAcc.tomb (h : IdxAcc ix c) (fid : Nat) (k : Key) (r : Rec) :
    IdxAcc (idxTomb fid ix k r.len) (upd c fid (c fid ++ [r])) := by
  rw [idxTomb, idx_account]
  refine ⟨nodup_del h.kdNodup, fun f => ?_, ?_, nodup_acct (nodup_set h.statsNodup) _⟩
  · rw [upd_snoc]; exact (h.files f).tomb_step h.kdNodup fid r k
  · show (ix.bad || _) = false
    rw [h.notBad, FileAcc.no_underfl h.files fid (·.addDead r.len) (fun _ => Nat.le_refl _) k]; rfl

end Store.Stats
