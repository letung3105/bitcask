/-
  Lives after a crash inside a merge: events.

  The invisible records of a directory are value records, so the events of the visible part are
  the events of the whole directory with some VALUE events removed (`ValSub`).  Removing value
  events never turns "this key is recovered as absent" into "this key is recovered": the hazard
  hypotheses (`Full`, `NoHazard`), stated for ALL records of the real directory, carry over to
  its visible part.
-/
import BitcaskVerif.Store.LivesOpen

namespace Store

inductive ValSub : List Ev → List Ev → Prop
  | nil : ValSub [] []
  | cons (e : Ev) {a b : List Ev} : ValSub a b → ValSub (e :: a) (e :: b)
  | drop (e : Ev) {a b : List Ev} : e.tomb = false → ValSub a b → ValSub a (e :: b)

theorem ValSub.refl : ∀ (a : List Ev), ValSub a a
  | [] => .nil
  | e :: a => .cons e (ValSub.refl a)

theorem ValSub.mem {a b : List Ev} (h : ValSub a b) : ∀ e ∈ a, e ∈ b := by
  induction h with
  | nil => intro e he; exact he
  | cons x _ ih =>
    intro e he
    rcases List.mem_cons.mp he with rfl | he
    · exact List.mem_cons_self
    · exact List.mem_cons_of_mem _ (ih e he)
  | drop x _ _ ih => intro e he; exact List.mem_cons_of_mem _ (ih e he)

theorem ValSub.append {a b a' b' : List Ev} (h : ValSub a b) (h' : ValSub a' b') : ValSub (a ++ a') (b ++ b') := by
  induction h with
  | nil => exact h'
  | cons x _ ih => exact .cons x ih
  | drop x hx _ ih => exact .drop x hx ih

theorem ValSub.filter (p : Ev → Bool) {a b : List Ev} (h : ValSub a b) : ValSub (a.filter p) (b.filter p) := by
  induction h with
  | nil => exact .nil
  | cons x _ ih =>
    rw [List.filter_cons, List.filter_cons]
    split
    · exact .cons x ih
    · exact ih
  | drop x hx _ ih =>
    rw [List.filter_cons]
    split
    · exact .drop x hx ih
    · exact ih

theorem ValSub.flatMap {α : Type} {f g : α → List Ev} : ∀ (l : List α), (∀ x ∈ l, ValSub (f x) (g x)) →
    ValSub (l.flatMap f) (l.flatMap g)
  | [], _ => .nil
  | x :: xs, h => by
    simp only [List.flatMap_cons]
    exact (h x List.mem_cons_self).append (ValSub.flatMap xs (fun y hy => h y (List.mem_cons_of_mem _ hy)))

theorem ValSub.nil_vals : ∀ (j : List Ev), (∀ e ∈ j, e.tomb = false) → ValSub [] j
  | [], _ => .nil
  | e :: es, h => .drop e (h e List.mem_cons_self) (nil_vals es fun x hx => h x (List.mem_cons_of_mem _ hx))

theorem ValSub.append_vals (a : List Ev) (j : List Ev) (h : ∀ e ∈ j, e.tomb = false) : ValSub a (a ++ j) := by
  have := (ValSub.refl a).append (nil_vals j h)
  rwa [List.append_nil] at this

theorem ValSub.lastFor_none {a b : List Ev} (h : ValSub a b) {k : Key} (hb : lastFor k b = none) :
    lastFor k a = none := by
  rw [Store.lastFor_none] at hb ⊢
  intro e he
  exact hb e (h.mem e he)

theorem ValSub.lastFor_tomb {a b : List Ev} (h : ValSub a b) {k : Key} {x : Ev} (hb : lastFor k b = some x)
    (hx : x.tomb = true) : lastFor k a = some x := by
  induction h with
  | nil => cases hb
  | @cons e a' b' hs ih =>
    cases hy : lastFor k b' with
    | some y =>
      rw [lastFor_cons_some hy] at hb
      exact lastFor_cons_some (ih (hy.trans hb))
    | none =>
      rw [lastFor_cons_none hy] at hb
      rw [lastFor_cons_none (hs.lastFor_none hy)]
      exact hb
  | @drop e a' b' he hs ih =>
    cases hy : lastFor k b' with
    | some y =>
      rw [lastFor_cons_some hy] at hb
      exact ih (hy.trans hb)
    | none =>
      -- the dropped event is a value event, `x` is not
      rw [lastFor_cons_none hy] at hb
      split at hb
      · rw [← Option.some.inj hb, he] at hx; cases hx
      · cases hb

theorem ValSub.replay_none {a b : List Ev} (h : ValSub a b) {k : Key} (hb : replay b k = none) :
    replay a k = none := by
  rw [replay_eq] at hb ⊢
  cases hl : lastFor k b with
  | none => rw [h.lastFor_none hl]; rfl
  | some x =>
    have hx : x.tomb = true := by
      cases ht : x.tomb with
      | true => rfl
      | false => simp [hl, evVal, ht] at hb
    rw [h.lastFor_tomb hl hx]
    simp [evVal, hx]

theorem mkEv_tomb {r : Rec} (h : r.val.isSome) (fid p : Nat) : (mkEv fid p r).tomb = false := by
  show r.val.isNone = false
  cases hv : r.val with
  | none => rw [hv] at h; cases h
  | some v => rfl

/-- what the index holds for a key whose last event is that of a value record -/
theorem evVal_mkEv {r : Rec} (h : r.val.isSome) (fid p : Nat) :
    evVal (some (mkEv fid p r)) = some ⟨fid, p, r.len, r.ts⟩ := by
  simp only [evVal, mkEv_tomb h, Bool.false_eq_true, ↓reduceIte]
  rfl

theorem evData_vals {fid : Nat} : ∀ {j : List Rec} {p : Nat}, (∀ r ∈ j, r.val.isSome) →
    ∀ e ∈ evData fid j p, e.tomb = false
  | [], _, _ => by intro e he; simp [evData] at he
  | r :: rs, p, h => by
    intro e he
    simp only [evData, List.mem_cons] at he
    rcases he with rfl | he
    · exact mkEv_tomb (h r List.mem_cons_self) fid p
    · exact evData_vals (fun x hx => h x (List.mem_cons_of_mem _ hx)) e he

theorem mem_recAt {j : List Rec} {r : Rec} (h : r ∈ j) : ∃ q, recAt j q = some r := by
  obtain ⟨s, t, rfl⟩ := List.append_of_mem h
  exact ⟨fileSize s, recAt_append_size s r t⟩

def JunkVals (d1 d : Disk) : Prop :=
  ∀ fid p j, recAt (dataOf d fid) p = some j → fileSize (dataOf d1 fid) ≤ p → j.val.isSome

theorem JunkOK.vals {d1 d : Disk} {f : IdxF} (h : JunkOK d1 d f) : JunkVals d1 d :=
  fun fid p j h1 h2 => (h fid p j h1 h2).1

theorem allEvs_eq_flatMap {d : Disk} (h : Asc d.data) :
    allEvs d.data = (AL.keys d.data).flatMap (fun fid => evData fid (dataOf d fid) 0) :=
  (flatMap_keys_allEvs h).symm

theorem valSub_of_sim {d1 d : Disk} (h : Sim d1 d) (ha : Asc d1.data) (hv : JunkVals d1 d) :
    ValSub (allEvs d1.data) (allEvs d.data) := by
  have ha' : Asc d.data := by unfold Asc; rw [h.keys]; exact ha
  rw [allEvs_eq_flatMap ha, allEvs_eq_flatMap ha', h.keys]
  apply ValSub.flatMap
  intro fid _
  obtain ⟨j, hj⟩ := h.pre fid
  rw [← hj, evData_append]
  apply ValSub.append_vals
  apply evData_vals
  intro r hr
  obtain ⟨q, hq⟩ := mem_recAt hr
  apply hv fid (fileSize (dataOf d1 fid) + q) r
  · rw [← hj, recAt_append_right]; exact hq
  · omega

theorem fullAll_visible {d1 d : Disk} (h : Sim d1 d) (ha : Asc d1.data) (hv : JunkVals d1 d) {f : IdxF}
    (hf : FullAll d f) : FullAll d1 f :=
  fun k hk => (valSub_of_sim h ha hv).replay_none (hf k hk)

theorem noHazard_visible {s : St} {d1 : Disk} (h : Sim d1 s.disk) (ha : Asc d1.data) (hv : JunkVals d1 s.disk)
    {sel : List Nat} (hz : NoHazard s sel) : NoHazard { s with disk := d1 } sel :=
  fun k hk => ((valSub_of_sim h ha hv).filter _).replay_none (hz k hk)

end Store
