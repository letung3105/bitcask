/-
  The merge pass and the recovery invariant: `mergeWith` keeps `RInv` (so hint files stay exact
  and every index entry stays recoverable), and it keeps `Full` exactly when no absent key is
  resurrected by the unselected files alone (`NoHazard`; its failure is defect D3).
-/
import BitcaskVerif.Store.RecInv

namespace Store

/-- No key that is absent from the index (never written, or deleted) would be recovered by a
    startup scan of the files that are NOT selected for the merge.  (The merge drops every
    tombstone of the selected files; a deleted key whose deciding tombstone is selected and that
    still has a value record in an unselected file violates this: defect D3.) -/
def NoHazard (s : St) (sel : List Nat) : Prop :=
  ∀ k, AL.get k s.keydir = none →
    replay ((allEvs s.disk.data).filter (fun e => decide (e.loc.fid ∉ sel))) k = none

/-- loop invariant of the merge for recovery (in addition to `MInv`) -/
structure MR (m : MergeSt) : Prop where
  asc : Asc m.s.disk.data
  wkd : ∀ k loc, AL.get k m.s.keydir = some loc → replay (allEvs m.s.disk.data) k = some loc
  hx : HintsExact m.s.disk
  hmid : (AL.get m.mid m.s.disk.hint).isSome

theorem get_filter {β : Type} (q : Nat → Bool) (k : Nat) (l : List (Nat × β)) :
    AL.get k (l.filter (fun p => q p.1)) = if q k then AL.get k l else none := by
  induction l with
  | nil => exact (ite_self _).symm
  | cons x xs ih =>
    obtain ⟨f, w⟩ := x
    rw [List.filter_cons]
    by_cases hf : f = k
    · subst hf
      by_cases hq : q f = true
      · rw [if_pos hq, AL.get, AL.get, if_pos rfl, if_pos rfl, if_pos hq]
      · rw [if_neg hq, ih, if_neg hq, if_neg hq]
    · by_cases hq : q f = true
      · rw [if_pos hq, AL.get, AL.get, if_neg hf, if_neg hf, ih]
      · rw [if_neg hq, AL.get, if_neg hf, ih]

theorem mem_keys_filter {β : Type} {p : Nat × β → Bool} {l : List (Nat × β)} {id : Nat}
    (h : id ∈ AL.keys (l.filter p)) : id ∈ AL.keys l :=
  (List.filter_sublist.map _).subset h

theorem hintsExact_filter {d : Disk} (hh : HintsExact d) (q : Nat → Bool) :
    HintsExact { data := d.data.filter (fun p => q p.1), hint := d.hint.filter (fun p => q p.1),
                 tails := d.tails } := by
  intro fid hs hg
  have hg' : (if q fid then AL.get fid d.hint else none) = some hs := (get_filter q fid d.hint).symm.trans hg
  by_cases hq : q fid = true
  · rw [if_pos hq] at hg'
    unfold dataOf
    rw [get_filter q, if_pos hq]
    exact hh fid hs hg'
  · rw [if_neg hq] at hg'; cases hg'

theorem hintsExact_roll {d : Disk} (h : HintsExact d) (mid' : Nat) : HintsExact (rollDisk d mid') := by
  intro fid hs hg
  have hg' : AL.get fid (AL.set mid' [] d.hint) = some hs := hg
  by_cases hf : fid = mid'
  · rw [hf, AL.get_set_same] at hg'
    cases hg'
    rw [hf, rollDisk, dataOf_set_same']; rfl
  · rw [AL.get_set_other hf] at hg'
    unfold rollDisk
    rw [dataOf_set_other' d hf]
    exact h fid hs hg'

theorem roll_events {d : Disk} (ha : Asc d.data) {mid' : Nat} (hlt : ∀ id ∈ AL.keys d.data, id < mid') :
    Asc (rollDisk d mid').data ∧ allEvs (rollDisk d mid').data = allEvs d.data :=
  ⟨(asc_set_new ha hlt).2, allEvs_set_new ha hlt⟩

theorem move_event {A : Nat} {abs0 : Map} {m : MergeSt} (h : MInv A abs0 m) (hr : MR m) {k : Key} {loc : Loc}
    {r : Rec} (hk : AL.get k m.s.keydir = some loc)
    (h1 : recAt (dataOf m.s.disk loc.fid) loc.pos = some r) (h2 : r.key = k) (h3 : r.val.isSome)
    (h4 : r.len = loc.len) :
    mkEv m.mid (fileSize (dataOf m.s.disk m.mid)) r = ⟨k, newLocOf m loc, false⟩ := by
  -- the timestamp of the entry is the record's, because the entry is what the scan recovers
  have g5 := (locOk_of_replay hr.asc (hr.wkd k loc hk)).2 r h1
  have hv : r.val.isNone = false := by
    cases hv : r.val with
    | none => rw [hv] at h3; cases h3
    | some v => rfl
  unfold mkEv newLocOf
  rw [h2, h4, g5, hv, ← h.pos]

theorem move_events {A : Nat} {abs0 : Map} {m : MergeSt} (h : MInv A abs0 m) (hr : MR m) (k : Key) (loc : Loc)
    (r : Rec) :
    Asc (moveDisk m k loc r).data ∧
    allEvs (moveDisk m k loc r).data =
      allEvs m.s.disk.data ++ [mkEv m.mid (fileSize (dataOf m.s.disk m.mid)) r] :=
  ⟨asc_set_mem hr.asc (mem_keys_of_isSome h.midex), allEvs_set_max hr.asc h.ids h.midex r⟩

theorem move_hintsExact {m : MergeSt} (hr : MR m) {k : Key} {loc : Loc}
    {r : Rec} (hev : mkEv m.mid (fileSize (dataOf m.s.disk m.mid)) r = ⟨k, newLocOf m loc, false⟩) :
    HintsExact (moveDisk m k loc r) := by
  intro fid hs hg
  have hg' : AL.get fid (AL.set m.mid ((AL.get m.mid m.s.disk.hint).getD [] ++
      [{ ts := loc.ts, len := loc.len, pos := m.mpos, key := k }]) m.s.disk.hint) = some hs := hg
  by_cases hf : fid = m.mid
  · rw [hf, AL.get_set_same] at hg'
    cases hg'
    obtain ⟨hs0, hhs0⟩ := Option.isSome_iff_exists.mp hr.hmid
    rw [hf, moveDisk, dataOf_set_same', hhs0, evData_snoc, hev, ← hr.hx m.mid hs0 hhs0]
    exact List.map_append
  · rw [AL.get_set_other hf] at hg'
    unfold moveDisk
    rw [dataOf_set_other' m.s.disk hf]
    exact hr.hx fid hs hg'

theorem mergeStep_events (cfg : Cfg) (sel : List Nat) {A : Nat} {abs0 : Map} (m : MergeSt) (k : Key)
    (h : MInv A abs0 m) (hr : MR m) :
    mergeStep cfg sel m k = m ∨
    ∃ loc, AL.get k m.s.keydir = some loc ∧
      (mergeStep cfg sel m k).s.keydir = AL.set k (newLocOf m loc) m.s.keydir ∧
      allEvs (mergeStep cfg sel m k).s.disk.data =
        allEvs m.s.disk.data ++ [⟨k, newLocOf m loc, false⟩] ∧
      Asc (mergeStep cfg sel m k).s.disk.data ∧ HintsExact (mergeStep cfg sel m k).s.disk ∧
      (AL.get (mergeStep cfg sel m k).mid (mergeStep cfg sel m k).s.disk.hint).isSome := by
  rcases h.mergeStep_eq cfg sel k with ⟨e, _⟩ | ⟨loc, r, hk, _, h1, h2, h3, h4, h5, hc⟩
  · exact .inl e
  · have hev := move_event h hr hk h1 h2 h3 h4
    obtain ⟨ma, me⟩ := move_events h hr k loc r
    rw [hev] at me
    have mh := move_hintsExact hr hev
    refine .inr ⟨loc, hk, ?_⟩
    rcases hc with ⟨_, e⟩ | ⟨_, e⟩ <;> rw [e]
    · exact ⟨rfl, me, ma, mh, AL.isSome_get_set _ _ _⟩
    · obtain ⟨ra, re⟩ := roll_events ma
        (fun id hid => Nat.lt_succ_of_le ((h.move hk h1 h2 h3 h4 h5).ids id hid))
      exact ⟨rfl, re.trans me, ra, hintsExact_roll mh _, AL.isSome_get_set _ _ _⟩

theorem mergeStep_mr (cfg : Cfg) (sel : List Nat) {A : Nat} {abs0 : Map} (m : MergeSt) (k : Key)
    (h : MInv A abs0 m) (hr : MR m) : MR (mergeStep cfg sel m k) := by
  rcases mergeStep_events cfg sel m k h hr with e | ⟨loc, hk, hkd, hev, ha, hh, hm⟩
  · rw [e]; exact hr
  · exact ⟨ha, hev ▸ wkd_snoc (fun k' => by rw [hkd, AL.get_set]; rfl) hr.wkd, hh, hm⟩

theorem mergeStep_absent (cfg : Cfg) (sel : List Nat) {A : Nat} {abs0 : Map} (m : MergeSt) (k : Key)
    (h : MInv A abs0 m) (hr : MR m) (k' : Key) (hk' : AL.get k' m.s.keydir = none) :
    replay ((allEvs (mergeStep cfg sel m k).s.disk.data).filter (fun e => decide (e.loc.fid ∉ sel))) k' =
      replay ((allEvs m.s.disk.data).filter (fun e => decide (e.loc.fid ∉ sel))) k' := by
  rcases mergeStep_events cfg sel m k h hr with e | ⟨loc, hk, _, hev, _⟩
  · rw [e]
  · rw [hev, List.filter_append, replay_append_of_no_key]
    intro e he
    cases List.mem_singleton.mp (List.mem_filter.mp he).1
    intro (e : k = k')
    rw [← e, hk] at hk'; cases hk'

theorem mergeFold_mr (cfg : Cfg) (sel : List Nat) (A : Nat) (abs0 : Map) (hselA : ∀ id, id ∈ sel → id ≤ A)
    (order : List Key) (m : MergeSt) (h : MInv A abs0 m) (hr : MR m) :
    MR (order.foldl (mergeStep cfg sel) m) ∧
      ∀ k', AL.get k' m.s.keydir = none →
        replay ((allEvs (order.foldl (mergeStep cfg sel) m).s.disk.data).filter
            (fun e => decide (e.loc.fid ∉ sel))) k' =
          replay ((allEvs m.s.disk.data).filter (fun e => decide (e.loc.fid ∉ sel))) k' := by
  have := List.foldlRecOn order (mergeStep cfg sel)
    (motive := fun m' => MInv A abs0 m' ∧ MR m' ∧ ∀ k', AL.get k' m.s.keydir = none →
      AL.get k' m'.s.keydir = none ∧
      replay ((allEvs m'.s.disk.data).filter (fun e => decide (e.loc.fid ∉ sel))) k' =
        replay ((allEvs m.s.disk.data).filter (fun e => decide (e.loc.fid ∉ sel))) k')
    ⟨h, hr, fun _ hk' => ⟨hk', rfl⟩⟩
    fun m' ⟨h', hr', ha⟩ k _ => by
      obtain ⟨s1, s2, _⟩ := mergeStep_spec cfg sel A abs0 hselA m' k h'
      refine ⟨s1, mergeStep_mr cfg sel m' k h' hr', fun k' hk' => ?_⟩
      obtain ⟨a1, a2⟩ := ha k' hk'
      exact ⟨Option.not_isSome_iff_eq_none.mp (by rw [s2 k', a1]; nofun),
        (mergeStep_absent cfg sel m' k h' hr' k' a1).trans a2⟩
  exact ⟨this.2.1, fun k' hk' => (this.2.2 k' hk').2⟩

theorem delAll_eq_filter {β : Type} (ks : List Nat) : ∀ (l : List (Nat × β)),
    Stats.delAll ks l = l.filter (fun p => decide (p.1 ∉ ks)) := by
  induction ks with
  | nil => exact fun l => (List.filter_eq_self.mpr fun _ _ => decide_eq_true List.not_mem_nil).symm
  | cons k ks ih =>
    intro l
    rw [Stats.delAll, List.foldl_cons, ← Stats.delAll, ih, del_eq_filter, List.filter_filter]
    congr 1; funext p
    simp only [List.mem_cons, not_or, Bool.decide_and, Bool.and_comm]

theorem unlinkFold_disk (l : List Nat) (st : St × List Call) :
    (l.foldl unlinkOne st).1.disk =
      { data := st.1.disk.data.filter (fun p => decide (p.1 ∉ l)),
        hint := st.1.disk.hint.filter (fun p => decide (p.1 ∉ l)),
        tails := st.1.disk.tails } := by
  rw [Stats.unlinkFold_fst, delAll_eq_filter, delAll_eq_filter]

theorem mergeStart_spec (s : St) (h : RInv s) :
    MInv s.active s.abs (mergeStart s) ∧ MR (mergeStart s) ∧
      allEvs (mergeStart s).s.disk.data = allEvs s.disk.data := by
  obtain ⟨ra, re⟩ := roll_events h.asc (fun id hid => Nat.lt_succ_of_le (h.inv.ids id hid))
  exact ⟨mergeStart_minv h.inv _, ⟨ra, fun k loc hk => (congrArg (replay · k) re).trans (h.wkd k loc hk),
    hintsExact_roll h.hx _, AL.isSome_get_set _ _ _⟩, re⟩

theorem mergeFinish_spec (sel : List Nat) {m : MergeSt} {A : Nat} {abs0 : Map} (h : MInv A abs0 m) (hr : MR m)
    (hunsel : ∀ k loc, AL.get k m.s.keydir = some loc → loc.fid ∉ sel) (c : List Call)
    (hinv : Inv (newActive (sel.foldl unlinkOne (m.s, c)).1 (m.mid + 1)).1) :
    RInv (newActive (sel.foldl unlinkOne (m.s, c)).1 (m.mid + 1)).1 ∧
      allEvs (newActive (sel.foldl unlinkOne (m.s, c)).1 (m.mid + 1)).1.disk.data =
        (allEvs m.s.disk.data).filter (fun e => decide (e.loc.fid ∉ sel)) := by
  have hk := unlinkFold_keydir sel (m.s, c)
  have hd := unlinkFold_disk sel (m.s, c)
  generalize (sel.foldl unlinkOne (m.s, c)).1 = u at hk hd hinv ⊢
  obtain ⟨ud, ukd, _, _, _, _⟩ := u
  cases hd; cases hk
  obtain ⟨c1, c2, c3, c4⟩ := create_above (b := m.mid)
    (asc_filter _ hr.asc) (hintsExact_filter hr.hx (fun f => decide (f ∉ sel)))
    (fun id hid => h.ids id (mem_keys_filter hid)) (fun id hid => h.hids id (mem_keys_filter hid))
  have hev := c2.trans (allEvs_filter (fun f => decide (f ∉ sel)) m.s.disk.data)
  refine ⟨⟨hinv, c1, fun k loc hk' => ?_, c3, c4⟩, hev⟩
  exact (congrArg (replay · k) hev).trans
    (replay_filter_keep _ (hr.wkd k loc hk') (decide_eq_true (hunsel k loc hk')))

theorem mergeWith_rinv (cfg : Cfg) (s : St) (sel : List Nat) (order : List Key) (h : RInv s)
    (hsel : ∀ id, id ∈ sel → id ≤ s.active) (hcov : Covers order s) :
    RInv (mergeWith cfg s sel order).1 ∧
    (∀ k, (AL.get k (mergeWith cfg s sel order).1.keydir).isSome = (AL.get k s.keydir).isSome) ∧
    (∀ k, AL.get k s.keydir = none →
      replay (allEvs (mergeWith cfg s sel order).1.disk.data) k =
        replay ((allEvs s.disk.data).filter (fun e => decide (e.loc.fid ∉ sel))) k) := by
  obtain ⟨h0, r0, n0⟩ := mergeStart_spec s h
  obtain ⟨f1, f2, _, _⟩ := mergeFold_spec cfg sel s.active s.abs hsel order _ h0
  obtain ⟨g1, g2⟩ := mergeFold_mr cfg sel s.active s.abs hsel order _ h0 r0
  have hfst := mergeWith_fst cfg s sel order
  have hkd := unlinkFold_keydir sel ((mergeLoop cfg s sel order).s, (mergeLoop cfg s sel order).calls ++
    [Call.fsync ⟨.data, (mergeLoop cfg s sel order).mid⟩, Call.fsync ⟨.hint, (mergeLoop cfg s sel order).mid⟩])
  obtain ⟨a1, a2⟩ := mergeFinish_spec (m := mergeLoop cfg s sel order) sel f1 g1
    (mergeLoop_not_sel cfg s sel order h.inv hsel hcov) _ (hfst ▸ (mergeWith_inv_abs cfg s sel order h.inv hsel hcov).1)
  rw [← hfst] at a1 a2
  refine ⟨a1, fun k => (congrArg (fun kd => (AL.get k kd).isSome) hkd).trans (f2 k), fun k hk => ?_⟩
  rw [a2]
  exact (g2 k hk).trans (by rw [n0])

theorem mergeWith_full_iff (cfg : Cfg) (s : St) (sel : List Nat) (order : List Key) (h : RInv s)
    (hsel : ∀ id, id ∈ sel → id ≤ s.active) (hcov : Covers order s) :
    Full (mergeWith cfg s sel order).1 ↔ NoHazard s sel := by
  obtain ⟨_, b, c⟩ := mergeWith_rinv cfg s sel order h hsel hcov
  have hnone : ∀ k, AL.get k (mergeWith cfg s sel order).1.keydir = none ↔ AL.get k s.keydir = none := by
    intro k
    rw [← Option.not_isSome_iff_eq_none, ← Option.not_isSome_iff_eq_none, b k]
  constructor
  · intro hf k hk
    rw [← c k hk]; exact hf k ((hnone k).mpr hk)
  · intro hn k hk
    rw [c k ((hnone k).mp hk)]; exact hn k ((hnone k).mp hk)

end Store
