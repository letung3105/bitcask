/-
  Power loss (C09), merge-free histories with `sync = always`, in the model that tracks data
  files only: operations and histories.
-/
import BitcaskVerif.Store.PowerLoss

namespace Store

open Tr

theorem stepC_powerLoss_recovers (cfg : Cfg) (hs : cfg.syncAlways = true) {s : St} (h : RInv s) (hf : Full s)
    {sy : List (Nat × Nat)} (hfs : FullySynced ⟨s.disk, sy⟩) (op : TOp) (hop : mergeFree op) {c : List Call}
    (hc : Cut (stepC cfg s op).2 c) {d' : Disk} (hp : PowerLoss (syncCalls ⟨s.disk, sy⟩ c) d') :
    (Recovers d' s.abs ∨ Recovers d' (specOp s.abs op)) ∧
    (c = (stepC cfg s op).2 → Recovers d' (specOp s.abs op)) := by
  obtain ⟨sd0, hd, hfs2, hto⟩ := powerLoss_embed hfs
  obtain ⟨I, hp2, hsf⟩ := (hto c).2 d' hp
  obtain ⟨a, b⟩ := stepC_powerLoss2_clean cfg hs h hf hd hfs2 op hop hc hp2
  exact ⟨a.imp (fun x => (x.sameFiles hsf).recovers) (fun x => (x.sameFiles hsf).recovers),
    fun e => ((b e).sameFiles hsf).recovers⟩

theorem runC_sync (cfg : Cfg) (hs : cfg.syncAlways = true) (ops : List TOp) (s : St) (sy : List (Nat × Nat))
    (hfs : FullySynced ⟨s.disk, sy⟩) :
    ∃ sy', syncCalls ⟨s.disk, sy⟩ (traceOf cfg s ops) = ⟨(runC cfg s ops).disk, sy'⟩ ∧
      FullySynced ⟨(runC cfg s ops).disk, sy'⟩ := by
  obtain ⟨sd0, hd, hfs2, hto⟩ := powerLoss_embed hfs
  obtain ⟨e1, e2⟩ := runC_sync2 cfg hs ops sd0 hd hfs2
  have e : syncCalls ⟨s.disk, sy⟩ (traceOf cfg s ops) =
      ⟨(runC cfg s ops).disk, (syncCalls ⟨s.disk, sy⟩ (traceOf cfg s ops)).synced⟩ := by
    rw [← e1, syncCalls2_disk, hd, ← syncCalls_disk _ ⟨s.disk, sy⟩]
  exact ⟨_, e, e ▸ (hto _).1 e2⟩

/-- **power failure anywhere in a merge-free history** (`sync = always`): `s` any state
    satisfying the recovery invariant in which nothing absent is resurrectable, with everything
    durable; `ops` the acknowledged operations, `op` the operation in flight, `c` the calls of `op`
    issued before the failure (any cut) -/
theorem history_powerLoss_recovers (cfg : Cfg) (hs : cfg.syncAlways = true) {s : St} (h : RInv s) (hf : Full s)
    {sy : List (Nat × Nat)} (hfs : FullySynced ⟨s.disk, sy⟩) (ops : List TOp) (hops : ∀ o ∈ ops, mergeFree o)
    (op : TOp) (hop : mergeFree op) {c : List Call} (hc : Cut (stepC cfg (runC cfg s ops) op).2 c) {d' : Disk}
    (hp : PowerLoss (syncCalls ⟨s.disk, sy⟩ (traceOf cfg s ops ++ c)) d') :
    (Recovers d' (specRun s.abs ops) ∨ Recovers d' (specOp (specRun s.abs ops) op)) ∧
    (c = (stepC cfg (runC cfg s ops) op).2 → Recovers d' (specOp (specRun s.abs ops) op)) := by
  obtain ⟨sy', e1, e2⟩ := runC_sync cfg hs ops s sy hfs
  obtain ⟨a, b, e⟩ := runC_rinv cfg ops h hf hops
  rw [syncCalls_append, e1] at hp
  have := stepC_powerLoss_recovers cfg hs a b e2 op hop hc hp
  rw [e] at this
  exact this

theorem fullySynced_fresh : FullySynced ⟨fresh.disk, []⟩ := fun id => (fullySynced2_fresh id).1

end Store
