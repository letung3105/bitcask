/-
  The merge pass preserves the invariant and leaves every key reading as before
  (`mergeWith_inv_abs`), for every set of selected files below the active id and every
  iteration order covering the KeyDir.

  One iteration of the loop is a skip or a copy of one record to the end of the output,
  possibly followed by a rollover of the output (`MInv.mergeStep_eq`); the loop invariant is
  kept by the copy (`MInv.move`) and by the rollover (`MInv.roll`) separately.
-/
import BitcaskVerif.Store.Lemmas
import BitcaskVerif.Store.ALSum

namespace Store

theorem newActive_inv {s : St} {b : Nat} (hlocs : ∀ k loc, AL.get k s.keydir = some loc → LocOk s.disk k loc)
    (hids : ∀ id, id ∈ AL.keys s.disk.data → id ≤ b) (hhids : ∀ id, id ∈ AL.keys s.disk.hint → id ≤ b) :
    Inv (newActive s (b + 1)).1 ∧ (newActive s (b + 1)).1.abs = s.abs := by
  have hK : Keeps b s.disk (newActive s (b + 1)).1.disk := keeps_create _ _ _ (Nat.lt_succ_self b) _ _
  refine ⟨⟨fun k loc hk => (hlocs k loc hk).keeps ((hlocs k loc hk).fid_le_of hids) hK,
    keys_set_le (Nat.le_refl _) fun id hid => Nat.le_succ_of_le (hids id hid),
    fun id hid => Nat.le_succ_of_le (hhids id hid), AL.isSome_get_set _ _ _⟩, ?_⟩
  funext k
  exact abs_keeps (fun l hl => ⟨hlocs k l hl, (hlocs k l hl).fid_le_of hids⟩) rfl hK

/-- loop invariant of the merge (relative to the active id `A`, the selected set and the map
    `abs0` read before the merge) -/
structure MInv (A : Nat) (abs0 : Map) (m : MergeSt) : Prop where
  locs : ∀ k loc, AL.get k m.s.keydir = some loc → LocOk m.s.disk k loc
  ids : ∀ id, id ∈ AL.keys m.s.disk.data → id ≤ m.mid
  hids : ∀ id, id ∈ AL.keys m.s.disk.hint → id ≤ m.mid
  midgt : A < m.mid
  pos : m.mpos = fileSize (dataOf m.s.disk m.mid)
  midex : (AL.get m.mid m.s.disk.data).isSome
  abs : m.s.abs = abs0

theorem MInv.fid_le {A : Nat} {abs0 : Map} {m : MergeSt} (h : MInv A abs0 m) {k : Key} {loc : Loc}
    (hl : LocOk m.s.disk k loc) : loc.fid ≤ m.mid :=
  hl.fid_le_of h.ids

def moveDisk (m : MergeSt) (k : Key) (loc : Loc) (r : Rec) : Disk :=
  { data := AL.set m.mid (dataOf m.s.disk m.mid ++ [r]) m.s.disk.data,
    hint := AL.set m.mid ((AL.get m.mid m.s.disk.hint).getD [] ++
      [{ ts := loc.ts, len := loc.len, pos := m.mpos, key := k }]) m.s.disk.hint,
    tails := m.s.disk.tails }

def newLocOf (m : MergeSt) (loc : Loc) : Loc := { fid := m.mid, pos := m.mpos, len := loc.len, ts := loc.ts }

/-- the state after copying, re-pointing and counting (before the output rollover test) -/
def moveSt (m : MergeSt) (k : Key) (loc : Loc) (r : Rec) : St :=
  { m.s with disk := moveDisk m k loc r, keydir := AL.set k (newLocOf m loc) m.s.keydir,
             stats := updStat m.s.stats m.mid (·.addLive),
             bad := m.s.bad || decide (r.len ≠ loc.len) }

def rollDisk (d : Disk) (mid' : Nat) : Disk :=
  { data := AL.set mid' [] d.data, hint := AL.set mid' [] d.hint, tails := d.tails }

def moveCalls (m : MergeSt) (k : Key) (loc : Loc) (r : Rec) : List Call :=
  m.calls ++ [Call.append ⟨.data, m.mid⟩ (.ofRec r),
              Call.append ⟨.hint, m.mid⟩ (.ofHint { ts := loc.ts, len := loc.len, pos := m.mpos, key := k })]

def Tr.moveNoRoll (m : MergeSt) (k : Key) (loc : Loc) (r : Rec) : MergeSt :=
  { s := moveSt m k loc r, mid := m.mid, mpos := m.mpos + loc.len, calls := moveCalls m k loc r }

def Tr.moveRoll (m : MergeSt) (k : Key) (loc : Loc) (r : Rec) : MergeSt :=
  { s := { moveSt m k loc r with disk := rollDisk (moveDisk m k loc r) (m.mid + 1) },
    mid := m.mid + 1, mpos := 0,
    calls := moveCalls m k loc r ++ [Call.fsync ⟨.data, m.mid⟩, Call.fsync ⟨.hint, m.mid⟩,
                                   Call.create ⟨.data, m.mid + 1⟩, Call.create ⟨.hint, m.mid + 1⟩] }

theorem mergeStep_move (cfg : Cfg) (sel : List Nat) (m : MergeSt) (k : Key) (loc : Loc) (r : Rec)
    (hk : AL.get k m.s.keydir = some loc) (hsel : loc.fid ∈ sel)
    (hr : recAt (dataOf m.s.disk loc.fid) loc.pos = some r) :
    mergeStep cfg sel m k =
      (if m.mpos + loc.len > cfg.maxFile then
         { s := { moveSt m k loc r with disk := rollDisk (moveDisk m k loc r) (m.mid + 1) },
           mid := m.mid + 1, mpos := 0,
           calls := moveCalls m k loc r ++ [Call.fsync ⟨.data, m.mid⟩, Call.fsync ⟨.hint, m.mid⟩,
                                          Call.create ⟨.data, m.mid + 1⟩, Call.create ⟨.hint, m.mid + 1⟩] }
       else { s := moveSt m k loc r, mid := m.mid, mpos := m.mpos + loc.len, calls := moveCalls m k loc r }) := by
  unfold mergeStep
  simp only [hk, hsel, ↓reduceIte, hr]
  rfl

theorem mergeStep_skip_none (cfg : Cfg) (sel : List Nat) (m : MergeSt) (k : Key)
    (hk : AL.get k m.s.keydir = none) : mergeStep cfg sel m k = m := by
  unfold mergeStep; simp only [hk]

theorem mergeStep_skip_unsel (cfg : Cfg) (sel : List Nat) (m : MergeSt) (k : Key) (loc : Loc)
    (hk : AL.get k m.s.keydir = some loc) (hsel : loc.fid ∉ sel) : mergeStep cfg sel m k = m := by
  unfold mergeStep; simp only [hk, hsel, ↓reduceIte]

theorem Tr.mergeStep_bad (cfg : Cfg) (sel : List Nat) (m : MergeSt) (k : Key) (loc : Loc)
    (hk : AL.get k m.s.keydir = some loc) (hsel : loc.fid ∈ sel)
    (hr : recAt (dataOf m.s.disk loc.fid) loc.pos = none) :
    mergeStep cfg sel m k = { m with s := { m.s with bad := true } } := by
  unfold mergeStep
  simp only [hk, hsel, ↓reduceIte, hr]

theorem Tr.mergeStep_ind (P : MergeSt → Prop) (cfg : Cfg) (sel : List Nat) (m : MergeSt) (k : Key)
    (h1 : P m) (h2 : P { m with s := { m.s with bad := true } })
    (h3 : ∀ loc r, AL.get k m.s.keydir = some loc → recAt (dataOf m.s.disk loc.fid) loc.pos = some r →
      ¬ m.mpos + loc.len > cfg.maxFile → P (Tr.moveNoRoll m k loc r))
    (h4 : ∀ loc r, AL.get k m.s.keydir = some loc → recAt (dataOf m.s.disk loc.fid) loc.pos = some r →
      m.mpos + loc.len > cfg.maxFile → P (Tr.moveRoll m k loc r)) :
    P (mergeStep cfg sel m k) := by
  cases hk : AL.get k m.s.keydir with
  | none => rw [mergeStep_skip_none cfg sel m k hk]; exact h1
  | some loc =>
    by_cases hsel : loc.fid ∈ sel
    · cases hr : recAt (dataOf m.s.disk loc.fid) loc.pos with
      | none => rw [Tr.mergeStep_bad cfg sel m k loc hk hsel hr]; exact h2
      | some r =>
        rw [mergeStep_move cfg sel m k loc r hk hsel hr]
        by_cases hroll : m.mpos + loc.len > cfg.maxFile
        · simp only [hroll, ↓reduceIte]; exact h4 loc r hk hr hroll
        · simp only [hroll, ↓reduceIte]; exact h3 loc r hk hr hroll
    · rw [mergeStep_skip_unsel cfg sel m k loc hk hsel]; exact h1

theorem MInv.mergeStep_eq {A : Nat} {abs0 : Map} {m : MergeSt} (h : MInv A abs0 m)
    (cfg : Cfg) (sel : List Nat) (k : Key) :
    (mergeStep cfg sel m k = m ∧ ∀ loc, AL.get k m.s.keydir = some loc → loc.fid ∉ sel) ∨
    ∃ loc r, AL.get k m.s.keydir = some loc ∧ loc.fid ∈ sel ∧
      recAt (dataOf m.s.disk loc.fid) loc.pos = some r ∧ r.key = k ∧ r.val.isSome ∧ r.len = loc.len ∧
      (AL.get loc.fid m.s.disk.data).isSome ∧
      ((¬ m.mpos + loc.len > cfg.maxFile ∧ mergeStep cfg sel m k = Tr.moveNoRoll m k loc r) ∨
       (m.mpos + loc.len > cfg.maxFile ∧ mergeStep cfg sel m k = Tr.moveRoll m k loc r)) := by
  cases hk : AL.get k m.s.keydir with
  | none => exact .inl ⟨mergeStep_skip_none cfg sel m k hk, nofun⟩
  | some loc =>
    by_cases hsel : loc.fid ∈ sel
    · obtain ⟨r, h1, h2, h3, h4, h5⟩ := h.locs k loc hk
      refine .inr ⟨loc, r, rfl, hsel, h1, h2, h3, h4, h5, ?_⟩
      rw [mergeStep_move cfg sel m k loc r hk hsel h1]
      by_cases hroll : m.mpos + loc.len > cfg.maxFile
      · rw [if_pos hroll]; exact .inr ⟨hroll, rfl⟩
      · rw [if_neg hroll]; exact .inl ⟨hroll, rfl⟩
    · exact .inl ⟨mergeStep_skip_unsel cfg sel m k loc hk hsel, fun _ hl => Option.some.inj hl ▸ hsel⟩

theorem minv_roll {A : Nat} {abs0 : Map} {s : St} {mid : Nat}
    (hlocs : ∀ k loc, AL.get k s.keydir = some loc → LocOk s.disk k loc)
    (hids : ∀ id, id ∈ AL.keys s.disk.data → id ≤ mid) (hhids : ∀ id, id ∈ AL.keys s.disk.hint → id ≤ mid)
    (hA : A ≤ mid) (habs : s.abs = abs0) (calls : List Call) :
    MInv A abs0 { s := { s with disk := rollDisk s.disk (mid + 1) }, mid := mid + 1, mpos := 0, calls := calls } := by
  have hK : Keeps mid s.disk (rollDisk s.disk (mid + 1)) := keeps_create _ _ _ (Nat.lt_succ_self mid) _ _
  refine ⟨fun k loc hk => (hlocs k loc hk).keeps ((hlocs k loc hk).fid_le_of hids) hK,
    keys_set_le (Nat.le_refl _) fun id hid => Nat.le_succ_of_le (hids id hid),
    keys_set_le (Nat.le_refl _) fun id hid => Nat.le_succ_of_le (hhids id hid),
    Nat.lt_succ_of_le hA, ?_, AL.isSome_get_set _ _ _, ?_⟩
  · exact (congrArg fileSize (dataOf_set_same' s.disk (mid + 1) [] _ _)).symm
  · rw [← habs]
    funext k
    exact abs_keeps (fun l hl => ⟨hlocs k l hl, (hlocs k l hl).fid_le_of hids⟩) rfl hK

theorem MInv.roll {A : Nat} {abs0 : Map} {m : MergeSt} (h : MInv A abs0 m) (calls : List Call) :
    MInv A abs0 { s := { m.s with disk := rollDisk m.s.disk (m.mid + 1) }, mid := m.mid + 1, mpos := 0, calls := calls } :=
  minv_roll h.locs h.ids h.hids (Nat.le_of_lt h.midgt) h.abs calls

theorem MInv.move {A : Nat} {abs0 : Map} {m : MergeSt} (h : MInv A abs0 m) {k : Key} {loc : Loc} {r : Rec}
    (hk : AL.get k m.s.keydir = some loc) (h1 : recAt (dataOf m.s.disk loc.fid) loc.pos = some r)
    (h2 : r.key = k) (h3 : r.val.isSome) (h4 : r.len = loc.len) (h5 : (AL.get loc.fid m.s.disk.data).isSome) :
    MInv A abs0 (Tr.moveNoRoll m k loc r) := by
  have hK : Keeps m.mid m.s.disk (moveDisk m k loc r) := keeps_append _ _ _ _ _ _
  have hdata : dataOf (moveDisk m k loc r) m.mid = dataOf m.s.disk m.mid ++ [r] := dataOf_set_same' ..
  have hrec : recAt (dataOf (moveDisk m k loc r) m.mid) m.mpos = some r := by
    rw [hdata, h.pos]; exact recAt_append_size _ _ []
  have hex : (AL.get m.mid (moveDisk m k loc r).data).isSome := AL.isSome_get_set _ _ _
  have hkd : ∀ k', AL.get k' (Tr.moveNoRoll m k loc r).s.keydir =
      if k' = k then some (newLocOf m loc) else AL.get k' m.s.keydir := fun k' => AL.get_set _ _ _ _
  refine ⟨fun k' loc' hk' => ?_, keys_set_le (Nat.le_refl _) h.ids, keys_set_le (Nat.le_refl _) h.hids,
    h.midgt, ?_, hex, ?_⟩
  · rw [hkd] at hk'
    by_cases hkk : k' = k
    · rw [if_pos hkk] at hk'
      cases hk'
      exact ⟨r, hrec, h2.trans hkk.symm, h3, h4, hex⟩
    · rw [if_neg hkk] at hk'
      exact (h.locs k' loc' hk').keeps (h.fid_le (h.locs k' loc' hk')) hK
  · show m.mpos + loc.len = fileSize (dataOf (moveDisk m k loc r) m.mid)
    rw [hdata, fileSize_append, ← h.pos, ← h4]; simp
  · rw [← h.abs]
    funext k'
    by_cases hkk : k' = k
    · -- the copy carries the same value as the record it was copied from
      rw [hkk, abs_of_locOk (s := (Tr.moveNoRoll m k loc r).s) (loc := newLocOf m loc) (by rw [hkd, if_pos rfl]) hrec h4 hex,
        abs_of_locOk hk h1 h4 h5]
    · exact abs_keeps (fun l hl => ⟨h.locs k' l hl, h.fid_le (h.locs k' l hl)⟩) (by rw [hkd, if_neg hkk]) hK

theorem mergeStep_spec (cfg : Cfg) (sel : List Nat) (A : Nat) (abs0 : Map) (hselA : ∀ id, id ∈ sel → id ≤ A)
    (m : MergeSt) (k : Key) (h : MInv A abs0 m) :
    MInv A abs0 (mergeStep cfg sel m k) ∧
    (∀ k', (AL.get k' (mergeStep cfg sel m k).s.keydir).isSome = (AL.get k' m.s.keydir).isSome) ∧
    (∀ loc, AL.get k (mergeStep cfg sel m k).s.keydir = some loc → loc.fid ∉ sel) ∧
    (∀ k', (∀ loc, AL.get k' m.s.keydir = some loc → loc.fid ∉ sel) →
      (∀ loc, AL.get k' (mergeStep cfg sel m k).s.keydir = some loc → loc.fid ∉ sel)) ∧
    m.mid ≤ (mergeStep cfg sel m k).mid := by
  -- after a copy, everything but the invariant depends only on the new index and output id
  have hkey : ∀ (m' : MergeSt) (loc : Loc), AL.get k m.s.keydir = some loc →
      m'.s.keydir = AL.set k (newLocOf m loc) m.s.keydir → m.mid ≤ m'.mid →
      (∀ k', (AL.get k' m'.s.keydir).isSome = (AL.get k' m.s.keydir).isSome) ∧
      (∀ loc, AL.get k m'.s.keydir = some loc → loc.fid ∉ sel) ∧
      (∀ k', (∀ loc, AL.get k' m.s.keydir = some loc → loc.fid ∉ sel) →
        (∀ loc, AL.get k' m'.s.keydir = some loc → loc.fid ∉ sel)) ∧ m.mid ≤ m'.mid := by
    intro m' loc hk hkd hle
    have hmidsel : (newLocOf m loc).fid ∉ sel := fun hc => Nat.lt_irrefl _ (Nat.lt_of_le_of_lt (hselA _ hc) h.midgt)
    refine ⟨fun k' => ?_, fun l hl => ?_, fun k' hp l hl => ?_, hle⟩
    · rw [hkd, AL.get_set]
      by_cases hkk : k' = k
      · rw [if_pos hkk, hkk, hk]; rfl
      · rw [if_neg hkk]
    · rw [hkd, AL.get_set_same] at hl
      cases hl; exact hmidsel
    · rw [hkd, AL.get_set] at hl
      by_cases hkk : k' = k
      · rw [if_pos hkk] at hl; cases hl; exact hmidsel
      · rw [if_neg hkk] at hl; exact hp l hl
  rcases h.mergeStep_eq cfg sel k with ⟨e, hun⟩ | ⟨loc, r, hk, _, h1, h2, h3, h4, h5, ⟨_, e⟩ | ⟨_, e⟩⟩ <;> rw [e]
  · exact ⟨h, fun _ => rfl, hun, fun _ hp => hp, Nat.le_refl _⟩
  · exact ⟨h.move hk h1 h2 h3 h4 h5, hkey _ loc hk rfl (Nat.le_refl _)⟩
  · exact ⟨(h.move hk h1 h2 h3 h4 h5).roll _, hkey (Tr.moveRoll m k loc r) loc hk rfl (Nat.le_succ _)⟩

theorem mergeFold_spec (cfg : Cfg) (sel : List Nat) (A : Nat) (abs0 : Map) (hselA : ∀ id, id ∈ sel → id ≤ A)
    (order : List Key) : ∀ (m : MergeSt), MInv A abs0 m →
    MInv A abs0 (order.foldl (mergeStep cfg sel) m) ∧
    (∀ k', (AL.get k' (order.foldl (mergeStep cfg sel) m).s.keydir).isSome = (AL.get k' m.s.keydir).isSome) ∧
    (∀ k', (k' ∈ order ∨ ∀ loc, AL.get k' m.s.keydir = some loc → loc.fid ∉ sel) →
      ∀ loc, AL.get k' (order.foldl (mergeStep cfg sel) m).s.keydir = some loc → loc.fid ∉ sel) ∧
    m.mid ≤ (order.foldl (mergeStep cfg sel) m).mid := by
  induction order with
  | nil => exact fun m h => ⟨h, fun _ => rfl, fun k' hk' => hk'.elim nofun id, Nat.le_refl _⟩
  | cons k ks ih =>
    intro m h
    obtain ⟨s1, s2, s3, s4, s5⟩ := mergeStep_spec cfg sel A abs0 hselA m k h
    obtain ⟨i1, i2, i3, i4⟩ := ih (mergeStep cfg sel m k) s1
    refine ⟨i1, fun k' => (i2 k').trans (s2 k'), fun k' hk' => i3 k' ?_, Nat.le_trans s5 i4⟩
    rcases hk' with hk' | hk'
    · rcases List.mem_cons.mp hk' with e | e
      · exact .inr (e ▸ s3)
      · exact .inl e
    · exact .inr (s4 k' hk')

structure UInv (sel : List Nat) (abs0 : Map) (mid : Nat) (s : St) : Prop where
  locs : ∀ k loc, AL.get k s.keydir = some loc → LocOk s.disk k loc
  unsel : ∀ k loc, AL.get k s.keydir = some loc → loc.fid ∉ sel
  ids : ∀ id, id ∈ AL.keys s.disk.data → id ≤ mid
  hids : ∀ id, id ∈ AL.keys s.disk.hint → id ≤ mid
  abs : s.abs = abs0

theorem unlinkOne_disk (st : St × List Call) (id : Nat) :
    (unlinkOne st id).1.disk =
      { data := AL.del id st.1.disk.data, hint := AL.del id st.1.disk.hint, tails := st.1.disk.tails } := by
  obtain ⟨s, c⟩ := st; rfl

theorem unlinkOne_keydir (st : St × List Call) (id : Nat) : (unlinkOne st id).1.keydir = st.1.keydir := by
  obtain ⟨s, c⟩ := st; rfl

theorem unlinkOne_spec (sel : List Nat) (abs0 : Map) (mid : Nat) (st : St × List Call) (id : Nat)
    (hid : id ∈ sel) (h : UInv sel abs0 mid st.1) : UInv sel abs0 mid (unlinkOne st id).1 := by
  -- no entry points into the removed file, so the record of every entry stays
  have hrec : ∀ k loc, AL.get k st.1.keydir = some loc → ∀ x,
      recAt (dataOf st.1.disk loc.fid) loc.pos = some x → (AL.get loc.fid st.1.disk.data).isSome →
      recAt (dataOf (unlinkOne st id).1.disk loc.fid) loc.pos = some x ∧
        (AL.get loc.fid (unlinkOne st id).1.disk.data).isSome := by
    intro k loc hk x h1 h5
    have hf : loc.fid ≠ id := fun e => h.unsel k loc hk (e ▸ hid)
    rw [unlinkOne_disk]
    unfold dataOf
    rw [AL.get_del_other hf]
    exact ⟨h1, h5⟩
  refine ⟨fun k loc hk => ?_, fun k loc hk => h.unsel k loc (unlinkOne_keydir st id ▸ hk), fun i hi => ?_,
    fun i hi => ?_, ?_⟩
  · rw [unlinkOne_keydir] at hk
    obtain ⟨x, h1, h2, h3, h4, h5⟩ := h.locs k loc hk
    obtain ⟨a, c⟩ := hrec k loc hk x h1 h5
    exact ⟨x, a, h2, h3, h4, c⟩
  · rw [unlinkOne_disk] at hi; exact h.ids i (AL.mem_keys_del.mp hi).2
  · rw [unlinkOne_disk] at hi; exact h.hids i (AL.mem_keys_del.mp hi).2
  · rw [← h.abs]
    funext k
    cases hg : AL.get k st.1.keydir with
    | none => rw [abs_none_of_none hg, abs_none_of_none (unlinkOne_keydir st id ▸ hg)]
    | some loc =>
      obtain ⟨x, h1, _, _, _, h5⟩ := h.locs k loc hg
      exact abs_stable hg (unlinkOne_keydir st id ▸ hg) (h.locs k loc hg)
        (fun r hr => (hrec k loc hg r hr h5).1) (hrec k loc hg x h1 h5).2

theorem unlinkFold_spec (sel : List Nat) (abs0 : Map) (mid : Nat) (l : List Nat) (hl : ∀ id, id ∈ l → id ∈ sel)
    (st : St × List Call) (h : UInv sel abs0 mid st.1) : UInv sel abs0 mid (l.foldl unlinkOne st).1 :=
  List.foldlRecOn l unlinkOne h fun st hst id hid => unlinkOne_spec sel abs0 mid st id (hl id hid) hst

/-- the unlink loop in closed form: it removes the counters, data files and hint files of `l` -/
theorem Stats.unlinkFold_fst (l : List Nat) : ∀ (st : St × List Call),
    (l.foldl unlinkOne st).1 =
      { st.1 with stats := Stats.delAll l st.1.stats,
                  disk := { data := Stats.delAll l st.1.disk.data, hint := Stats.delAll l st.1.disk.hint,
                            tails := st.1.disk.tails } } := by
  induction l with
  | nil => intro st; rfl
  | cons id ids ih => intro st; rw [List.foldl_cons, ih]; rfl

theorem unlinkFold_keydir (l : List Nat) (st : St × List Call) :
    (l.foldl unlinkOne st).1.keydir = st.1.keydir := by
  rw [Stats.unlinkFold_fst]

def Covers (order : List Key) (s : St) : Prop := ∀ k, k ∈ AL.keys s.keydir → k ∈ order

instance (order : List Key) (s : St) : Decidable (Covers order s) :=
  inferInstanceAs (Decidable (∀ k, k ∈ AL.keys s.keydir → k ∈ order))

def mergeStart (s : St) : MergeSt :=
  { s := { s with disk := rollDisk s.disk (s.active + 1) }, mid := s.active + 1, mpos := 0,
    calls := [Call.create ⟨.data, s.active + 1⟩, Call.create ⟨.hint, s.active + 1⟩] }

def mergeLoop (cfg : Cfg) (s : St) (sel : List Nat) (order : List Key) : MergeSt :=
  order.foldl (mergeStep cfg sel) (mergeStart s)

theorem mergeWith_fst (cfg : Cfg) (s : St) (sel : List Nat) (order : List Key) :
    (mergeWith cfg s sel order).1 =
      (newActive (sel.foldl unlinkOne ((mergeLoop cfg s sel order).s,
        (mergeLoop cfg s sel order).calls ++
          [Call.fsync ⟨.data, (mergeLoop cfg s sel order).mid⟩,
           Call.fsync ⟨.hint, (mergeLoop cfg s sel order).mid⟩])).1
        ((mergeLoop cfg s sel order).mid + 1)).1 := rfl

theorem mergeStart_minv {s : St} (h : Inv s) (c : List Call) :
    MInv s.active s.abs { s := { s with disk := rollDisk s.disk (s.active + 1) }, mid := s.active + 1,
                          mpos := 0, calls := c } :=
  minv_roll h.locs h.ids h.hids (Nat.le_refl _) rfl c

theorem mergeLoop_not_sel (cfg : Cfg) (s : St) (sel : List Nat) (order : List Key) (h : Inv s)
    (hsel : ∀ id, id ∈ sel → id ≤ s.active) (hcov : Covers order s) (k : Key) (loc : Loc)
    (hk : AL.get k (mergeLoop cfg s sel order).s.keydir = some loc) : loc.fid ∉ sel := by
  obtain ⟨_, f2, f3, _⟩ := mergeFold_spec cfg sel s.active s.abs hsel order _ (mergeStart_minv h _)
  refine f3 k (.inl (hcov k (mem_keys_of_isSome ?_))) loc hk
  exact ((f2 k).symm.trans (congrArg Option.isSome hk) : (AL.get k s.keydir).isSome = true)

theorem mergeWith_inv_abs (cfg : Cfg) (s : St) (sel : List Nat) (order : List Key) (h : Inv s)
    (hsel : ∀ id, id ∈ sel → id ≤ s.active) (hcov : Covers order s) :
    Inv (mergeWith cfg s sel order).1 ∧ (mergeWith cfg s sel order).1.abs = s.abs := by
  have f1 : MInv s.active s.abs (mergeLoop cfg s sel order) :=
    (mergeFold_spec cfg sel s.active s.abs hsel order _ (mergeStart_minv h _)).1
  have hU := unlinkFold_spec sel s.abs (mergeLoop cfg s sel order).mid sel (fun _ hi => hi)
    ((mergeLoop cfg s sel order).s, (mergeLoop cfg s sel order).calls ++
      [Call.fsync ⟨.data, (mergeLoop cfg s sel order).mid⟩, Call.fsync ⟨.hint, (mergeLoop cfg s sel order).mid⟩])
    ⟨f1.locs, mergeLoop_not_sel cfg s sel order h hsel hcov, f1.ids, f1.hids, f1.abs⟩
  rw [mergeWith_fst, ← hU.abs]
  exact newActive_inv hU.locs hU.ids hU.hids

end Store
