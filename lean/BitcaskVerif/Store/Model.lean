/-
  Executable model of the storage engine (`src/storage/bitcask.rs`, `bitcask/log.rs`):
  data and hint files as lists of records, the KeyDir, the per-file counters, the active id and
  the byte counter, with `put / delete / get / merge / rebuild / open` mirroring the Rust
  statement order, and every file-system effect emitted as a `Call`.

  Files are modelled at record granularity; their byte layout (bincode) is `Store/Codec.lean`.
  Positions and lengths are in bytes and computed from the record sizes, so the model's KeyDir
  and counters are directly comparable with the implementation's.

  Core Lean only (the driver links this file).
-/
import BitcaskVerif.Base.AL

namespace Store

abbrev Key := List UInt8
abbrev Val := List UInt8

/-- `DataFileEntry` -/
structure Rec where
  ts : Int
  key : Key
  val : Option Val
deriving DecidableEq, Repr

/-- serialized size of a data entry: i64 + (u64 + key) + option tag + (u64 + value) -/
def Rec.len (r : Rec) : Nat :=
  17 + r.key.length + (match r.val with | some v => 8 + v.length | none => 0)

/-- `HintFileEntry` -/
structure Hint where
  ts : Int
  len : Nat
  pos : Nat
  key : Key
deriving DecidableEq, Repr

def Hint.size (h : Hint) : Nat := 32 + h.key.length

/-- `KeyDirEntry` -/
structure Loc where
  fid : Nat
  pos : Nat
  len : Nat
  ts : Int
deriving DecidableEq, Repr

/-- `LogStatistics` -/
structure Stat where
  live : Nat := 0
  dead : Nat := 0
  deadBytes : Nat := 0
deriving DecidableEq, Repr

inductive Kind where | data | hint
deriving DecidableEq, Repr

structure FName where
  kind : Kind
  id : Nat
deriving DecidableEq, Repr

inductive Payload where
  | ofRec (r : Rec)
  | ofHint (h : Hint)
  /-- bytes that are not a whole entry (the cut-off tail a crash leaves behind) -/
  | raw (bs : List UInt8)
deriving DecidableEq, Repr

/-- one file-system effect -/
inductive Call where
  | create (f : FName)
  | append (f : FName) (p : Payload)
  | fsync (f : FName)
  | unlink (f : FName)
deriving DecidableEq, Repr

structure Cfg where
  maxFile : Nat := 2147483648
  syncAlways : Bool := false
  /-- merge thresholds; fragmentation as the rational `fragNum / fragDen` -/
  fragNum : Nat := 2
  fragDen : Nat := 5
  deadBytes : Nat := 134217728
  smallFile : Nat := 10485760
  /-- merge policy: `never`, or `always` (a `window` that contains the current hour behaves as
      `always`, one that does not as `never`; the clock is outside the model) -/
  policyAlways : Bool := false
  /-- merge triggers; fragmentation as the rational `trigFragNum / trigFragDen` -/
  trigFragNum : Nat := 3
  trigFragDen : Nat := 5
  trigDeadBytes : Nat := 536870912
deriving Repr

/-- the directory: data files and hint files -/
structure Disk where
  data : List (Nat × List Rec) := []
  hint : List (Nat × List Hint) := []
  /-- bytes of a data file after its last complete entry (left by a crash; invisible to every
      scan and read, but counted by `fs::metadata().len()`) -/
  tails : List (Nat × Nat) := []
deriving Repr

/-- in-memory state + directory -/
structure St where
  disk : Disk := {}
  keydir : List (Key × Loc) := []
  stats : List (Nat × Stat) := []
  active : Nat := 0
  written : Nat := 0
  /-- sticky: a counter underflowed or a KeyDir entry did not address a record (Rust would panic
      or read garbage); proved unreachable -/
  bad : Bool := false
deriving Repr

def fileSize (rs : List Rec) : Nat := (rs.map Rec.len).sum

def hintFileSize (hs : List Hint) : Nat := (hs.map Hint.size).sum

/-- the record that starts exactly at byte offset `p` -/
def recAt : List Rec → Nat → Option Rec
  | [], _ => none
  | r :: rs, p => if p = 0 then some r else if p < r.len then none else recAt rs (p - r.len)

/-! ### counters -/

def Stat.addLive (s : Stat) : Stat := { s with live := s.live + 1 }
def Stat.addDead (s : Stat) (n : Nat) : Stat := { s with dead := s.dead + 1, deadBytes := s.deadBytes + n }
def Stat.overwrite (s : Stat) (n : Nat) : Stat :=
  { live := s.live - 1, dead := s.dead + 1, deadBytes := s.deadBytes + n }

/-- `stats.entry(fid).or_default()` followed by `f` -/
def updStat (stats : List (Nat × Stat)) (fid : Nat) (f : Stat → Stat) : List (Nat × Stat) :=
  AL.set fid (f ((AL.get fid stats).getD {})) stats

/-- would `overwrite` underflow `live_keys`? -/
def overwriteUnderflows (stats : List (Nat × Stat)) (fid : Nat) : Bool :=
  ((AL.get fid stats).getD {}).live = 0

/-- account an overwritten / deleted previous entry -/
def accountPrev (s : St) (prev : Option Loc) : St :=
  match prev with
  | none => s
  | some p =>
    { s with bad := s.bad || overwriteUnderflows s.stats p.fid,
             stats := updStat s.stats p.fid (·.overwrite p.len) }

/-! ### writer -/

def dataOf (d : Disk) (fid : Nat) : List Rec := (AL.get fid d.data).getD []

/-- `new_active_datafile(fid)` -/
def newActive (s : St) (fid : Nat) : St × List Call :=
  ({ s with active := fid, written := 0,
            disk := { s.disk with data := AL.set fid [] s.disk.data } },
   [.create ⟨.data, fid⟩])

/-- `Writer::write`: append, [fsync], count bytes, count live/dead, roll over when the active
    file has grown beyond the limit. Returns the new KeyDir entry. -/
def write (cfg : Cfg) (s : St) (r : Rec) : St × Loc × List Call :=
  let recs := dataOf s.disk s.active
  let pos := fileSize recs
  let len := r.len
  let disk := { s.disk with data := AL.set s.active (recs ++ [r]) s.disk.data }
  let calls := [Call.append ⟨.data, s.active⟩ (.ofRec r)] ++
    (if cfg.syncAlways then [Call.fsync ⟨.data, s.active⟩] else [])
  let written := s.written + len
  let stats := updStat s.stats s.active
    (fun st => if r.val.isSome then st.addLive else st.addDead len)
  let loc : Loc := { fid := s.active, pos := pos, len := len, ts := r.ts }
  let s1 : St := { s with disk := disk, written := written, stats := stats }
  if written > cfg.maxFile then
    let (s2, c2) := newActive s1 (s.active + 1)
    (s2, loc, calls ++ c2)
  else (s1, loc, calls)

/-- `Writer::put` -/
def put (cfg : Cfg) (s : St) (ts : Int) (k : Key) (v : Val) : St × List Call :=
  let (s1, loc, calls) := write cfg s { ts := ts, key := k, val := some v }
  let prev := AL.get k s1.keydir
  let s2 := { s1 with keydir := AL.set k loc s1.keydir }
  (accountPrev s2 prev, calls)

/-- `Writer::delete`: returns whether the key was present -/
def delete (cfg : Cfg) (s : St) (ts : Int) (k : Key) : St × Bool × List Call :=
  let (s1, _, calls) := write cfg s { ts := ts, key := k, val := none }
  let prev := AL.get k s1.keydir
  let s2 := { s1 with keydir := AL.del k s1.keydir }
  (accountPrev s2 prev, prev.isSome, calls)

/-! ### reader -/

inductive GetRes where
  | value (v : Val)
  | absent
  | corrupt          -- the KeyDir entry does not address a value record with that key and length
deriving DecidableEq, Repr

/-- `Reader::get` -/
def get (s : St) (k : Key) : GetRes :=
  match AL.get k s.keydir with
  | none => .absent
  | some loc =>
    match recAt (dataOf s.disk loc.fid) loc.pos with
    | some r =>
      if r.len = loc.len ∧ (AL.get loc.fid s.disk.data).isSome then
        match r.val with
        | some v => .value v
        | none => .absent      -- would deserialize a tombstone: `value = None`
      else .corrupt
    | none => .corrupt

/-! ### merge -/

/-- `fragmentation() > threshold`, over the rationals -/
def fragGt (st : Stat) (num den : Nat) : Bool :=
  if st.dead = 0 then false else st.dead * den > num * (st.dead + st.live)

/-- `Context::fileids_to_merge`: ascending ids of the files the thresholds select -/
def selectFiles (cfg : Cfg) (s : St) : List Nat :=
  let ids := (s.stats.filter fun (fid, st) =>
    st.deadBytes > cfg.deadBytes || fragGt st cfg.fragNum cfg.fragDen ||
      fileSize (dataOf s.disk fid) + (AL.get fid s.disk.tails).getD 0 < cfg.smallFile).map (·.1)
  ids.mergeSort (· ≤ ·)

/-- `Context::can_merge`: does the background task start a merge now? -/
def canMerge (cfg : Cfg) (s : St) : Bool :=
  cfg.policyAlways &&
    s.stats.any fun (_, st) => st.deadBytes > cfg.trigDeadBytes || fragGt st cfg.trigFragNum cfg.trigFragDen

structure MergeSt where
  s : St
  mid : Nat            -- current merge output id
  mpos : Nat           -- bytes written to it
  calls : List Call

/-- one iteration of the merge loop for key `k` (skipped unless its entry is in a selected file) -/
def mergeStep (cfg : Cfg) (sel : List Nat) (m : MergeSt) (k : Key) : MergeSt :=
  match AL.get k m.s.keydir with
  | none => m
  | some loc =>
    if loc.fid ∈ sel then
      match recAt (dataOf m.s.disk loc.fid) loc.pos with
      | none => { m with s := { m.s with bad := true } }
      | some r =>
        let nbytes := loc.len
        let out := dataOf m.s.disk m.mid
        let newLoc : Loc := { fid := m.mid, pos := m.mpos, len := nbytes, ts := loc.ts }
        let h : Hint := { ts := loc.ts, len := nbytes, pos := m.mpos, key := k }
        let hs := (AL.get m.mid m.s.disk.hint).getD []
        let disk : Disk := { m.s.disk with data := AL.set m.mid (out ++ [r]) m.s.disk.data,
                                           hint := AL.set m.mid (hs ++ [h]) m.s.disk.hint }
        let s1 : St := { m.s with disk := disk, keydir := AL.set k newLoc m.s.keydir,
                                  stats := updStat m.s.stats m.mid (·.addLive),
                                  bad := m.s.bad || decide (r.len ≠ loc.len) }
        let calls := m.calls ++ [Call.append ⟨.data, m.mid⟩ (.ofRec r), Call.append ⟨.hint, m.mid⟩ (.ofHint h)]
        let mpos := m.mpos + nbytes
        if mpos > cfg.maxFile then
          let mid' := m.mid + 1
          { s := { s1 with disk := { s1.disk with data := AL.set mid' [] s1.disk.data, hint := AL.set mid' [] s1.disk.hint } },
            mid := mid', mpos := 0,
            calls := calls ++ [Call.fsync ⟨.data, m.mid⟩, Call.fsync ⟨.hint, m.mid⟩,
                               Call.create ⟨.data, mid'⟩, Call.create ⟨.hint, mid'⟩] }
        else { s := s1, mid := m.mid, mpos := mpos, calls := calls }
    else m

/-- remove one merged file: counters, hint file (if any), data file (if any) -/
def unlinkOne (m : St × List Call) (id : Nat) : St × List Call :=
  let (s, calls) := m
  let hadHint := (AL.get id s.disk.hint).isSome
  let hadData := (AL.get id s.disk.data).isSome
  ({ s with stats := AL.del id s.stats,
            disk := { s.disk with data := AL.del id s.disk.data, hint := AL.del id s.disk.hint } },
   calls ++ (if hadHint then [Call.unlink ⟨.hint, id⟩] else [])
         ++ (if hadData then [Call.unlink ⟨.data, id⟩] else []))

/-- `Writer::merge` with the selected files `sel` (ascending) and `order`, the sequence in which
    the KeyDir iterator yields its keys (any list covering the KeyDir; DashMap order is arbitrary) -/
def mergeWith (cfg : Cfg) (s : St) (sel : List Nat) (order : List Key) : St × List Call :=
  let mid0 := s.active + 1
  let s0 : St := { s with disk := { s.disk with data := AL.set mid0 [] s.disk.data, hint := AL.set mid0 [] s.disk.hint } }
  let m0 : MergeSt := { s := s0, mid := mid0, mpos := 0,
                        calls := [Call.create ⟨.data, mid0⟩, Call.create ⟨.hint, mid0⟩] }
  let m := order.foldl (mergeStep cfg sel) m0
  -- the outputs are forced to stable storage before the first input file is removed
  let synced := m.calls ++ [Call.fsync ⟨.data, m.mid⟩, Call.fsync ⟨.hint, m.mid⟩]
  let (s1, calls1) := sel.foldl unlinkOne (m.s, synced)
  let (s2, c2) := newActive s1 (m.mid + 1)
  (s2, calls1 ++ c2)

def merge (cfg : Cfg) (s : St) (order : List Key) : St × List Call :=
  mergeWith cfg s (selectFiles cfg s) order

/-! ### startup scan -/

structure Idx where
  keydir : List (Key × Loc) := []
  stats : List (Nat × Stat) := []
  bad : Bool := false

def Idx.account (ix : Idx) (prev : Option Loc) : Idx :=
  match prev with
  | none => ix
  | some p => { ix with bad := ix.bad || overwriteUnderflows ix.stats p.fid,
                        stats := updStat ix.stats p.fid (·.overwrite p.len) }

/-- `populate_keydir_with_hintfile`: entries are read until the first one that does not fit inside
    the data file (`dataLen` = its length in bytes) -/
def scanHints (fid : Nat) (ix : Idx) (hs : List Hint) (dataLen : Nat) : Idx :=
  (hs.takeWhile fun h => h.pos + h.len ≤ dataLen).foldl (fun ix h =>
    let loc : Loc := { fid := fid, pos := h.pos, len := h.len, ts := h.ts }
    let ix1 := { ix with stats := updStat ix.stats fid (·.addLive) }
    let prev := AL.get h.key ix1.keydir
    ({ ix1 with keydir := AL.set h.key loc ix1.keydir } : Idx).account prev) ix

/-- `populate_keydir_with_datafile`: the index after the records of one data file (the fold carries
    the running position along) -/
def scanData (fid : Nat) (ix : Idx) (rs : List Rec) : Idx :=
  (rs.foldl (fun (acc : Idx × Nat) r =>
    let (ix, pos) := acc
    let len := r.len
    match r.val with
    | none =>
      -- tombstone: count it dead and forget the key
      let ix1 := { ix with stats := updStat ix.stats fid (·.addDead len) }
      let prev := AL.get r.key ix1.keydir
      (({ ix1 with keydir := AL.del r.key ix1.keydir } : Idx).account prev, pos + len)
    | some _ =>
      let loc : Loc := { fid := fid, pos := pos, len := len, ts := r.ts }
      let ix1 := { ix with stats := updStat ix.stats fid (·.addLive) }
      let prev := AL.get r.key ix1.keydir
      (({ ix1 with keydir := AL.set r.key loc ix1.keydir } : Idx).account prev, pos + len)) (ix, 0)).1

/-- ascending ids of the data files (`utils::sorted_fileids`) -/
def sortedIds (d : Disk) : List Nat := ((AL.keys d.data).eraseDups).mergeSort (· ≤ ·)

/-- `rebuild_storage`: for every data file in ascending id order, read its hint file if there is
    one, its records otherwise -/
def rebuild (d : Disk) : Idx × Nat :=
  let ids := sortedIds d
  let ix := ids.foldl (fun ix fid =>
    match AL.get fid d.hint with
    | some hs => scanHints fid ix hs (fileSize (dataOf d fid) + (AL.get fid d.tails).getD 0)
    | none => scanData fid ix (dataOf d fid)) ({} : Idx)
  (ix, match ids.getLast? with | some m => m + 1 | none => 0)

/-- `Bitcask::open` on a directory -/
def openDisk (d : Disk) : St × List Call :=
  let (ix, act) := rebuild d
  ({ disk := { d with data := AL.set act [] d.data }, keydir := ix.keydir, stats := ix.stats,
     active := act, written := 0, bad := ix.bad },
   [.create ⟨.data, act⟩])

/-- drop the store and open its directory again -/
def reopen (s : St) : St × List Call := openDisk s.disk

end Store
