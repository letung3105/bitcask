/-
  Effect traces of runs of the store model (C14).

  `stepC` is one operation together with the file-system calls it issues, `traceOf` the
  concatenated call list of a run, `evsOf` the same trace with a `restart` marker in front of the
  calls of every reopen (so that "in the same life" can be expressed).  A monitor `Mon` runs over
  the annotated trace and checks id freshness and append ownership; the coupling invariant `Coup`
  between the store state and the monitor state is preserved by every operation.
-/
import BitcaskVerif.Props.C01
import BitcaskVerif.Store.TopId

namespace Store.Tr

/-- the operations of a run that may issue file-system calls, plus reads; `reopen` drops the
    store and opens its directory again -/
inductive TOp where
  | put (ts : Int) (k : Key) (v : Val)
  | del (ts : Int) (k : Key)
  | get (k : Key)
  | merge (sel : List Nat) (order : List Key)
  | reopen

/-- one operation: next state and the calls it issues -/
def stepC (cfg : Cfg) (s : St) : TOp → St × List Call
  | .put ts k v => put cfg s ts k v
  | .del ts k => ((delete cfg s ts k).1, (delete cfg s ts k).2.2)
  | .get _ => (s, [])
  | .merge sel order => mergeWith cfg s sel order
  | .reopen => reopen s

def runC (cfg : Cfg) : St → List TOp → St
  | s, [] => s
  | s, op :: ops => runC cfg (stepC cfg s op).1 ops

/-- the effect trace of a run -/
def traceOf (cfg : Cfg) : St → List TOp → List Call
  | _, [] => []
  | s, op :: ops => (stepC cfg s op).2 ++ traceOf cfg (stepC cfg s op).1 ops

/-- trace events: a call, or the boundary between two lives of the store (the process that
    created the files of the previous life is gone) -/
inductive TEv where
  | call (c : Call)
  | restart
deriving DecidableEq, Repr

def TOp.marker : TOp → List TEv
  | .reopen => [TEv.restart]
  | _ => []

/-- the effect trace with life boundaries -/
def evsOf (cfg : Cfg) : St → List TOp → List TEv
  | _, [] => []
  | s, op :: ops => op.marker ++ ((stepC cfg s op).2.map TEv.call ++ evsOf cfg (stepC cfg s op).1 ops)

def callsOf (evs : List TEv) : List Call :=
  evs.filterMap fun e => match e with | .call c => some c | .restart => none

/-- every merge selects files with ids up to the active id of that moment -/
def ValidC (cfg : Cfg) : St → List TOp → Prop
  | _, [] => True
  | s, op :: ops =>
    (match op with
     | .merge sel _ => ∀ id, id ∈ sel → id ≤ s.active
     | _ => True) ∧ ValidC cfg (stepC cfg s op).1 ops

/-- the C01 operations as trace operations (timestamp 0 as in `step`) -/
def TOp.ofOp : Op → TOp
  | .put k v => .put 0 k v
  | .del k => .del 0 k
  | .get k => .get k
  | .merge sel order => .merge sel order

theorem stepC_ofOp (cfg : Cfg) (s : St) (op : Op) : (stepC cfg s (.ofOp op)).1 = (step cfg s op).1 := by
  cases op <;> simp only [TOp.ofOp, stepC, step]

theorem callsOf_append (a b : List TEv) : callsOf (a ++ b) = callsOf a ++ callsOf b :=
  List.filterMap_append

theorem callsOf_map_call (cs : List Call) : callsOf (cs.map TEv.call) = cs := by
  simp only [callsOf, List.filterMap_map]
  exact List.filterMap_some

theorem callsOf_marker (op : TOp) : callsOf op.marker = [] := by
  cases op <;> rfl

theorem callsOf_evsOf (cfg : Cfg) (ops : List TOp) : ∀ s, callsOf (evsOf cfg s ops) = traceOf cfg s ops := by
  induction ops with
  | nil => intro s; rfl
  | cons op ops ih =>
    intro s
    simp only [evsOf, traceOf, callsOf_append, callsOf_marker, callsOf_map_call, ih, List.nil_append]

theorem mem_callsOf {c : Call} {evs : List TEv} : c ∈ callsOf evs ↔ TEv.call c ∈ evs := by
  simp only [callsOf, List.mem_filterMap]
  constructor
  · rintro ⟨e, he, h⟩
    cases e with
    | call d => cases h; exact he
    | restart => cases h
  · exact fun h => ⟨_, h, rfl⟩

/-- a call of the plain trace sits at a corresponding place of the annotated trace -/
theorem callsOf_split (evs : List TEv) (pre : List Call) (c : Call) (post : List Call)
    (h : callsOf evs = pre ++ c :: post) :
    ∃ pre' post', evs = pre' ++ TEv.call c :: post' ∧ callsOf pre' = pre ∧ callsOf post' = post := by
  obtain ⟨l₁, l₂, rfl, h₁, h₂⟩ := List.filterMap_eq_append_iff.mp h
  obtain ⟨m₁, e, m₂, rfl, hn, he, h₃⟩ := List.filterMap_eq_cons_iff.mp h₂
  cases e with
  | restart => cases he
  | call d =>
    cases he
    have hm : callsOf m₁ = [] := List.filterMap_eq_nil_iff.mpr hn
    refine ⟨l₁ ++ m₁, m₂, (List.append_assoc ..).symm, ?_, h₃⟩
    rw [callsOf_append, hm, List.append_nil]; exact h₁

/-- monitor state: `bound` is a strict upper bound of every id created so far (and, through the
    coupling invariant, of every id the directory has ever contained); `last` is the previous
    call of the same life; `created` / `unlinked` are the files created / removed in this life -/
structure Mon where
  bound : Nat := 0
  last : Option Call := none
  created : List FName := []
  unlinked : List FName := []
  okFresh : Bool := true
  okOwn : Bool := true
  /-- no file with the largest id used so far has been removed -/
  okTop : Bool := true
deriving Repr

/-- freshness test for a create: a data file needs an id at or above the bound; a hint file must
    directly follow the creation of the data file with the same id -/
def Mon.freshTest (m : Mon) (f : FName) : Bool :=
  match f.kind with
  | .data => decide (m.bound ≤ f.id)
  | .hint => decide (m.last = some (.create ⟨.data, f.id⟩))

def Mon.step (m : Mon) : TEv → Mon
  | .restart => { m with last := none, created := [], unlinked := [] }
  | .call (.create f) =>
    { m with bound := max m.bound (f.id + 1), last := some (.create f), created := f :: m.created,
             okFresh := m.okFresh && m.freshTest f }
  | .call (.append f p) =>
    { m with last := some (.append f p),
             okOwn := m.okOwn && (decide (f ∈ m.created) && decide (f ∉ m.unlinked)) }
  | .call (.fsync f) => { m with last := some (.fsync f) }
  | .call (.unlink f) =>
    { m with last := some (.unlink f), unlinked := f :: m.unlinked,
             okTop := m.okTop && decide (f.id + 1 < m.bound) }

def Mon.run (m : Mon) (evs : List TEv) : Mon := evs.foldl Mon.step m

/-- the monitor after the calls `cs` of one life -/
def Mon.calls (m : Mon) (cs : List Call) : Mon := m.run (cs.map TEv.call)

theorem Mon.run_append (m : Mon) (a b : List TEv) : m.run (a ++ b) = (m.run a).run b :=
  List.foldl_append

theorem Mon.run_nil (m : Mon) : m.run [] = m := rfl
theorem Mon.run_cons (m : Mon) (e : TEv) (es : List TEv) : m.run (e :: es) = (m.step e).run es := rfl

theorem Mon.calls_append (m : Mon) (a b : List Call) : m.calls (a ++ b) = (m.calls a).calls b := by
  simp only [Mon.calls, List.map_append, Mon.run_append]

theorem Mon.calls_nil (m : Mon) : m.calls [] = m := rfl
theorem Mon.calls_cons (m : Mon) (c : Call) (cs : List Call) :
    m.calls (c :: cs) = (m.step (.call c)).calls cs := rfl

/-- the part of the store invariant that concerns file ids: nothing above the active id, the
    active file exists (so the largest id ever used is on disk), every hint file has its data
    file, crash tails only below the active file -/
structure IdInv (s : St) : Prop where
  ids : ∀ id, id ∈ AL.keys s.disk.data → id ≤ s.active
  hsub : ∀ id, id ∈ AL.keys s.disk.hint → id ∈ AL.keys s.disk.data
  act : (AL.get s.active s.disk.data).isSome
  tails : ∀ id, id ∈ AL.keys s.disk.tails → id < s.active
  /-- the active file has no hint file (hint files belong to merge outputs only) -/
  hlt : ∀ id, id ∈ AL.keys s.disk.hint → id < s.active

/-- what the monitor knows when the active id is `a` -/
structure MonOk (a : Nat) (m : Mon) : Prop where
  bound : m.bound = a + 1
  own : (⟨.data, a⟩ : FName) ∈ m.created
  unl : ∀ f, f ∈ m.unlinked → f.id < a
  okF : m.okFresh = true
  okO : m.okOwn = true
  okT : m.okTop = true

structure Coup (s : St) (m : Mon) : Prop where
  inv : IdInv s
  mon : MonOk s.active m

theorem IdInv.congr {s s' : St} (hd : s'.disk = s.disk) (ha : s'.active = s.active) (h : IdInv s) : IdInv s' := by
  constructor
  · rw [hd, ha]; exact h.ids
  · rw [hd]; exact h.hsub
  · rw [hd, ha]; exact h.act
  · rw [hd, ha]; exact h.tails
  · rw [hd, ha]; exact h.hlt

theorem Coup.congr {s s' : St} {m : Mon} (hd : s'.disk = s.disk) (ha : s'.active = s.active) (h : Coup s m) :
    Coup s' m := ⟨h.inv.congr hd ha, by rw [ha]; exact h.mon⟩

theorem IdInv.top {s : St} (h : IdInv s) : TopId s.disk.data s.active := ⟨h.ids, h.act⟩

/-- an append to a file created and not removed in this life is accepted -/
theorem Mon.okOwn_append {m : Mon} {f : FName} (p : Payload) (hO : m.okOwn = true) (hc : f ∈ m.created)
    (hu : f ∉ m.unlinked) : (m.step (.call (.append f p))).okOwn = true := by
  simp [Mon.step, hO, hc, hu]

theorem MonOk.append {a : Nat} {m : Mon} (h : MonOk a m) (p : Payload) :
    MonOk a (m.step (.call (.append ⟨.data, a⟩ p))) :=
  ⟨h.bound, h.own, h.unl, h.okF, Mon.okOwn_append p h.okO h.own fun hc => Nat.lt_irrefl _ (h.unl _ hc), h.okT⟩

theorem MonOk.fsync {a : Nat} {m : Mon} (h : MonOk a m) (f : FName) :
    MonOk a (m.step (.call (.fsync f))) := ⟨h.bound, h.own, h.unl, h.okF, h.okO, h.okT⟩

/-- a data file created at or above the bound is accepted -/
theorem Mon.okFresh_create_data {m : Mon} {b : Nat} (hF : m.okFresh = true) (hb : m.bound ≤ b) :
    (m.step (.call (.create ⟨.data, b⟩))).okFresh = true := by
  simp only [Mon.step, Mon.freshTest, hF, hb, decide_true, Bool.and_self]

/-- a hint file created right after its data file is accepted -/
theorem Mon.okFresh_create_hint {m : Mon} {b : Nat} (hF : m.okFresh = true)
    (hl : m.last = some (.create ⟨.data, b⟩)) : (m.step (.call (.create ⟨.hint, b⟩))).okFresh = true := by
  simp only [Mon.step, Mon.freshTest, hF, hl, decide_true, Bool.and_self]

/-- the creation of data file `b`, at or above the bound and above everything removed so far,
    makes `b` the active id the monitor knows -/
theorem MonOk.of_create {m : Mon} {b : Nat} (hb : m.bound ≤ b) (unl : ∀ f, f ∈ m.unlinked → f.id < b)
    (okF : m.okFresh = true) (okO : m.okOwn = true) (okT : m.okTop = true) :
    MonOk b (m.step (.call (.create ⟨.data, b⟩))) :=
  ⟨Nat.max_eq_right (Nat.le_succ_of_le hb), List.mem_cons_self, unl, Mon.okFresh_create_data okF hb, okO, okT⟩

theorem MonOk.create_data {a b : Nat} {m : Mon} (h : MonOk a m) (hab : a < b) :
    MonOk b (m.step (.call (.create ⟨.data, b⟩))) :=
  .of_create (by rw [h.bound]; exact hab) (fun f hf => Nat.lt_trans (h.unl f hf) hab) h.okF h.okO h.okT

theorem write_idinv (cfg : Cfg) (s : St) (r : Rec) (h : IdInv s) : IdInv (write cfg s r).1 := by
  have t := h.top.set (Nat.le_refl _) (dataOf s.disk s.active ++ [r])
  by_cases hroll : s.written + r.len > cfg.maxFile
  · rw [write_roll cfg s r hroll]
    have t' := t.push (Nat.le_succ _) []
    exact ⟨t'.le, hsub_setData (hsub_setData h.hsub _ _) _ _, t'.ex,
      fun id hid => Nat.lt_succ_of_lt (h.tails id hid), fun id hid => Nat.lt_succ_of_lt (h.hlt id hid)⟩
  · rw [write_noroll cfg s r hroll]
    exact ⟨t.le, hsub_setData h.hsub _ _, t.ex, h.tails, h.hlt⟩

theorem write_calls (cfg : Cfg) (s : St) (r : Rec) :
    (write cfg s r).2.2 = [Call.append ⟨.data, s.active⟩ (.ofRec r)] ++
      (if cfg.syncAlways then [Call.fsync ⟨.data, s.active⟩] else []) ++
      (if s.written + r.len > cfg.maxFile then [Call.create ⟨.data, s.active + 1⟩] else []) := by
  by_cases hroll : s.written + r.len > cfg.maxFile
  · rw [write_roll cfg s r hroll, if_pos hroll]
  · rw [write_noroll cfg s r hroll, if_neg hroll, List.append_nil]

theorem write_monOk (cfg : Cfg) (s : St) (r : Rec) (m : Mon) (h : MonOk s.active m) :
    MonOk (write cfg s r).1.active (m.calls (write cfg s r).2.2) := by
  have h2 : MonOk s.active (m.calls ([Call.append ⟨.data, s.active⟩ (.ofRec r)] ++
      (if cfg.syncAlways then [Call.fsync ⟨.data, s.active⟩] else []))) := by
    rw [Mon.calls_append]
    cases cfg.syncAlways
    · exact h.append _
    · exact (h.append _).fsync _
  by_cases hroll : s.written + r.len > cfg.maxFile
  · rw [write_roll cfg s r hroll, Mon.calls_append]
    exact h2.create_data (Nat.lt_succ_self _)
  · rw [write_noroll cfg s r hroll]
    exact h2

theorem write_coup (cfg : Cfg) (s : St) (r : Rec) (m : Mon) (h : Coup s m) :
    Coup (write cfg s r).1 (m.calls (write cfg s r).2.2) :=
  ⟨write_idinv cfg s r h.inv, write_monOk cfg s r m h.mon⟩

/-! `put` and `delete` are `write` followed by changes of the index and the counters only. -/

theorem put_calls (cfg : Cfg) (s : St) (ts : Int) (k : Key) (v : Val) :
    (put cfg s ts k v).2 = (write cfg s { ts := ts, key := k, val := some v }).2.2 := by
  unfold put; simp only

theorem delete_calls (cfg : Cfg) (s : St) (ts : Int) (k : Key) :
    (delete cfg s ts k).2.2 = (write cfg s { ts := ts, key := k, val := none }).2.2 := by
  unfold delete; simp only

end Store.Tr
