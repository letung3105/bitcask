/-
  Crash cuts at record level (C03).

  `applyCalls d cs` is the directory after the file-system calls `cs` have been applied to `d`;
  `Cut cs c` says that `c` is what a process killed while issuing `cs` has really done: a prefix
  of `cs`, the last append of which may have been torn (replaced by `Payload.raw bs` with fewer
  bytes than the entry).  The frame lemmas show that the calls an operation returns are exactly
  its effect on the directory, so cuts of the call list are cuts of the real effect sequence.

  This file: definitions, the structure of cuts, the frame lemmas for `write`, `reopen` and
  `mergeWith` (those of `put`, `delete` and `openDisk` follow in `Props/C03.lean`), the shape of the call list
  of a merge pass.
-/
import BitcaskVerif.Store.Reach
import BitcaskVerif.Store.TraceMerge

namespace Store

/-- number of bytes of a payload -/
def payLen : Payload → Nat
  | .ofRec r => r.len
  | .ofHint h => h.size
  | .raw bs => bs.length

/-- one call applied to the directory.  A torn write (`Payload.raw`) at the end of a data file
    only lengthens the invisible tail of that file; at the end of a hint file it is not recorded
    at all (the hint scanner stops silently at a truncated entry, `scanHintsBytes_file`, and
    nothing else looks at the length of a hint file). -/
def applyCall (d : Disk) : Call → Disk
  | .create f =>
    match f.kind with
    | .data => { d with data := AL.set f.id [] d.data }
    | .hint => { d with hint := AL.set f.id [] d.hint }
  | .append f p =>
    match f.kind, p with
    | .data, .ofRec r => { d with data := AL.set f.id (dataOf d f.id ++ [r]) d.data }
    | .hint, .ofHint h => { d with hint := AL.set f.id ((AL.get f.id d.hint).getD [] ++ [h]) d.hint }
    | .data, .raw bs => { d with tails := AL.set f.id ((AL.get f.id d.tails).getD 0 + bs.length) d.tails }
    | _, _ => d
  | .fsync _ => d
  | .unlink f =>
    match f.kind with
    | .data => { d with data := AL.del f.id d.data }
    | .hint => { d with hint := AL.del f.id d.hint }

def applyCalls (d : Disk) (cs : List Call) : Disk := cs.foldl applyCall d

@[simp] theorem applyCalls_nil (d : Disk) : applyCalls d [] = d := rfl
@[simp] theorem applyCalls_cons (d : Disk) (c : Call) (cs : List Call) :
    applyCalls d (c :: cs) = applyCalls (applyCall d c) cs := rfl
theorem applyCalls_append (d : Disk) (a b : List Call) :
    applyCalls d (a ++ b) = applyCalls (applyCalls d a) b := List.foldl_append

@[simp] theorem applyCall_createData (d : Disk) (id : Nat) :
    applyCall d (.create ⟨.data, id⟩) = { d with data := AL.set id [] d.data } := rfl
@[simp] theorem applyCall_createHint (d : Disk) (id : Nat) :
    applyCall d (.create ⟨.hint, id⟩) = { d with hint := AL.set id [] d.hint } := rfl
@[simp] theorem applyCall_appendRec (d : Disk) (id : Nat) (r : Rec) :
    applyCall d (.append ⟨.data, id⟩ (.ofRec r)) =
      { d with data := AL.set id (dataOf d id ++ [r]) d.data } := rfl
@[simp] theorem applyCall_appendHint (d : Disk) (id : Nat) (h : Hint) :
    applyCall d (.append ⟨.hint, id⟩ (.ofHint h)) =
      { d with hint := AL.set id ((AL.get id d.hint).getD [] ++ [h]) d.hint } := rfl
@[simp] theorem applyCall_rawData (d : Disk) (id : Nat) (bs : List UInt8) :
    applyCall d (.append ⟨.data, id⟩ (.raw bs)) =
      { d with tails := AL.set id ((AL.get id d.tails).getD 0 + bs.length) d.tails } := rfl
@[simp] theorem applyCall_rawHint (d : Disk) (id : Nat) (bs : List UInt8) :
    applyCall d (.append ⟨.hint, id⟩ (.raw bs)) = d := rfl
@[simp] theorem applyCall_fsync (d : Disk) (f : FName) : applyCall d (.fsync f) = d := rfl
@[simp] theorem applyCall_unlinkData (d : Disk) (id : Nat) :
    applyCall d (.unlink ⟨.data, id⟩) = { d with data := AL.del id d.data } := rfl
@[simp] theorem applyCall_unlinkHint (d : Disk) (id : Nat) :
    applyCall d (.unlink ⟨.hint, id⟩) = { d with hint := AL.del id d.hint } := rfl

/-- `Cut cs c`: a process killed while issuing the calls `cs` has performed `c` — a prefix of
    `cs`, or a prefix followed by a torn version of the next call if that is an append: fewer
    bytes than the entry has (possibly none) reached the file. -/
def Cut (cs c : List Call) : Prop :=
  (∃ post, cs = c ++ post) ∨
  (∃ pre f p post bs, cs = pre ++ Call.append f p :: post ∧ bs.length < payLen p ∧
    c = pre ++ [Call.append f (.raw bs)])

theorem Cut.boundary {cs : List Call} (pre post : List Call) (e : cs = pre ++ post) : Cut cs pre :=
  .inl ⟨post, e⟩

theorem Cut.torn {cs : List Call} (pre : List Call) (f : FName) (p : Payload) (post : List Call)
    (bs : List UInt8) (e : cs = pre ++ Call.append f p :: post) (hb : bs.length < payLen p) :
    Cut cs (pre ++ [Call.append f (.raw bs)]) :=
  .inr ⟨pre, f, p, post, bs, e, hb, rfl⟩

theorem Cut.nil (cs : List Call) : Cut cs [] := .boundary [] cs rfl
theorem Cut.all (cs : List Call) : Cut cs cs := .boundary cs [] (by simp)

theorem cut_nil {c : List Call} (h : Cut [] c) : c = [] := by
  rcases h with ⟨post, e⟩ | ⟨pre, f, p, post, bs, e, _, _⟩
  · exact (List.append_eq_nil_iff.mp e.symm).1
  · cases pre <;> cases e

/-- a torn version of the call `x`, if it is an append -/
def TornOf (x : Call) (y : Call) : Prop :=
  ∃ f p bs, x = Call.append f p ∧ bs.length < payLen p ∧ y = Call.append f (.raw bs)

theorem cut_cons {x : Call} {cs c : List Call} (h : Cut (x :: cs) c) :
    c = [] ∨ (∃ y, TornOf x y ∧ c = [y]) ∨ ∃ c', c = x :: c' ∧ Cut cs c' := by
  rcases h with ⟨post, e⟩ | ⟨pre, f, p, post, bs, e, hb, rfl⟩
  · rcases List.cons_eq_append_iff.mp e with ⟨rfl, _⟩ | ⟨c', rfl, e'⟩
    · exact .inl rfl
    · exact .inr (.inr ⟨c', rfl, .boundary c' post e'⟩)
  · rcases List.cons_eq_append_iff.mp e with ⟨rfl, e'⟩ | ⟨pre', rfl, e'⟩
    · injection e' with e'
      exact .inr (.inl ⟨_, ⟨f, p, bs, e'.symm, hb, rfl⟩, rfl⟩)
    · exact .inr (.inr ⟨_, rfl, .torn pre' f p post bs e' hb⟩)

theorem Cut.cons (x : Call) {cs c : List Call} (h : Cut cs c) : Cut (x :: cs) (x :: c) := by
  rcases h with ⟨post, e⟩ | ⟨pre, f, p, post, bs, e, hb, rfl⟩
  · exact .boundary (x :: c) post (by rw [e]; rfl)
  · exact .torn (x :: pre) f p post bs (by rw [e]; rfl) hb

/-- a cut of `a ++ b` is a cut of `a`, or all of `a` followed by a cut of `b` -/
theorem cut_append {a b c : List Call} (h : Cut (a ++ b) c) :
    Cut a c ∨ ∃ c', c = a ++ c' ∧ Cut b c' := by
  induction a generalizing c with
  | nil => exact .inr ⟨c, rfl, h⟩
  | cons x a ih =>
    rcases cut_cons h with rfl | ⟨y, ⟨f, p, bs, hx, hb, rfl⟩, rfl⟩ | ⟨c', rfl, hc'⟩
    · exact .inl (Cut.nil _)
    · exact .inl (.torn [] f p a bs (by rw [hx]; rfl) hb)
    · rcases ih hc' with h1 | ⟨c'', rfl, h2⟩
      · exact .inl (h1.cons x)
      · exact .inr ⟨c'', rfl, h2⟩

theorem Cut.append_left {a c : List Call} (h : Cut a c) (b : List Call) : Cut (a ++ b) c := by
  rcases h with ⟨post, e⟩ | ⟨pre, f, p, post, bs, e, hb, rfl⟩
  · exact .boundary c (post ++ b) (by rw [e, List.append_assoc])
  · exact .torn pre f p (post ++ b) bs (by rw [e, List.append_assoc, List.cons_append]) hb

theorem Cut.append_right (a : List Call) {b c : List Call} (h : Cut b c) : Cut (a ++ b) (a ++ c) := by
  induction a with
  | nil => exact h
  | cons x a ih => exact ih.cons x

/-- a call that is not an append cannot be torn -/
theorem cut_single_noappend {x : Call} (hx : ∀ f p, x ≠ Call.append f p) {c : List Call}
    (h : Cut [x] c) : c = [] ∨ c = [x] := by
  rcases cut_cons h with rfl | ⟨y, ⟨f, p, bs, e, _, _⟩, _⟩ | ⟨c', rfl, hc'⟩
  · exact .inl rfl
  · exact absurd e (hx f p)
  · rw [cut_nil hc']; exact .inr rfl

/-- a cut of a call that is issued only under a condition and cannot be torn -/
theorem cut_if_single {x : Call} (hx : ∀ f p, x ≠ Call.append f p) {b : Prop} [Decidable b] {c : List Call}
    (h : Cut (if b then [x] else []) c) : c = [] ∨ (b ∧ c = [x]) := by
  by_cases hb : b
  · rw [if_pos hb] at h
    exact (cut_single_noappend hx h).imp id (fun e => ⟨hb, e⟩)
  · rw [if_neg hb] at h
    exact .inl (cut_nil h)

/-- cuts of a list without appends are its prefixes -/
theorem cut_noappend {cs : List Call} (hx : ∀ x ∈ cs, ∀ f p, x ≠ Call.append f p) {c : List Call}
    (h : Cut cs c) : ∃ post, cs = c ++ post := by
  rcases h with ⟨post, e⟩ | ⟨pre, f, p, post, bs, e, _, _⟩
  · exact ⟨post, e⟩
  · exact absurd rfl (hx (Call.append f p) (by rw [e]; simp) f p)

def Call.isAppend : Call → Bool
  | .append _ _ => true
  | _ => false

/-- "no append among these calls", for a list that is written out, by evaluation -/
theorem noAppend_of {cs : List Call} (h : cs.all (fun c => !c.isAppend) = true) :
    ∀ c ∈ cs, ∀ f p, c ≠ Call.append f p := by
  intro c hc f p e
  subst e
  cases List.all_eq_true.mp h _ hc

theorem cut_noappend_list {cs c : List Call} (hx : cs.all (fun x => !x.isAppend) = true) (h : Cut cs c) :
    ∃ post, cs = c ++ post :=
  cut_noappend (noAppend_of hx) h

/-- a cut of a single append: nothing, fewer bytes than the entry has, or the entry -/
theorem cut_single_append {f : FName} {p : Payload} {c : List Call} (h : Cut [Call.append f p] c) :
    c = [] ∨ (∃ bs, c = [Call.append f (.raw bs)]) ∨ c = [Call.append f p] := by
  rcases cut_cons h with rfl | ⟨y, ⟨f', p', bs, e, _, rfl⟩, rfl⟩ | ⟨c', rfl, h'⟩
  · exact .inl rfl
  · injection e with e
    exact .inr (.inl ⟨bs, e ▸ rfl⟩)
  · rw [cut_nil h']; exact .inr (.inr rfl)

theorem cut_two_appends {f g : FName} {p q : Payload} {c : List Call}
    (h : Cut [Call.append f p, Call.append g q] c) :
    c = [] ∨ (∃ bs, c = [Call.append f (.raw bs)]) ∨ c = [Call.append f p] ∨
    (∃ bs, c = [Call.append f p, Call.append g (.raw bs)]) ∨ c = [Call.append f p, Call.append g q] := by
  rcases cut_append (a := [Call.append f p]) h with h1 | ⟨c', rfl, h2⟩
  · rcases cut_single_append h1 with e | e | e
    · exact .inl e
    · exact .inr (.inl e)
    · exact .inr (.inr (.inl e))
  · rcases cut_single_append h2 with rfl | ⟨bs, rfl⟩ | rfl
    · exact .inr (.inr (.inl rfl))
    · exact .inr (.inr (.inr (.inl ⟨bs, rfl⟩)))
    · exact .inr (.inr (.inr (.inr rfl)))

/-! ### prefixes of short lists (the cuts of calls that are not appends, `cut_noappend`) -/

theorem prefix_cases1 {α : Type} {a : α} {x post : List α} (h : [a] = x ++ post) : x = [] ∨ x = [a] := by
  rcases List.cons_eq_append_iff.mp h with ⟨rfl, _⟩ | ⟨x', rfl, h'⟩
  · exact .inl rfl
  · rw [(List.append_eq_nil_iff.mp h'.symm).1]; exact .inr rfl

theorem prefix_cases2 {α : Type} {a b : α} {x post : List α} (h : [a, b] = x ++ post) :
    x = [] ∨ x = [a] ∨ x = [a, b] := by
  rcases List.cons_eq_append_iff.mp h with ⟨rfl, _⟩ | ⟨x', rfl, h'⟩
  · exact .inl rfl
  · exact .inr ((prefix_cases1 h').imp (congrArg _) (congrArg _))

theorem prefix_cases4 {α : Type} {a b c d : α} {x post : List α} (h : [a, b, c, d] = x ++ post) :
    x = [] ∨ x = [a] ∨ x = [a, b] ∨ x = [a, b, c] ∨ x = [a, b, c, d] := by
  rcases List.cons_eq_append_iff.mp h with ⟨rfl, _⟩ | ⟨x', rfl, h'⟩
  · exact .inl rfl
  · rcases List.cons_eq_append_iff.mp h' with ⟨rfl, _⟩ | ⟨x'', rfl, h''⟩
    · exact .inr (.inl rfl)
    · exact .inr (.inr ((prefix_cases2 h'').imp (congrArg (a :: b :: ·))
        (Or.imp (congrArg (a :: b :: ·)) (congrArg (a :: b :: ·)))))

/-- a property that every step of a fold preserves holds at its end -/
theorem foldl_inv {α β : Type} {P : β → Prop} {f : β → α → β} (hf : ∀ b a, P b → P (f b a)) :
    ∀ (l : List α) {b : β}, P b → P (l.foldl f b)
  | [], _, h => h
  | a :: l, _, h => foldl_inv hf l (hf _ a h)

/-- a cut of the calls a fold has issued is a cut of the calls issued before it started, or
    falls into one of its steps -/
theorem foldl_cut {σ α : Type} {calls : σ → List Call} {f : σ → α → σ} {Q : List Call → Prop}
    (l : List α) (st0 : σ)
    (hstep : ∀ done a rest, done ++ a :: rest = l → ∀ c, Cut (calls (f (done.foldl f st0) a)) c →
      Cut (calls (done.foldl f st0)) c ∨ Q c)
    {c : List Call} (hc : Cut (calls (l.foldl f st0)) c) : Cut (calls st0) c ∨ Q c := by
  have key : ∀ rest done, done ++ rest = l → Cut (calls (rest.foldl f (done.foldl f st0))) c →
      Cut (calls (done.foldl f st0)) c ∨ Q c := by
    intro rest
    induction rest with
    | nil => intro done _ hc; exact .inl hc
    | cons a rest ih =>
      intro done hl hc
      have hstep' : f (done.foldl f st0) a = (done ++ [a]).foldl f st0 := by
        rw [List.foldl_append]; rfl
      rw [List.foldl_cons, hstep'] at hc
      rcases ih (done ++ [a]) (by rw [List.append_assoc]; exact hl) hc with h1 | h1
      · rw [← hstep'] at h1; exact hstep done a rest hl c h1
      · exact .inr h1
  exact key l [] rfl hc

theorem write_frame (cfg : Cfg) (s : St) (r : Rec) :
    applyCalls s.disk (write cfg s r).2.2 = (write cfg s r).1.disk := by
  by_cases hroll : s.written + r.len > cfg.maxFile
  · rw [write_roll cfg s r hroll]
    cases cfg.syncAlways <;> rfl
  · rw [write_noroll cfg s r hroll]
    cases cfg.syncAlways <;> rfl

theorem reopen_frame (s : St) : applyCalls s.disk (reopen s).2 = (reopen s).1.disk := rfl

theorem del_of_get_none {κ β : Type} [DecidableEq κ] {k : κ} {l : List (κ × β)} (h : AL.get k l = none) :
    AL.del k l = l := by
  induction l with
  | nil => rfl
  | cons x xs ih =>
    obtain ⟨k', v'⟩ := x
    by_cases e : k' = k
    · simp [AL.get, e] at h
    · simp only [AL.get, e, ↓reduceIte] at h
      simp only [AL.del, e, ↓reduceIte, ih h]

theorem move_frame (m : MergeSt) (k : Key) (loc : Loc) (r : Rec) :
    applyCalls m.s.disk [Call.append ⟨.data, m.mid⟩ (.ofRec r),
      Call.append ⟨.hint, m.mid⟩ (.ofHint { ts := loc.ts, len := loc.len, pos := m.mpos, key := k })] =
      moveDisk m k loc r := rfl

theorem roll_frame (d : Disk) (mid' : Nat) :
    applyCalls d [Call.create ⟨.data, mid'⟩, Call.create ⟨.hint, mid'⟩] = rollDisk d mid' := rfl

open Tr in
theorem mergeStep_frame (cfg : Cfg) (sel : List Nat) (d0 : Disk) (m : MergeSt) (k : Key)
    (h : applyCalls d0 m.calls = m.s.disk) :
    applyCalls d0 (mergeStep cfg sel m k).calls = (mergeStep cfg sel m k).s.disk := by
  apply mergeStep_ind (fun m' => applyCalls d0 m'.calls = m'.s.disk) cfg sel m k
  · exact h
  · exact h
  · intro loc r _ _ _
    simp only [moveNoRoll, moveCalls, moveSt]
    rw [applyCalls_append, h, move_frame]
  · intro loc r _ _ _
    simp only [moveRoll, moveCalls, moveSt]
    rw [applyCalls_append, applyCalls_append, h, move_frame]
    -- the two `fsync`s leave the directory as it is
    exact roll_frame (moveDisk m k loc r) (m.mid + 1)

theorem mergeStart_frame (s : St) : applyCalls s.disk (mergeStart s).calls = (mergeStart s).s.disk := rfl

theorem mergeLoop_frame (cfg : Cfg) (s : St) (sel : List Nat) (order : List Key) :
    applyCalls s.disk (mergeLoop cfg s sel order).calls = (mergeLoop cfg s sel order).s.disk :=
  foldl_inv (fun m k => mergeStep_frame cfg sel s.disk m k) order (mergeStart_frame s)

/-- the calls one `unlinkOne` adds -/
def unlinkCalls (d : Disk) (id : Nat) : List Call :=
  (if (AL.get id d.hint).isSome then [Call.unlink ⟨.hint, id⟩] else []) ++
  (if (AL.get id d.data).isSome then [Call.unlink ⟨.data, id⟩] else [])

theorem unlinkOne_calls (st : St × List Call) (id : Nat) :
    (unlinkOne st id).2 = st.2 ++ unlinkCalls st.1.disk id := by
  obtain ⟨s, c⟩ := st
  exact List.append_assoc _ _ _

/-- an unlink that is issued only if the file exists removes the file in either case -/
theorem applyCalls_unlinkHint_if (d : Disk) (id : Nat) :
    applyCalls d (if (AL.get id d.hint).isSome then [Call.unlink ⟨.hint, id⟩] else []) =
      { d with hint := AL.del id d.hint } := by
  cases h : AL.get id d.hint with
  | none => rw [del_of_get_none h]; rfl
  | some hs => rfl

theorem applyCalls_unlinkData_if (d : Disk) (id : Nat) :
    applyCalls d (if (AL.get id d.data).isSome then [Call.unlink ⟨.data, id⟩] else []) =
      { d with data := AL.del id d.data } := by
  cases h : AL.get id d.data with
  | none => rw [del_of_get_none h]; rfl
  | some rs => rfl

theorem unlinkCalls_frame (d : Disk) (id : Nat) :
    applyCalls d (unlinkCalls d id) =
      { data := AL.del id d.data, hint := AL.del id d.hint, tails := d.tails } := by
  rw [unlinkCalls, applyCalls_append, applyCalls_unlinkHint_if]
  exact applyCalls_unlinkData_if { d with hint := AL.del id d.hint } id

theorem unlinkOne_frame (d0 : Disk) (st : St × List Call) (id : Nat) (h : applyCalls d0 st.2 = st.1.disk) :
    applyCalls d0 (unlinkOne st id).2 = (unlinkOne st id).1.disk := by
  rw [unlinkOne_calls, applyCalls_append, h, unlinkCalls_frame, unlinkOne_disk]

theorem unlinkFold_frame (d0 : Disk) (l : List Nat) : ∀ (st : St × List Call),
    applyCalls d0 st.2 = st.1.disk → applyCalls d0 (l.foldl unlinkOne st).2 = (l.foldl unlinkOne st).1.disk :=
  fun _ h => foldl_inv (fun st id => unlinkOne_frame d0 st id) l h

/-- the calls that remove one file are unlinks of its hint file and its data file -/
theorem mem_unlinkCalls {d : Disk} {id : Nat} {x : Call} (hx : x ∈ unlinkCalls d id) :
    ∃ kd, x = Call.unlink ⟨kd, id⟩ := by
  unfold unlinkCalls at hx
  rcases List.mem_append.mp hx with hx | hx <;> split at hx
  · exact ⟨.hint, List.mem_singleton.mp hx⟩
  · cases hx
  · exact ⟨.data, List.mem_singleton.mp hx⟩
  · cases hx

theorem unlinkFold_calls (l : List Nat) : ∀ (st : St × List Call),
    ∃ post, (l.foldl unlinkOne st).2 = st.2 ++ post ∧ ∀ x ∈ post, ∃ kd id, id ∈ l ∧ x = Call.unlink ⟨kd, id⟩ := by
  induction l with
  | nil => intro st; exact ⟨[], (List.append_nil _).symm, fun _ hx => nomatch hx⟩
  | cons id l ih =>
    intro st
    obtain ⟨post, e, hp⟩ := ih (unlinkOne st id)
    refine ⟨unlinkCalls st.1.disk id ++ post, by
      rw [List.foldl_cons, e, unlinkOne_calls, List.append_assoc], ?_⟩
    intro x hx
    rcases List.mem_append.mp hx with hx | hx
    · obtain ⟨kd, rfl⟩ := mem_unlinkCalls hx
      exact ⟨kd, id, List.mem_cons_self, rfl⟩
    · obtain ⟨kd, i, hi, rfl⟩ := hp x hx
      exact ⟨kd, i, List.mem_cons_of_mem _ hi, rfl⟩

/-- the calls of a merge pass: those of the copy loop, the two fsyncs of the last output, unlinks
    of selected files, the creation of the new active file -/
theorem mergeWith_calls_shape (cfg : Cfg) (s : St) (sel : List Nat) (order : List Key) :
    ∃ ul, (mergeWith cfg s sel order).2 = (mergeLoop cfg s sel order).calls ++
        [Call.fsync ⟨.data, (mergeLoop cfg s sel order).mid⟩, Call.fsync ⟨.hint, (mergeLoop cfg s sel order).mid⟩] ++
        ul ++ [Call.create ⟨.data, (mergeLoop cfg s sel order).mid + 1⟩] ∧
      ∀ x ∈ ul, ∃ kd id, id ∈ sel ∧ x = Call.unlink ⟨kd, id⟩ := by
  obtain ⟨ul, e, hul⟩ := unlinkFold_calls sel ((mergeLoop cfg s sel order).s,
    (mergeLoop cfg s sel order).calls ++
      [Call.fsync ⟨.data, (mergeLoop cfg s sel order).mid⟩, Call.fsync ⟨.hint, (mergeLoop cfg s sel order).mid⟩])
  exact ⟨ul, by rw [mergeWith_calls, e], hul⟩

theorem mergeWith_frame (cfg : Cfg) (s : St) (sel : List Nat) (order : List Key) :
    applyCalls s.disk (mergeWith cfg s sel order).2 = (mergeWith cfg s sel order).1.disk := by
  rw [mergeWith_calls, mergeWith_fst, applyCalls_append, unlinkFold_frame]
  · rfl
  · simp only [applyCalls_append, mergeLoop_frame]; rfl

end Store
