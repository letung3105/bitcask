/-
  Fault-aware merge pass (C20): the calls and the directory of a failed pass.

  `faultPrefix cs j torn`: the calls `cs` of which call number `j` fails — the calls before `j`,
  followed, if call `j` is an append, by the torn prefix of it that reached the file; it is a
  crash cut (`Cut`) of `cs`.  `Stop.calls`: when `merge_files` returns after call `j` failed, the
  calls that have taken effect are `faultPrefix` of the calls of the fault-free `merge_files`;
  `Stop.frame`: they are the whole effect on the directory (`mfZ_faultPrefix`: both, in terms of
  the calls of the whole pass).  So the pass returns the error iff `j` is the index of one of its
  calls (`mergeF_err_iff`).
-/
import BitcaskVerif.Store.MergeFaultStop
import BitcaskVerif.Store.CutUnlink
import BitcaskVerif.Store.MergeShape

namespace Store

variable {hintFirst : Bool}

/-! ### the calls before a failing call -/

/-- what reaches the file of a failing call: of an append a torn prefix (`torn` bytes, fewer than
    the entry has), of any other call nothing -/
def tornCall (torn : Nat) : Call → List Call
  | .append f p => if payLen p = 0 then [] else [.append f (.raw (tornBytes torn (payLen p)))]
  | _ => []

/-- the calls `cs` in which call number `j` fails: what has taken effect -/
def faultPrefix (cs : List Call) (j torn : Nat) : List Call :=
  cs.take j ++ (match cs[j]? with | some c => tornCall torn c | none => [])

theorem tornBytes_lt {torn n : Nat} (h : 0 < n) : (tornBytes torn n).length < n := by
  rw [tornBytes, List.length_replicate]
  exact Nat.lt_of_le_of_lt (Nat.min_le_right _ _) (Nat.sub_lt h Nat.one_pos)

theorem faultPrefix_of_ge {cs : List Call} {j : Nat} (h : cs.length ≤ j) (torn : Nat) : faultPrefix cs j torn = cs := by
  unfold faultPrefix
  rw [List.take_of_length_le h, List.getElem?_eq_none h, List.append_nil]

theorem faultPrefix_append_left {a : List Call} {i : Nat} (h : i < a.length) (b : List Call) (torn : Nat) :
    faultPrefix (a ++ b) i torn = faultPrefix a i torn := by
  rw [faultPrefix, faultPrefix, List.take_append_of_le_length (Nat.le_of_lt h), List.getElem?_append_left h]

theorem faultPrefix_append_right (pre l : List Call) (i torn : Nat) :
    faultPrefix (pre ++ l) (pre.length + i) torn = pre ++ faultPrefix l i torn := by
  rw [faultPrefix, faultPrefix, List.take_length_add_append, List.getElem?_append_right (Nat.le_add_right _ _),
    Nat.add_sub_cancel_left, List.append_assoc]

/-- a failing call that is not an append leaves nothing -/
theorem faultPrefix_noappend {cs : List Call} (h : ∀ c ∈ cs, ∀ f p, c ≠ Call.append f p) (i torn : Nat) :
    faultPrefix cs i torn = cs.take i := by
  unfold faultPrefix
  cases hc : cs[i]? with
  | none => exact List.append_nil _
  | some c =>
    cases c with
    | append f p => exact absurd rfl (h _ (List.mem_of_getElem? hc) f p)
    | _ => exact List.append_nil _

/-- the failing call lies in the part `mid` of the calls -/
theorem faultPrefix_mid {full pre mid : List Call} {i : Nat} (torn : Nat) (h : pre ++ mid <+: full) (hi : i < mid.length) :
    pre.length + i < full.length ∧ pre ++ faultPrefix mid i torn = faultPrefix full (pre.length + i) torn := by
  obtain ⟨post, rfl⟩ := h
  rw [List.append_assoc, faultPrefix_append_right, faultPrefix_append_left hi, List.length_append, List.length_append]
  exact ⟨Nat.add_lt_add_left (Nat.lt_add_right _ hi) _, rfl⟩

/-- … and is not an append -/
theorem faultPrefix_mid_take {full pre mid : List Call} {i : Nat} (torn : Nat) (h : pre ++ mid <+: full)
    (hm : ∀ c ∈ mid, ∀ f p, c ≠ Call.append f p) (hi : i < mid.length) :
    pre.length + i < full.length ∧ pre ++ mid.take i = faultPrefix full (pre.length + i) torn :=
  faultPrefix_noappend hm i torn ▸ faultPrefix_mid torn h hi

theorem cut_faultPrefix (cs : List Call) (j torn : Nat) : Cut cs (faultPrefix cs j torn) := by
  by_cases h : cs.length ≤ j
  · rw [faultPrefix_of_ge h]; exact Cut.all cs
  · have hlt := Nat.lt_of_not_le h
    have hb : Cut cs (cs.take j) := .boundary _ (cs.drop j) (List.take_append_drop j cs).symm
    unfold faultPrefix
    rw [List.getElem?_eq_getElem hlt]
    cases hc : cs[j] with
    | append f p =>
      simp only [tornCall]
      by_cases hp : payLen p = 0
      · rw [if_pos hp, List.append_nil]; exact hb
      · rw [if_neg hp]
        refine .torn _ f p (cs.drop (j + 1)) _ ?_ (tornBytes_lt (Nat.pos_of_ne_zero hp))
        rw [← hc, ← List.drop_eq_getElem_cons hlt, List.take_append_drop]
    | create f => simp only [tornCall, List.append_nil]; exact hb
    | fsync f => simp only [tornCall, List.append_nil]; exact hb
    | unlink f => simp only [tornCall, List.append_nil]; exact hb

/-! ### the calls of a failing iteration -/

theorem faultPrefix_zero (c : Call) (cs : List Call) (torn : Nat) : faultPrefix (c :: cs) 0 torn = tornCall torn c := rfl

theorem faultPrefix_succ (c : Call) (cs : List Call) (j torn : Nat) :
    faultPrefix (c :: cs) (j + 1) torn = c :: faultPrefix cs j torn := rfl

/-- the calls so far, then the calls of the iteration up to the failing one (a failing append torn) -/
theorem failMove_calls (cfg : Cfg) (m : MergeSt) (k : Key) (loc : Loc) (r : Rec) (i torn : Nat)
    (hi : i < (addedCalls cfg m k loc r).length) :
    (failMove hintFirst m k loc r i torn).calls = m.calls ++ faultPrefix (addedCalls cfg m k loc r) i torn := by
  have hr0 : payLen (.ofRec r) ≠ 0 := Nat.pos_iff_ne_zero.mp r.len_pos
  have hh0 : payLen (.ofHint (hintOf m k loc)) ≠ 0 := by simp [payLen, Hint.size]
  rw [addedCalls] at hi ⊢
  rcases i with _ | _ | i
  · -- 0: data append
    rw [List.cons_append, faultPrefix_zero, tornCall, if_neg hr0]; rfl
  · -- 1: hint append
    rw [List.cons_append, faultPrefix_succ, List.cons_append, faultPrefix_zero, tornCall, if_neg hh0]; rfl
  · -- the iteration has further calls only if the output rolls over; they are no appends
    by_cases hroll : m.mpos + loc.len > cfg.maxFile
    · rw [if_pos hroll] at hi ⊢
      rcases i with _ | _ | _ | _ | i
      · rfl                             -- 2: fsync data
      · exact List.append_assoc _ _ _   -- 3: fsync hint
      · exact List.append_assoc _ _ _   -- 4: create data
      · exact List.append_assoc _ _ _   -- 5: create hint
      · exact absurd hi (Nat.not_lt.mpr (Nat.le_add_left 6 i))
    · rw [if_neg hroll] at hi
      exact absurd hi (Nat.not_lt.mpr (Nat.le_add_left 2 i))

/-! ### the calls of the fault-free `merge_files`, phase by phase -/

theorem mergeFold_calls_prefix (cfg : Cfg) (sel : List Nat) (order : List Key) (m : MergeSt) :
    m.calls <+: (order.foldl (mergeStep cfg sel) m).calls :=
  foldl_inv (P := fun m' : MergeSt => m.calls <+: m'.calls) (fun m' k h => h.trans (by
    rcases mergeStep_calls_cases cfg sel m' k with e | ⟨_, _, _, _, _, e⟩ <;> rw [e]
    · exact List.prefix_refl _
    · exact List.prefix_append _ _)) order (List.prefix_refl _)

theorem unlinkFold_calls_prefix (l : List Nat) (st : St × List Call) : st.2 <+: (l.foldl unlinkOne st).2 :=
  let ⟨post, e, _⟩ := unlinkFold_calls l st
  ⟨post, e.symm⟩

section
variable (cfg : Cfg) (s : St) (sel : List Nat) (order : List Key)

/-- the calls of the loop over a prefix of the keys, then the rest of the loop, the fsyncs, the removal -/
theorem unlinked_calls_loop {ks rest : List Key} (ho : order = ks ++ rest) (l : List Nat) :
    (mergeLoop cfg s sel ks).calls <+: (unlinked cfg s sel order l).2 := by
  simp only [ho, unlinked, mergeLoop, List.foldl_append]
  exact ((mergeFold_calls_prefix cfg sel rest _).trans (List.prefix_append _ _)).trans (unlinkFold_calls_prefix l (synced _))

/-- the calls up to the removal of a prefix of the inputs, then the rest of the removal -/
theorem unlinked_calls_done {done rest : List Nat} (hsel : sel = done ++ rest) :
    (unlinked cfg s sel order done).2 <+: (unlinked cfg s sel order sel).2 := by
  rw [hsel, unlinked, unlinked, List.foldl_append]
  exact unlinkFold_calls_prefix rest _

/-- … up to the removal of input `id` -/
theorem unlinked_calls_unlink {done rest : List Nat} {id : Nat} (hsel : sel = done ++ id :: rest) :
    (unlinked cfg s sel order done).2 ++ unlinkCalls (unlinked cfg s sel order done).1.disk id <+:
      (unlinked cfg s sel order sel).2 := by
  rw [← unlinkOne_calls, ← unlinked_concat]
  exact unlinked_calls_done cfg s sel order (by rw [hsel, List.append_assoc]; rfl)

end

/-- **the calls that have taken effect when `merge_files` returns with an error**: call `j` is one
    of the calls of the fault-free `merge_files`, and what has taken effect are the calls before it
    (a failing append torn) -/
theorem Stop.calls {cfg : Cfg} {s : St} {sel : List Nat} {order : List Key} {j torn : Nat}
    {z : (St × List Call) × Bool} {mid : Nat} (h : Stop hintFirst cfg s sel order j torn z mid) (hz : z.2 = true) :
    j < (unlinked cfg s sel order sel).2.length ∧ z.1.2 = faultPrefix (unlinked cfg s sel order sel).2 j torn := by
  have hstart := unlinked_calls_loop cfg s sel order (List.nil_append order).symm sel
  cases h with
  | done => cases hz
  | create0 hj => subst hj; exact faultPrefix_mid_take (pre := []) (i := 0) torn hstart (noAppend_of rfl) Nat.zero_lt_two
  | create1 hj => subst hj; exact faultPrefix_mid_take (pre := []) (i := 1) torn hstart (noAppend_of rfl) Nat.one_lt_two
  | @move ks rest k m loc r i ho hm hk hs hr hj hi =>
    have e := unlinked_calls_loop cfg s sel order (ks := ks ++ [k]) (rest := rest) (by rw [ho, List.append_assoc]; rfl) sel
    rw [mergeLoop_concat, ← hm, mergeStep_calls_move cfg sel m k hk hs hr] at e
    rw [hj, failMove_calls cfg m k loc r i torn hi]
    exact faultPrefix_mid torn e hi
  | sync hi hj =>
    subst hj
    exact faultPrefix_mid_take torn (unlinked_calls_done cfg s sel order (List.nil_append sel).symm) (noAppend_of rfl) hi
  | unlink1 hsel hu hj hne =>
    subst hu hj
    have := faultPrefix_mid_take (i := 0) torn (unlinked_calls_unlink cfg s sel order hsel) (unlinkCalls_noappend _ _) hne
    rwa [List.take_zero, List.append_nil] at this
  | unlink2 hsel hu hj hc =>
    subst hu hj
    have e := unlinked_calls_unlink cfg s sel order hsel
    rw [hc] at e
    exact faultPrefix_mid_take (i := 1) torn e (noAppend_of rfl) Nat.one_lt_two

/-! ### reported; beyond the last call -/

section
variable {cfg : Cfg} {s : St} {sel : List Nat} {order : List Key} {j torn : Nat} {z : (St × List Call) × Bool} {mid : Nat}

/-- without an error `merge_files` has done what the fault-free pass does -/
theorem Stop.not_failed (h : Stop hintFirst cfg s sel order j torn z mid) (hz : z.2 = false) :
    z.1 = unlinked cfg s sel order sel ∧ mid = (mergeLoop cfg s sel order).mid ∧
      (unlinked cfg s sel order sel).2.length ≤ j := by
  cases h with
  | done hj => exact ⟨rfl, rfl, hj⟩
  | _ => cases hz

end

theorem mergeWith_calls_length (cfg : Cfg) (s : St) (sel : List Nat) (order : List Key) :
    (mergeWith cfg s sel order).2.length = (unlinked cfg s sel order sel).2.length + 1 := by
  rw [mergeWith_unlinked]; exact List.length_append

theorem mergeF_err_iff (cfg : Cfg) (s : St) (sel : List Nat) (order : List Key) (j torn : Nat) :
    (mergeF hintFirst cfg s sel order j torn).err = true ↔ j < (mergeWith cfg s sel order).2.length := by
  have hs := mfZ_stop (hintFirst := hintFirst) cfg s sel order j torn
  rw [mergeWith_calls_length, mergeF_eq, closeF]
  cases hz : (mfZ hintFirst cfg s sel order j torn).2 with
  | true => exact ⟨fun _ => Nat.lt_succ_of_lt (hs.calls hz).1, fun _ => rfl⟩
  | false =>
    obtain ⟨e1, _, e3⟩ := hs.not_failed hz
    rw [if_neg Bool.false_ne_true, e1]
    by_cases hj : j = (unlinked cfg s sel order sel).2.length
    · rw [if_pos hj]; exact ⟨fun _ => hj ▸ Nat.lt_succ_self _, fun _ => rfl⟩
    · rw [if_neg hj]; exact ⟨nofun, fun h => absurd (Nat.le_antisymm (Nat.le_of_lt_succ h) e3) hj⟩

/-! ### the calls are the effect on the directory -/

theorem failMove_frame (d0 : Disk) (m : MergeSt) (k : Key) (loc : Loc) (r : Rec) (i torn : Nat)
    (h : applyCalls d0 m.calls = m.s.disk) :
    applyCalls d0 (failMove hintFirst m k loc r i torn).calls = (failMove hintFirst m k loc r i torn).s.disk := by
  have h2 : applyCalls d0 (moveCalls m k loc r) = moveDisk m k loc r := by
    rw [moveCalls, applyCalls_append, h, move_frame]
  rcases i with _ | _ | _ | _ | _ | i
  · -- 0: data append
    exact (applyCalls_append d0 m.calls _).trans (by rw [h]; rfl)
  · -- 1: hint append
    exact (applyCalls_append d0 m.calls _).trans (by rw [h]; cases hintFirst <;> rfl)
  · -- 2: fsync data
    exact h2
  · -- 3: fsync hint
    exact (applyCalls_append d0 _ _).trans (by rw [h2]; rfl)
  · -- 4: create data
    exact (applyCalls_append d0 _ _).trans (by rw [h2]; rfl)
  · -- 5: create hint
    exact (applyCalls_append d0 _ _).trans (by rw [h2]; rfl)

theorem unlinked_frame (cfg : Cfg) (s : St) (sel : List Nat) (order : List Key) (done : List Nat) :
    applyCalls s.disk (unlinked cfg s sel order done).2 = (unlinked cfg s sel order done).1.disk :=
  unlinkFold_frame s.disk done _ (by rw [synced, applyCalls_append, mergeLoop_frame]; rfl)

theorem Stop.frame {cfg : Cfg} {s : St} {sel : List Nat} {order : List Key} {j torn : Nat}
    {z : (St × List Call) × Bool} {mid : Nat} (h : Stop hintFirst cfg s sel order j torn z mid) :
    applyCalls s.disk z.1.2 = z.1.1.disk := by
  cases h with
  | done => exact unlinked_frame cfg s sel order sel
  | create0 => rfl
  | create1 => rfl
  | move ho hm => rw [hm]; exact failMove_frame s.disk _ _ _ _ _ torn (mergeLoop_frame cfg s sel _)
  | @sync i hi =>
    rw [applyCalls_append, mergeLoop_frame]
    rcases lt_two hi with rfl | rfl <;> rfl
  | unlink1 hsel hu => rw [hu]; exact unlinked_frame cfg s sel order _
  | unlink2 hsel hu => rw [hu, applyCalls_append, unlinked_frame]; rfl

/-! ### the pass does not touch the active id before it creates the new active file -/

theorem mergeStep_active (cfg : Cfg) (sel : List Nat) (m : MergeSt) (k : Key) :
    (mergeStep cfg sel m k).s.active = m.s.active := by
  apply Tr.mergeStep_ind (fun m' => m'.s.active = m.s.active) cfg sel m k rfl rfl <;> (intros; rfl)

theorem unlinked_active (cfg : Cfg) (s : St) (sel : List Nat) (order : List Key) (done : List Nat) :
    (unlinked cfg s sel order done).1.active = s.active := by
  rw [unlinked, Stats.unlinkFold_fst]
  exact foldl_inv (P := fun m : MergeSt => m.s.active = s.active)
    (fun m k h => (mergeStep_active cfg sel m k).trans h) order rfl

/-! ### the directory when `merge_files` returns the error -/

/-- every data and hint file of `d` has an id below `b` (the third field of `InvP`, and how
    `Props/C20Merge.lean` says that the id of the new active file is unused) -/
def FreshId (b : Nat) (d : Disk) : Prop :=
  (∀ i, i ∈ AL.keys d.data → i < b) ∧ (∀ i, i ∈ AL.keys d.hint → i < b)

/-- when `merge_files` returns after call `j` of the pass failed, the calls that have taken effect
    are those of the fault-free pass before `j` (a failing append torn), and the directory is
    their effect -/
theorem mfZ_faultPrefix (cfg : Cfg) (s : St) (sel : List Nat) (order : List Key) (j torn : Nat)
    (hj : j < (mergeWith cfg s sel order).2.length) :
    (mfZ hintFirst cfg s sel order j torn).1.2 = faultPrefix (mergeWith cfg s sel order).2 j torn ∧
    (mfZ hintFirst cfg s sel order j torn).1.1.disk = applyCalls s.disk (faultPrefix (mergeWith cfg s sel order).2 j torn) := by
  have hs := mfZ_stop (hintFirst := hintFirst) cfg s sel order j torn
  have hE : (mfZ hintFirst cfg s sel order j torn).1.2 = faultPrefix (mergeWith cfg s sel order).2 j torn := by
    rw [mergeWith_unlinked]
    cases hz : (mfZ hintFirst cfg s sel order j torn).2 with
    | true =>
      obtain ⟨c1, c2⟩ := hs.calls hz
      rw [c2, faultPrefix_append_left c1]
    | false =>
      obtain ⟨e1, _, e3⟩ := hs.not_failed hz
      rw [mergeWith_calls_length] at hj
      rw [e1, Nat.le_antisymm (Nat.le_of_lt_succ hj) e3, ← Nat.add_zero (List.length _), faultPrefix_append_right]
      exact (List.append_nil _).symm
  exact ⟨hE, by rw [← hE, hs.frame]⟩

end Store
