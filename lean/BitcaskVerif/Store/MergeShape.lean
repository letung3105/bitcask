/-
  C19 / C13 helper lemmas: the shape of a merge pass. The state it ends in, in closed form
  (`mergedSt` of the loop's last state), and a proof rule (`merge_rule`): what holds before the
  first key and is kept when a record is copied and when the output rolls over yields, with the
  loop invariant `MInv` and "no KeyDir entry is left in a selected file", a property of the result.
-/
import BitcaskVerif.Store.ALSum
import BitcaskVerif.Store.MergeLemmas

namespace Store.Stats
open Store

def rollM (m : MergeSt) : MergeSt :=
  { s := { m.s with disk := rollDisk m.s.disk (m.mid + 1) }, mid := m.mid + 1, mpos := 0,
    calls := m.calls ++ [Call.fsync ⟨.data, m.mid⟩, Call.fsync ⟨.hint, m.mid⟩,
                         Call.create ⟨.data, m.mid + 1⟩, Call.create ⟨.hint, m.mid + 1⟩] }

def delDisk (sel : List Nat) (d : Disk) : Disk :=
  { data := delAll sel d.data, hint := delAll sel d.hint, tails := d.tails }

theorem dataOf_delDisk (sel : List Nat) (d : Disk) (f : Nat) :
    dataOf (delDisk sel d) f = if f ∈ sel then [] else dataOf d f := by
  rw [dataOf, delDisk, get_delAll]
  by_cases e : f ∈ sel
  · rw [if_pos e, if_pos e]; rfl
  · rw [if_neg e, if_neg e]; rfl

def mergedSt (sel : List Nat) (m : MergeSt) : St :=
  { m.s with stats := delAll sel m.s.stats,
             disk := { delDisk sel m.s.disk with data := AL.set (m.mid + 1) [] (delDisk sel m.s.disk).data },
             active := m.mid + 1, written := 0 }

theorem mergeWith_eq_mergedSt (cfg : Cfg) (s : St) (sel : List Nat) (order : List Key) :
    (mergeWith cfg s sel order).1 = mergedSt sel (mergeLoop cfg s sel order) := by
  rw [Store.mergeWith_fst, unlinkFold_fst]
  rfl

/-- **proof rule for a merge pass.** To show `Q` of the state a merge pass ends in, find a property
    `P` of the loop state that holds before the first key (`h0`), is kept when a record is copied
    (`hmove`: the loop invariant and what is known of the record are at hand) and when a new pair of
    output files is begun (`hroll`), and that gives `Q` of `mergedSt` once no KeyDir entry is left in
    a selected file (`hend`; the id of the new active file is unused). -/
theorem merge_rule {cfg : Cfg} {s : St} {sel : List Nat} {order : List Key} (hi : Inv s)
    (hsel : ∀ id, id ∈ sel → id ≤ s.active) (hcov : Covers order s) (P : MergeSt → Prop) (Q : St → Prop)
    (h0 : P (mergeStart s))
    (hmove : ∀ m k loc r, MInv s.active s.abs m → P m → AL.get k m.s.keydir = some loc → loc.fid ∈ sel →
      r.key = k → r.val.isSome → r.len = loc.len → P (Tr.moveNoRoll m k loc r))
    (hroll : ∀ m, m.mid + 1 ∉ AL.keys m.s.disk.data → P m → P (rollM m))
    (hend : ∀ m, MInv s.active s.abs m → (∀ k loc, AL.get k m.s.keydir = some loc → loc.fid ∉ sel) →
      m.mid + 1 ∉ AL.keys (delDisk sel m.s.disk).data → P m → Q (mergedSt sel m)) :
    Q (mergeWith cfg s sel order).1 := by
  have hP : MInv s.active s.abs (mergeLoop cfg s sel order) ∧ P (mergeLoop cfg s sel order) :=
    List.foldlRecOn order (mergeStep cfg sel) (motive := fun m => MInv s.active s.abs m ∧ P m)
      ⟨mergeStart_minv hi _, h0⟩ fun m ⟨hm, hp⟩ k _ => by
        refine ⟨(mergeStep_spec cfg sel _ _ hsel m k hm).1, ?_⟩
        rcases hm.mergeStep_eq cfg sel k with ⟨e, _⟩ | ⟨loc, r, hk, hs, h1, h2, h3, h4, h5, ⟨_, e⟩ | ⟨_, e⟩⟩ <;> rw [e]
        · exact hp
        · exact hmove m k loc r hm hp hk hs h2 h3 h4
        · -- `Tr.moveRoll m k loc r` is `rollM (Tr.moveNoRoll m k loc r)` by definition
          exact hroll (Tr.moveNoRoll m k loc r) (fun hmem => Nat.not_succ_le_self _ ((hm.move hk h1 h2 h3 h4 h5).ids _ hmem))
            (hmove m k loc r hm hp hk hs h2 h3 h4)
  rw [mergeWith_eq_mergedSt]
  exact hend _ hP.1 (mergeLoop_not_sel cfg s sel order hi hsel hcov)
    (fun hm => Nat.not_succ_le_self _ (hP.1.ids _ (mem_keys_delAll hm).2)) hP.2

end Store.Stats
