/-
  The directory at every call boundary (C14, crashes): the set of data-file ids obtained by
  applying the `create` / `unlink` calls of a trace prefix always contains the largest id ever
  used, so whatever a crash cuts off, the next open (`max + 1`) picks a fresh id.
-/
import BitcaskVerif.Store.TraceMonitor

namespace Store.Tr
/-- effect of one event on the set of data-file ids in the directory -/
def dirStep (D : List Nat) : TEv → List Nat
  | .call (.create f) => if f.kind = .data then f.id :: D else D
  | .call (.unlink f) => if f.kind = .data then D.filter (fun x => decide (x ≠ f.id)) else D
  | _ => D

/-- data-file ids in the directory after the calls of `evs` -/
def dirAfter (D : List Nat) (evs : List TEv) : List Nat := evs.foldl dirStep D

/-- `t` is the largest data-file id in the directory `D`, and the largest id the monitor has seen -/
structure DirTop (t : Nat) (m : Mon) (D : List Nat) : Prop where
  bound : m.bound = t + 1
  top : t ∈ D
  le : ∀ x, x ∈ D → x ≤ t
  last : ∀ id, m.last = some (.create ⟨.data, id⟩) → id ≤ t

theorem dirTop_step {t : Nat} {m : Mon} {D : List Nat} (h : DirTop t m D) (e : TEv)
    (hF : (m.step e).okFresh = true) (hT : (m.step e).okTop = true) :
    ∃ t', DirTop t' (m.step e) (dirStep D e) := by
  cases e with
  | restart => exact ⟨t, h.bound, h.top, h.le, fun _ hl => nomatch hl⟩
  | call c =>
    cases c with
    | create f =>
      obtain ⟨kd, id⟩ := f
      have hF := (Bool.and_eq_true_iff.mp hF).2
      cases kd with
      | data =>
        -- accepted: `bound ≤ id`, so `id` is the new largest id and is in the directory
        have hF : m.bound ≤ id := of_decide_eq_true hF
        have hb : t + 1 ≤ id := h.bound ▸ hF
        refine ⟨id, Nat.max_eq_right (Nat.le_succ_of_le hF), List.mem_cons_self, fun x hx => ?_,
          fun i hi => by cases hi; exact Nat.le_refl _⟩
        rcases List.mem_cons.mp hx with e | e
        · exact Nat.le_of_eq e
        · exact Nat.le_of_lt (Nat.lt_of_le_of_lt (h.le x e) hb)
      | hint =>
        -- accepted: the data file `id` was created just before, so the bound does not move
        have hb : id + 1 ≤ m.bound := h.bound ▸ Nat.succ_le_succ (h.last id (of_decide_eq_true hF))
        exact ⟨t, (Nat.max_eq_left hb).trans h.bound, h.top, h.le, fun _ hl => nomatch hl⟩
    | unlink f =>
      -- accepted: `f.id + 1 < bound`, so the file removed is not the one with the largest id
      have hb : f.id + 1 < t + 1 := h.bound ▸ of_decide_eq_true (Bool.and_eq_true_iff.mp hT).2
      refine ⟨t, h.bound, ?_, fun x hx => ?_, fun _ hl => nomatch hl⟩
      · show t ∈ if f.kind = .data then D.filter (fun x => decide (x ≠ f.id)) else D
        split
        · exact List.mem_filter.mpr ⟨h.top, decide_eq_true (Nat.ne_of_gt (Nat.lt_of_succ_lt_succ hb))⟩
        · exact h.top
      · have hx : x ∈ if f.kind = .data then D.filter (fun x => decide (x ≠ f.id)) else D := hx
        split at hx
        · exact h.le x (List.mem_filter.mp hx).1
        · exact h.le x hx
    | _ => exact ⟨t, h.bound, h.top, h.le, fun _ hl => nomatch hl⟩

theorem dirTop_run (evs : List TEv) : ∀ (t : Nat) (m : Mon) (D : List Nat), DirTop t m D →
    (m.run evs).okFresh = true → (m.run evs).okTop = true → ∃ t', DirTop t' (m.run evs) (dirAfter D evs) := by
  induction evs with
  | nil => intro t m D h _ _; exact ⟨t, h⟩
  | cons e es ih =>
    intro t m D h hF hT
    obtain ⟨t', h'⟩ := dirTop_step h e ((Mon.run_ok es _).1 hF) ((Mon.run_ok es _).2.2 hT)
    exact ih t' (m.step e) (dirStep D e) h' hF hT

/-- **at every call boundary of an accepted trace the directory contains a data file whose id is
    at least every id in the directory, every id created so far, and everything below the
    initial bound** -/
theorem mon_dir_top {t : Nat} (m : Mon) (D : List Nat) (h : DirTop t m D) (evs pre post : List TEv)
    (he : evs = pre ++ post) (hF : (m.run evs).okFresh = true) (hT : (m.run evs).okTop = true) :
    ∃ top, top ∈ dirAfter D pre ∧ (∀ x, x ∈ dirAfter D pre → x ≤ top) ∧
      (∀ g, TEv.call (.create g) ∈ pre → g.id ≤ top) ∧ m.bound ≤ top + 1 := by
  rw [he, Mon.run_append] at hF hT
  obtain ⟨top, hd⟩ := dirTop_run pre t m D h ((Mon.run_ok post _).1 hF) ((Mon.run_ok post _).2.2 hT)
  refine ⟨top, hd.top, hd.le, fun g hg => ?_, hd.bound ▸ Mon.run_bound_le pre m⟩
  have hg := Mon.run_create_lt pre m g hg
  rw [hd.bound] at hg
  exact Nat.le_of_lt_succ hg

end Store.Tr