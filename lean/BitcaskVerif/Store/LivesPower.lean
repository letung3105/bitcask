/-
  Lives after a power failure inside a merge (C09): images.

  * `PowerLoss3`: the power-loss images of `PowerLoss2` in which a data file that loses no record
    keeps its length (its invisible tail is unchanged).  `PowerLoss2` leaves the tail of such a
    file arbitrary; that is harmless as long as hint files are exact, but a stale merge output
    from an earlier power failure may have hint entries whose records are gone, and a LONGER
    tail would make the D5 check accept them.  (No generality is lost for torn appends: the
    number of bytes a torn append leaves is arbitrary already in `Cut`.)
  * `CJ.sameFiles`: images that lose nothing.
  * `copyPhase_image`: every power-loss image of every cut of the copy phase of a merge pass,
    in a store satisfying the lives invariant: the old files survive whole, and whatever
    survives of the new files (`NewFacts`, Store/LivesGen.lean) consists of copies
    (`recW_lossImage2`, via `hp_image` and the general theorem `recW_newFiles`).
-/
import BitcaskVerif.Store.LivesHistory
import BitcaskVerif.Store.PowerAll

namespace Store

theorem SameFiles.allEvs {d I : Disk} (h : SameFiles d I) (ha : Asc d.data) : allEvs I.data = allEvs d.data := by
  have ha' : Asc I.data := by unfold Asc; rw [h.keys]; exact ha
  rw [allEvs_eq_flatMap ha, allEvs_eq_flatMap ha', h.keys]
  simp only [h.data]

theorem CJ.sameFiles {dB D : Disk} {kd : List (Key × Loc)} {a : Nat} {m : Map} (h : CJ dB D kd a m) {I : Disk}
    (sf : SameFiles D I)
    (ht : ∀ fid, (AL.get fid D.hint).isSome → AL.get fid I.tails = AL.get fid D.tails) : RecW I m := by
  refine ⟨{ dB with tails := I.tails }, kd, a, h.clean.tails _, (absOf_tails _ _ _).trans h.abs, ?_, ?_, ?_⟩
  · refine ⟨sf.keys.trans h.sim.keys, sf.hkeys.trans h.sim.hkeys, rfl, ?_⟩
    intro fid
    cases hg : AL.get fid D.hint with
    | none =>
      refine ⟨by rw [sf.data]; exact (h.sim.file fid).pre, fun _ => by rw [sf.data]; exact (h.sim.file fid).unh hg, ?_⟩
      intro hs hgI
      rw [sf.hint, hg] at hgI; cases hgI
    | some hs =>
      exact (h.sim.file fid).congr rfl (sf.data fid) rfl (sf.hint fid) (ht fid (by rw [hg]; rfl))
  · intro fid p j h1 h2
    rw [sf.data] at h1
    obtain ⟨v, P⟩ := h.junk fid p j h1 h2
    exact ⟨v, fun loc hl hlt => by rw [sf.data]; exact P loc hl hlt⟩
  · intro k hk
    show replay (allEvs I.data) k = none
    rw [sf.allEvs h.asc]; exact h.fullA k hk

def PowerLoss3 (sd : SDisk2) (I : Disk) : Prop :=
  ∃ kD kH T, (∀ id, sd.dOf id ≤ kD id) ∧ (∀ id, sd.hOf id ≤ kH id) ∧ TailOk sd.disk kD T ∧
    (∀ id, (dataOf sd.disk id).length ≤ kD id → AL.get id T = AL.get id sd.disk.tails) ∧
    I = lossImage2 sd.disk kD kH T

theorem PowerLoss3.toPL2 {sd : SDisk2} {I : Disk} (h : PowerLoss3 sd I) : PowerLoss2 sd I := by
  obtain ⟨kD, kH, T, h1, h2, h3, _, e⟩ := h
  exact ⟨kD, kH, T, h1, h2, h3, e⟩

theorem powerLoss3_full {sd : SDisk2} (hfs : FullySynced2 sd) {I : Disk} (hp : PowerLoss3 sd I) :
    SameFiles sd.disk I ∧ ∀ fid, AL.get fid I.tails = AL.get fid sd.disk.tails := by
  refine ⟨powerLoss2_sameFiles hfs hp.toPL2, ?_⟩
  obtain ⟨kD, kH, T, h1, _, _, h4, rfl⟩ := hp
  intro fid
  exact h4 fid (Nat.le_trans (hfs fid).1 (h1 fid))

theorem applyCall_tails {d : Disk} {c : Call} {id : Nat} (hc : ∀ f p, c = Call.append f p → f.id ≠ id) :
    AL.get id (applyCall d c).tails = AL.get id d.tails := by
  -- only a torn append to a data file touches `tails`
  rcases c with ⟨_ | _, _⟩ | ⟨⟨_ | _, fid⟩, _ | _ | _⟩ | _ | ⟨_ | _, _⟩
  case append.data.raw => exact AL.get_set_other (hc _ _ rfl).symm _ _
  all_goals rfl

theorem applyCalls_tails {id : Nat} (cs : List Call) : ∀ {d : Disk},
    (∀ c ∈ cs, ∀ f p, c = Call.append f p → f.id ≠ id) → AL.get id (applyCalls d cs).tails = AL.get id d.tails := by
  induction cs with
  | nil => intro d _; rfl
  | cons c cs ih =>
    intro d hc
    exact (ih (fun x hx => hc x (List.mem_cons_of_mem _ hx))).trans (applyCall_tails (hc c List.mem_cons_self))

theorem PowerLoss3.tail_untouched {sd : SDisk2} {c : List Call} {I : Disk}
    (hp : PowerLoss3 (syncCalls2 sd c) I) {id : Nat} (hs : SyncedAt sd id)
    (hc : ∀ x ∈ c, ∀ f p, x = Call.append f p → f.id ≠ id) :
    AL.get id I.tails = AL.get id sd.disk.tails := by
  obtain ⟨kD, kH, T, h1, _, _, h4, rfl⟩ := hp
  refine (h4 id (Nat.le_trans (hs.steps c hc).1 (h1 id))).trans ?_
  rw [syncCalls2_disk]
  exact applyCalls_tails c hc

theorem recW_lossImage2 {s : St} {d1 : Disk} (w : LJw s d1) {N : Disk} (hn : NewOk s.active s.disk.tails N)
    (nf : NewFacts s N) {kD kH : Nat → Nat} {T : List (Nat × Nat)}
    (hold : ∀ id, id ≤ s.active → (dataOf s.disk id).length ≤ kD id ∧ (hintsOf s.disk id).length ≤ kH id ∧
      AL.get id T = AL.get id s.disk.tails)
    (htail : TailOk (dapp s.disk N) kD T) : RecW (lossImage2 (dapp s.disk N) kD kH T) s.abs := by
  obtain ⟨NI, hNI⟩ : ∃ NI, NI = lossImage2 N kD kH T := ⟨_, rfl⟩
  have hkD : AL.keys NI.data = AL.keys N.data := by rw [hNI]; exact (keys_lossImage2 ..).1
  have hkH : AL.keys NI.hint = AL.keys N.hint := by rw [hNI]; exact (keys_lossImage2 ..).2
  have hdNI : ∀ fid, dataOf NI fid = (dataOf N fid).take (kD fid) :=
    fun fid => by rw [hNI]; exact dataOf_lossImage2 ..
  have hhNI : ∀ fid, AL.get fid NI.hint = (AL.get fid N.hint).map (fun hs => hs.take (kH fid)) :=
    fun fid => by rw [hNI]; exact getHint_lossImage2 ..
  have htNI : NI.tails = T := by rw [hNI]; rfl
  have hnI : NewOk s.active s.disk.tails NI :=
    ⟨by rw [hkD]; exact hn.ids, by rw [hkH]; exact hn.hids,
     fun id hle => by rw [htNI]; exact (hold id hle).2.2⟩
  obtain ⟨dB, kd, a, cj⟩ : RecW (dapp s.disk NI) s.abs := by
    apply recW_newFiles w hnI
    · unfold Asc; rw [hkD]; exact nf.asc
    · intro id hid
      rw [hkH] at hid
      obtain ⟨b, hb, hle⟩ := nf.hmaxN id hid
      exact ⟨b, by rw [hkD]; exact hb, hle⟩
    · intro fid hs' hg
      rw [hhNI] at hg
      obtain ⟨hs, hg0, rfl⟩ := Option.map_eq_some_iff.mp hg
      have hgt : s.active < fid := hn.hids fid (AL.mem_keys_of_get hg0)
      unfold accOf dlen
      rw [hdNI, htNI]
      apply hp_image (nf.np fid hs hg0)
      intro r hr
      apply htail fid r
      rw [dataOf_dapp_gt w.below hgt]; exact hr
    · intro fid p r hr
      rw [hdNI] at hr
      exact nf.copy fid p r (recAt_take hr)
  -- the image and `dapp s.disk NI` have the same files: nothing of the old files is lost
  refine cj.sameFiles ⟨?_, ?_, fun fid => ?_, fun fid => ?_⟩ (fun fid _ => by rw [← htNI]; rfl)
  · refine (keys_lossImage2 ..).1.trans ?_
    rw [keys_data_dapp, keys_data_dapp, hkD]
  · refine (keys_lossImage2 ..).2.trans ?_
    rw [keys_hint_dapp, keys_hint_dapp, hkH]
  · rw [dataOf_lossImage2]
    by_cases hle : fid ≤ s.active
    · rw [dataOf_dapp_le hn hle, dataOf_dapp_le hnI hle, List.take_of_length_le (hold fid hle).1]
    · have hgt := Nat.lt_of_not_le hle
      rw [dataOf_dapp_gt w.below hgt, dataOf_dapp_gt w.below hgt, hdNI]
  · rw [getHint_lossImage2]
    by_cases hle : fid ≤ s.active
    · rw [get_hint_dapp_le hn hle, get_hint_dapp_le hnI hle]
      have := (hold fid hle).2.1
      cases hg : AL.get fid s.disk.hint with
      | none => rfl
      | some hs =>
        simp only [hintsOf, hg, Option.getD_some] at this
        rw [Option.map_some, List.take_of_length_le this]
    · have hgt := Nat.lt_of_not_le hle
      rw [get_hint_dapp_gt w.below hgt, get_hint_dapp_gt w.below hgt, hhNI]

theorem copyPhase_image {s : St} {d1 : Disk} (w : LJw s d1) {c : List Call}
    (hout : ∀ x ∈ c, OutCall s.active x) (nf : NewFacts s (newFiles s.disk.tails c)) {sd0 : SDisk2}
    (hd : sd0.disk = s.disk) (hfs : FullySynced2 sd0) {I : Disk} (hp : PowerLoss3 (syncCalls2 sd0 c) I) :
    RecW I s.abs := by
  have hn : NewOk s.active s.disk.tails (newFiles s.disk.tails c) := newOk_newFiles _ hout
  have hdisk : (syncCalls2 sd0 c).disk = dapp s.disk (newFiles s.disk.tails c) := by
    rw [syncCalls2_disk, hd, applyCalls_out w.below hout]
  -- nothing is appended to the old files: they are durable and keep their tails
  have hold : ∀ id, id ≤ s.active →
      SyncedAt (syncCalls2 sd0 c) id ∧ AL.get id I.tails = AL.get id s.disk.tails := by
    intro id hle
    have hna : ∀ x ∈ c, ∀ f p, x = Call.append f p → f.id ≠ id := fun x hx f p e => by
      have := (hout x hx).1
      subst e
      exact Nat.ne_of_gt (Nat.lt_of_le_of_lt hle this)
    exact ⟨(hfs id).steps c hna, hd ▸ hp.tail_untouched (hfs id) hna⟩
  obtain ⟨kD, kH, T, h1, h2, h3, _, rfl⟩ := hp
  rw [hdisk] at h3 ⊢
  refine recW_lossImage2 w hn nf (fun id hle => ?_) h3
  obtain ⟨⟨a, b⟩, t⟩ := hold id hle
  rw [hdisk] at a b
  simp only [hintsOf] at b ⊢
  rw [dataOf_dapp_le hn hle] at a
  rw [get_hint_dapp_le hn hle] at b
  exact ⟨Nat.le_trans a (h1 id), Nat.le_trans b (h2 id), t⟩

end Store
