/-
  Invariant of the sequential store model and the one-step refinement lemmas for put / delete /
  get (merge is in `MergeLemmas.lean`).

  Every change of the directory is seen through `Keeps b d d'` (the records of the files up to
  `b` are still where they were): an index entry that was valid stays valid and reads the same.
-/
import BitcaskVerif.Store.Spec

namespace Store

theorem Rec.len_pos (r : Rec) : 0 < r.len := by unfold Rec.len; omega

@[simp] theorem fileSize_nil : fileSize [] = 0 := rfl
@[simp] theorem fileSize_cons (r : Rec) (rs : List Rec) : fileSize (r :: rs) = r.len + fileSize rs := by
  simp [fileSize]
@[simp] theorem fileSize_append (xs ys : List Rec) : fileSize (xs ++ ys) = fileSize xs + fileSize ys := by
  simp [fileSize]

theorem recAt_cons_add (x : Rec) (xs : List Rec) (p : Nat) : recAt (x :: xs) (x.len + p) = recAt xs p := by
  have hx := x.len_pos
  rw [recAt, if_neg (by omega), if_neg (by omega), Nat.add_sub_cancel_left]

theorem recAt_cons_some {r x : Rec} {rs : List Rec} {p : Nat} (h : recAt (r :: rs) p = some x) :
    (p = 0 ∧ x = r) ∨ (r.len ≤ p ∧ recAt rs (p - r.len) = some x) := by
  rw [recAt] at h
  by_cases h0 : p = 0
  · rw [if_pos h0] at h; exact .inl ⟨h0, (Option.some.inj h).symm⟩
  · rw [if_neg h0] at h
    by_cases h1 : p < r.len
    · rw [if_pos h1] at h; cases h
    · rw [if_neg h1] at h; exact .inr ⟨Nat.le_of_not_lt h1, h⟩

theorem recAt_le {rs : List Rec} {p : Nat} {r : Rec} (h : recAt rs p = some r) : p + r.len ≤ fileSize rs := by
  induction rs generalizing p with
  | nil => cases h
  | cons x xs ih =>
    rw [fileSize_cons]
    rcases recAt_cons_some h with ⟨rfl, rfl⟩ | ⟨hle, h'⟩
    · omega
    · have := ih h'; omega

theorem recAt_lt {rs : List Rec} {p : Nat} {r : Rec} (h : recAt rs p = some r) : p < fileSize rs := by
  have := recAt_le h; have := r.len_pos; omega

theorem recAt_append (a j : List Rec) (p : Nat) :
    recAt (a ++ j) p = if p < fileSize a then recAt a p else recAt j (p - fileSize a) := by
  induction a generalizing p with
  | nil => simp
  | cons x xs ih =>
    have hx := x.len_pos
    simp only [List.cons_append, recAt, fileSize_cons, ih]
    by_cases h0 : p = 0
    · have : 0 < x.len + fileSize xs := by omega
      simp [h0, this]
    · by_cases h1 : p < x.len
      · simp [h0, h1, Nat.lt_add_right]
      · have e : p - x.len < fileSize xs ↔ p < x.len + fileSize xs := by omega
        simp only [h0, h1, e, ↓reduceIte, Nat.sub_add_eq]

theorem recAt_append_left {rs : List Rec} {p : Nat} {r : Rec} (h : recAt rs p = some r) (ys : List Rec) :
    recAt (rs ++ ys) p = some r := by
  rw [recAt_append, if_pos (recAt_lt h)]; exact h

theorem recAt_append_right (a j : List Rec) (q : Nat) : recAt (a ++ j) (fileSize a + q) = recAt j q := by
  rw [recAt_append, if_neg (by omega), Nat.add_sub_cancel_left]

theorem recAt_append_ge {a j : List Rec} {p : Nat} {r : Rec} (h : recAt (a ++ j) p = some r)
    (hp : fileSize a ≤ p) : recAt j (p - fileSize a) = some r := by
  rwa [recAt_append, if_neg (by omega)] at h

theorem recAt_single {r j : Rec} {q : Nat} (h : recAt [r] q = some j) : q = 0 ∧ j = r := by
  rcases recAt_cons_some h with h0 | ⟨_, h'⟩
  · exact h0
  · cases h'

theorem recAt_snoc {a : List Rec} {r x : Rec} {p : Nat} (h : recAt (a ++ [r]) p = some x) :
    recAt a p = some x ∨ (p = fileSize a ∧ x = r) := by
  rw [recAt_append] at h
  split at h
  · exact .inl h
  · obtain ⟨h0, h1⟩ := recAt_single h
    exact .inr ⟨by omega, h1⟩

theorem recAt_append_size (rs : List Rec) (r : Rec) (ys : List Rec) :
    recAt (rs ++ r :: ys) (fileSize rs) = some r := by
  have := recAt_append_right rs (r :: ys) 0
  rwa [Nat.add_zero] at this

theorem recAt_take {rs : List Rec} {n p : Nat} {r : Rec} (h : recAt (rs.take n) p = some r) :
    recAt rs p = some r := by
  rw [← List.take_append_drop n rs]; exact recAt_append_left h _

theorem mem_keys_of_isSome {κ β : Type} [DecidableEq κ] {k : κ} {l : List (κ × β)}
    (h : (AL.get k l).isSome) : k ∈ AL.keys l :=
  (AL.isSome_get k l).mp h

/-- a KeyDir entry addresses a complete value record of its key, of the recorded length, in an
    existing data file -/
def LocOk (d : Disk) (k : Key) (loc : Loc) : Prop :=
  ∃ r, recAt (dataOf d loc.fid) loc.pos = some r ∧ r.key = k ∧ r.val.isSome ∧ r.len = loc.len ∧
    (AL.get loc.fid d.data).isSome

structure Inv (s : St) : Prop where
  locs : ∀ k loc, AL.get k s.keydir = some loc → LocOk s.disk k loc
  /-- no data or hint file has an id above the active id; the active file exists -/
  ids : ∀ id, id ∈ AL.keys s.disk.data → id ≤ s.active
  hids : ∀ id, id ∈ AL.keys s.disk.hint → id ≤ s.active
  act : (AL.get s.active s.disk.data).isSome

theorem Inv.of_eq {s s' : St} (h : Inv s) (hk : s'.keydir = s.keydir) (hd : s'.disk = s.disk)
    (ha : s'.active = s.active) : Inv s' :=
  ⟨hk ▸ hd ▸ h.locs, hd ▸ ha ▸ h.ids, hd ▸ ha ▸ h.hids, hd ▸ ha ▸ h.act⟩

theorem LocOk.fid_le_of {d : Disk} {b : Nat} (hids : ∀ id, id ∈ AL.keys d.data → id ≤ b) {k : Key} {loc : Loc}
    (hl : LocOk d k loc) : loc.fid ≤ b := by
  obtain ⟨_, _, _, _, _, hex⟩ := hl
  exact hids _ (mem_keys_of_isSome hex)

theorem LocOk.fid_le {s : St} (h : Inv s) {k : Key} {loc : Loc} (hl : LocOk s.disk k loc) : loc.fid ≤ s.active :=
  hl.fid_le_of h.ids

theorem get_of_locOk {s : St} {k : Key} {loc : Loc} (hk : AL.get k s.keydir = some loc)
    (hl : LocOk s.disk k loc) : ∃ v, get s k = .value v := by
  obtain ⟨r, h1, h2, h3, h4, h5⟩ := hl
  unfold get
  simp only [hk, h1, h4, h5, and_self, ↓reduceIte]
  cases hv : r.val with
  | none => simp [hv] at h3
  | some v => exact ⟨v, rfl⟩

theorem get_absent_of_none {s : St} {k : Key} (hk : AL.get k s.keydir = none) : get s k = .absent := by
  unfold get; simp [hk]

theorem abs_none_of_none {s : St} {k : Key} (hk : AL.get k s.keydir = none) : s.abs k = none := by
  unfold St.abs; rw [get_absent_of_none hk]

theorem get_not_corrupt {s : St} (h : Inv s) (k : Key) : get s k ≠ .corrupt := by
  cases hk : AL.get k s.keydir with
  | none => rw [get_absent_of_none hk]; simp
  | some loc =>
    obtain ⟨v, hv⟩ := get_of_locOk hk (h.locs k loc hk)
    rw [hv]; simp

theorem get_congr {s s' : St} (hk : s'.keydir = s.keydir) (hd : s'.disk = s.disk) (k : Key) :
    get s' k = get s k := by
  unfold get; rw [hk, hd]

theorem abs_of_locOk {s : St} {k : Key} {loc : Loc} (hk : AL.get k s.keydir = some loc) {r : Rec}
    (h1 : recAt (dataOf s.disk loc.fid) loc.pos = some r) (h4 : r.len = loc.len)
    (h5 : (AL.get loc.fid s.disk.data).isSome) : s.abs k = r.val := by
  unfold St.abs get
  simp only [hk, h1, h4, h5, and_self, ↓reduceIte]
  cases r.val <;> rfl

theorem abs_stable {s s' : St} {k : Key} {loc : Loc} (hk : AL.get k s.keydir = some loc)
    (hk' : AL.get k s'.keydir = some loc) (hl : LocOk s.disk k loc)
    (hrec : ∀ r, recAt (dataOf s.disk loc.fid) loc.pos = some r → recAt (dataOf s'.disk loc.fid) loc.pos = some r)
    (hex : (AL.get loc.fid s'.disk.data).isSome) : s'.abs k = s.abs k := by
  obtain ⟨r, h1, h2, h3, h4, h5⟩ := hl
  rw [abs_of_locOk hk h1 h4 h5, abs_of_locOk hk' (hrec r h1) h4 hex]

theorem get_abs (s : St) (k : Key) (h : Inv s) :
    get s k = (match s.abs k with | some v => .value v | none => .absent) := by
  cases hk : AL.get k s.keydir with
  | none => rw [abs_none_of_none hk, get_absent_of_none hk]
  | some loc =>
    obtain ⟨v, hv⟩ := get_of_locOk hk (h.locs k loc hk)
    unfold St.abs; rw [hv]

theorem dataOf_set_other' (d : Disk) {fid fid' : Nat} (h : fid' ≠ fid) (rs : List Rec)
    (hint : List (Nat × List Hint)) (tails : List (Nat × Nat)) :
    dataOf { data := AL.set fid rs d.data, hint := hint, tails := tails } fid' = dataOf d fid' := by
  unfold dataOf; rw [AL.get_set_other h]

theorem dataOf_set_same' (d : Disk) (fid : Nat) (rs : List Rec) (hint : List (Nat × List Hint))
    (tails : List (Nat × Nat)) :
    dataOf { data := AL.set fid rs d.data, hint := hint, tails := tails } fid = rs := by
  unfold dataOf; rw [AL.get_set_same]; rfl

theorem dataOf_set_same (d : Disk) (fid : Nat) (rs : List Rec) :
    dataOf { d with data := AL.set fid rs d.data } fid = rs :=
  dataOf_set_same' d fid rs _ _

theorem dataOf_set_other (d : Disk) {fid fid' : Nat} (h : fid' ≠ fid) (rs : List Rec) :
    dataOf { d with data := AL.set fid rs d.data } fid' = dataOf d fid' :=
  dataOf_set_other' d h rs _ _

theorem dataOf_absent {d : Disk} {f : Nat} (h : f ∉ AL.keys d.data) : dataOf d f = [] := by
  rw [dataOf, AL.get_eq_none_iff.mpr h]; rfl

theorem mem_keys_of_dataOf_ne_nil {d : Disk} {f : Nat} (h : dataOf d f ≠ []) : f ∈ AL.keys d.data :=
  Decidable.of_not_not fun hn => h (dataOf_absent hn)

theorem isSome_of_recAt {d : Disk} {fid p : Nat} {x : Rec} (h : recAt (dataOf d fid) p = some x) :
    (AL.get fid d.data).isSome :=
  (AL.isSome_get _ _).mpr (mem_keys_of_dataOf_ne_nil fun e => by rw [e] at h; cases h)

theorem mem_keys_del {κ β : Type} [DecidableEq κ] {k k' : κ} {l : List (κ × β)}
    (h : k' ∈ AL.keys (AL.del k l)) : k' ≠ k ∧ k' ∈ AL.keys l :=
  AL.mem_keys_del.mp h

theorem keys_set_le {β : Type} {l : List (Nat × β)} {k b : Nat} {v : β} (hk : k ≤ b)
    (hl : ∀ id, id ∈ AL.keys l → id ≤ b) : ∀ id, id ∈ AL.keys (AL.set k v l) → id ≤ b :=
  fun id hid => (AL.mem_keys_set.mp hid).elim (fun e => e ▸ hk) (hl id)

theorem recAt_set_data {d : Disk} {f fid p : Nat} {x : Rec} (rs : List Rec)
    (hint : List (Nat × List Hint)) (tails : List (Nat × Nat))
    (h1 : recAt (dataOf d f) p = some x) (h2 : (AL.get f d.data).isSome)
    (hrs : f = fid → recAt rs p = some x) :
    recAt (dataOf { data := AL.set fid rs d.data, hint := hint, tails := tails } f) p = some x ∧
      (AL.get f (AL.set fid rs d.data)).isSome := by
  by_cases hf : f = fid
  · subst hf
    rw [dataOf_set_same']
    exact ⟨hrs rfl, AL.isSome_get_set _ _ _⟩
  · rw [dataOf_set_other' d hf, AL.get_set_other hf]
    exact ⟨h1, h2⟩

def Keeps (b : Nat) (d d' : Disk) : Prop :=
  ∀ fid p x, fid ≤ b → recAt (dataOf d fid) p = some x → (AL.get fid d.data).isSome →
    recAt (dataOf d' fid) p = some x ∧ (AL.get fid d'.data).isSome

theorem Keeps.refl (b : Nat) (d : Disk) : Keeps b d d := fun _ _ _ _ h1 h2 => ⟨h1, h2⟩

theorem Keeps.trans {b : Nat} {d1 d2 d3 : Disk} (h12 : Keeps b d1 d2) (h23 : Keeps b d2 d3) : Keeps b d1 d3 :=
  fun fid p x hb h1 h2 => let ⟨a, c⟩ := h12 fid p x hb h1 h2; h23 fid p x hb a c

theorem keeps_append (b : Nat) (d : Disk) (fid : Nat) (r : Rec) (hint : List (Nat × List Hint)) (tails : List (Nat × Nat)) :
    Keeps b d { data := AL.set fid (dataOf d fid ++ [r]) d.data, hint := hint, tails := tails } :=
  fun _ _ _ _ h1 h2 => recAt_set_data _ _ _ h1 h2 (fun e => recAt_append_left (e ▸ h1) _)

theorem keeps_create (b : Nat) (d : Disk) (fid : Nat) (hgt : b < fid) (hint : List (Nat × List Hint)) (tails : List (Nat × Nat)) :
    Keeps b d { data := AL.set fid [] d.data, hint := hint, tails := tails } :=
  fun _ _ _ hb h1 h2 => recAt_set_data _ _ _ h1 h2 (fun e => absurd (e ▸ hb) (Nat.not_le_of_lt hgt))

theorem LocOk.keeps {b : Nat} {d d' : Disk} {k : Key} {loc : Loc} (h : LocOk d k loc) (hb : loc.fid ≤ b)
    (hk : Keeps b d d') : LocOk d' k loc := by
  obtain ⟨x, h1, h2, h3, h4, h5⟩ := h
  obtain ⟨a, c⟩ := hk _ _ _ hb h1 h5
  exact ⟨x, a, h2, h3, h4, c⟩

theorem abs_keeps {b : Nat} {s s' : St} {k : Key} (hs : ∀ loc, AL.get k s.keydir = some loc → LocOk s.disk k loc ∧ loc.fid ≤ b)
    (hk : AL.get k s'.keydir = AL.get k s.keydir) (hd : Keeps b s.disk s'.disk) : s'.abs k = s.abs k := by
  cases hg : AL.get k s.keydir with
  | none => rw [abs_none_of_none hg, abs_none_of_none (by rw [hk, hg])]
  | some loc =>
    obtain ⟨hl, hb⟩ := hs loc hg
    obtain ⟨x, h1, _, _, _, h5⟩ := id hl
    exact abs_stable hg (hk.trans hg) hl (fun r hr => (hd _ _ _ hb hr h5).1) (hd _ _ _ hb h1 h5).2

theorem LocOk.append {d : Disk} {k : Key} {loc : Loc} (h : LocOk d k loc) (fid : Nat) (r : Rec) :
    LocOk { d with data := AL.set fid (dataOf d fid ++ [r]) d.data } k loc :=
  h.keeps (Nat.le_refl _) (keeps_append _ d fid r _ _)

theorem LocOk.create {d : Disk} {k : Key} {loc : Loc} (h : LocOk d k loc) (fid : Nat)
    (hne : loc.fid ≠ fid) : LocOk { d with data := AL.set fid [] d.data } k loc := by
  obtain ⟨x, h1, h2, h3, h4, h5⟩ := h
  obtain ⟨a, c⟩ := recAt_set_data [] d.hint d.tails h1 h5 (fun e => absurd e hne)
  exact ⟨x, a, h2, h3, h4, c⟩

theorem write_roll (cfg : Cfg) (s : St) (r : Rec) (hroll : s.written + r.len > cfg.maxFile) :
    write cfg s r =
      ({ s with disk := { data := (AL.set (s.active + 1) [] (AL.set s.active (dataOf s.disk s.active ++ [r]) s.disk.data)),
                          hint := s.disk.hint, tails := s.disk.tails },
                written := 0, active := s.active + 1,
                stats := updStat s.stats s.active (fun st => if r.val.isSome then st.addLive else st.addDead r.len) },
       { fid := s.active, pos := fileSize (dataOf s.disk s.active), len := r.len, ts := r.ts },
       [Call.append ⟨.data, s.active⟩ (.ofRec r)] ++
         (if cfg.syncAlways then [Call.fsync ⟨.data, s.active⟩] else []) ++ [Call.create ⟨.data, s.active + 1⟩]) := by
  unfold write
  simp only [hroll, ↓reduceIte, newActive]

theorem write_noroll (cfg : Cfg) (s : St) (r : Rec) (hroll : ¬ s.written + r.len > cfg.maxFile) :
    write cfg s r =
      ({ s with disk := { s.disk with data := AL.set s.active (dataOf s.disk s.active ++ [r]) s.disk.data },
                written := s.written + r.len,
                stats := updStat s.stats s.active (fun st => if r.val.isSome then st.addLive else st.addDead r.len) },
       { fid := s.active, pos := fileSize (dataOf s.disk s.active), len := r.len, ts := r.ts },
       [Call.append ⟨.data, s.active⟩ (.ofRec r)] ++
         (if cfg.syncAlways then [Call.fsync ⟨.data, s.active⟩] else [])) := by
  unfold write
  simp only [hroll, ↓reduceIte]

theorem write_loc (cfg : Cfg) (s : St) (r : Rec) :
    (write cfg s r).2.1 = { fid := s.active, pos := fileSize (dataOf s.disk s.active), len := r.len, ts := r.ts } := by
  by_cases hroll : s.written + r.len > cfg.maxFile
  · rw [write_roll cfg s r hroll]
  · rw [write_noroll cfg s r hroll]

theorem write_keydir (cfg : Cfg) (s : St) (r : Rec) : (write cfg s r).1.keydir = s.keydir := by
  by_cases hroll : s.written + r.len > cfg.maxFile
  · rw [write_roll cfg s r hroll]
  · rw [write_noroll cfg s r hroll]

theorem write_hint (cfg : Cfg) (s : St) (r : Rec) : (write cfg s r).1.disk.hint = s.disk.hint := by
  by_cases hroll : s.written + r.len > cfg.maxFile
  · rw [write_roll cfg s r hroll]
  · rw [write_noroll cfg s r hroll]

theorem write_tails (cfg : Cfg) (s : St) (r : Rec) : (write cfg s r).1.disk.tails = s.disk.tails := by
  by_cases hroll : s.written + r.len > cfg.maxFile
  · rw [write_roll cfg s r hroll]
  · rw [write_noroll cfg s r hroll]

theorem write_disk (cfg : Cfg) (s : St) (r : Rec) :
    (write cfg s r).1.disk =
      if s.written + r.len > cfg.maxFile then
        { s.disk with data := AL.set (s.active + 1) [] (AL.set s.active (dataOf s.disk s.active ++ [r]) s.disk.data) }
      else { s.disk with data := AL.set s.active (dataOf s.disk s.active ++ [r]) s.disk.data } := by
  by_cases hroll : s.written + r.len > cfg.maxFile
  · rw [write_roll cfg s r hroll, if_pos hroll]
  · rw [write_noroll cfg s r hroll, if_neg hroll]

theorem write_active (cfg : Cfg) (s : St) (r : Rec) :
    (write cfg s r).1.active = if s.written + r.len > cfg.maxFile then s.active + 1 else s.active := by
  by_cases hroll : s.written + r.len > cfg.maxFile
  · rw [write_roll cfg s r hroll, if_pos hroll]
  · rw [write_noroll cfg s r hroll, if_neg hroll]

theorem write_keeps_appended (cfg : Cfg) (s : St) (r : Rec) :
    Keeps s.active { s.disk with data := AL.set s.active (dataOf s.disk s.active ++ [r]) s.disk.data }
      (write cfg s r).1.disk := by
  by_cases hroll : s.written + r.len > cfg.maxFile
  · rw [write_roll cfg s r hroll]; exact keeps_create _ _ _ (Nat.lt_succ_self _) _ _
  · rw [write_noroll cfg s r hroll]; exact Keeps.refl _ _

theorem write_keeps (cfg : Cfg) (s : St) (r : Rec) : Keeps s.active s.disk (write cfg s r).1.disk :=
  (keeps_append _ _ _ _ _ _).trans (write_keeps_appended cfg s r)

theorem write_recAt (cfg : Cfg) (s : St) (r : Rec) :
    recAt (dataOf (write cfg s r).1.disk s.active) (fileSize (dataOf s.disk s.active)) = some r ∧
      (AL.get s.active (write cfg s r).1.disk.data).isSome :=
  write_keeps_appended cfg s r _ _ _ (Nat.le_refl _)
    (by rw [dataOf_set_same]; exact recAt_append_size _ _ [])
    (AL.isSome_get_set _ _ _)

theorem write_ids (cfg : Cfg) (s : St) (r : Rec) (h : Inv s) :
    (∀ id, id ∈ AL.keys (write cfg s r).1.disk.data → id ≤ (write cfg s r).1.active) ∧
    (∀ id, id ∈ AL.keys (write cfg s r).1.disk.hint → id ≤ (write cfg s r).1.active) ∧
    (AL.get (write cfg s r).1.active (write cfg s r).1.disk.data).isSome := by
  by_cases hroll : s.written + r.len > cfg.maxFile
  · rw [write_roll cfg s r hroll]
    exact ⟨keys_set_le (Nat.le_refl _) (keys_set_le (Nat.le_succ _) fun id hid => Nat.le_succ_of_le (h.ids id hid)),
      fun id hid => Nat.le_succ_of_le (h.hids id hid), AL.isSome_get_set _ _ _⟩
  · rw [write_noroll cfg s r hroll]
    exact ⟨keys_set_le (Nat.le_refl _) h.ids, h.hids, AL.isSome_get_set _ _ _⟩

theorem accountPrev_keydir (s : St) (p : Option Loc) : (accountPrev s p).keydir = s.keydir := by
  unfold accountPrev; cases p <;> rfl
theorem accountPrev_disk (s : St) (p : Option Loc) : (accountPrev s p).disk = s.disk := by
  unfold accountPrev; cases p <;> rfl
theorem accountPrev_active (s : St) (p : Option Loc) : (accountPrev s p).active = s.active := by
  unfold accountPrev; cases p <;> rfl
theorem Stats.accountPrev_written (s : St) (p : Option Loc) : (accountPrev s p).written = s.written := by
  unfold accountPrev; cases p <;> rfl

theorem put_fst (cfg : Cfg) (s : St) (ts : Int) (k : Key) (v : Val) :
    (put cfg s ts k v).1 =
      accountPrev { (write cfg s ⟨ts, k, some v⟩).1 with
          keydir := AL.set k (write cfg s ⟨ts, k, some v⟩).2.1 (write cfg s ⟨ts, k, some v⟩).1.keydir }
        (AL.get k (write cfg s ⟨ts, k, some v⟩).1.keydir) := by
  simp only [put]

theorem delete_fst (cfg : Cfg) (s : St) (ts : Int) (k : Key) :
    (delete cfg s ts k).1 =
      accountPrev { (write cfg s ⟨ts, k, none⟩).1 with keydir := AL.del k (write cfg s ⟨ts, k, none⟩).1.keydir }
        (AL.get k (write cfg s ⟨ts, k, none⟩).1.keydir) := by
  simp only [delete]

theorem put_disk (cfg : Cfg) (s : St) (ts : Int) (k : Key) (v : Val) :
    (put cfg s ts k v).1.disk = (write cfg s { ts := ts, key := k, val := some v }).1.disk := by
  rw [put_fst, accountPrev_disk]
theorem put_active (cfg : Cfg) (s : St) (ts : Int) (k : Key) (v : Val) :
    (put cfg s ts k v).1.active = (write cfg s { ts := ts, key := k, val := some v }).1.active := by
  rw [put_fst, accountPrev_active]
theorem put_keydir (cfg : Cfg) (s : St) (ts : Int) (k : Key) (v : Val) :
    (put cfg s ts k v).1.keydir =
      AL.set k (write cfg s { ts := ts, key := k, val := some v }).2.1
        (write cfg s { ts := ts, key := k, val := some v }).1.keydir := by
  rw [put_fst, accountPrev_keydir]

theorem delete_disk (cfg : Cfg) (s : St) (ts : Int) (k : Key) :
    (delete cfg s ts k).1.disk = (write cfg s { ts := ts, key := k, val := none }).1.disk := by
  rw [delete_fst, accountPrev_disk]
theorem delete_active (cfg : Cfg) (s : St) (ts : Int) (k : Key) :
    (delete cfg s ts k).1.active = (write cfg s { ts := ts, key := k, val := none }).1.active := by
  rw [delete_fst, accountPrev_active]
theorem delete_keydir (cfg : Cfg) (s : St) (ts : Int) (k : Key) :
    (delete cfg s ts k).1.keydir =
      AL.del k (write cfg s { ts := ts, key := k, val := none }).1.keydir := by
  rw [delete_fst, accountPrev_keydir]
theorem delete_found (cfg : Cfg) (s : St) (ts : Int) (k : Key) :
    (delete cfg s ts k).2.1 = (AL.get k s.keydir).isSome := by
  unfold delete; simp only [write_keydir]

theorem inv_of_write (cfg : Cfg) {s : St} (r : Rec) (h : Inv s) {s' : St}
    (hd : s'.disk = (write cfg s r).1.disk) (ha : s'.active = (write cfg s r).1.active)
    (hk : ∀ k loc, AL.get k s'.keydir = some loc →
      AL.get k s.keydir = some loc ∨ (r.val.isSome ∧ k = r.key ∧ loc = (write cfg s r).2.1)) : Inv s' := by
  obtain ⟨i1, i2, i3⟩ := write_ids cfg s r h
  refine ⟨fun k loc hg => ?_, by rw [hd, ha]; exact i1, by rw [hd, ha]; exact i2, by rw [hd, ha]; exact i3⟩
  rw [hd]
  rcases hk k loc hg with ho | ⟨hv, rfl, rfl⟩
  · exact (h.locs _ _ ho).keeps ((h.locs _ _ ho).fid_le h) (write_keeps cfg s r)
  · obtain ⟨n1, n2⟩ := write_recAt cfg s r
    rw [write_loc]
    exact ⟨r, n1, rfl, hv, rfl, n2⟩

theorem put_inv (cfg : Cfg) (s : St) (ts : Int) (k : Key) (v : Val) (h : Inv s) :
    Inv (put cfg s ts k v).1 := by
  refine inv_of_write cfg _ h (put_disk cfg s ts k v) (put_active cfg s ts k v) (fun k' loc' hk' => ?_)
  rw [put_keydir, AL.get_set, write_keydir] at hk'
  by_cases hkk : k' = k
  · rw [if_pos hkk] at hk'; exact .inr ⟨rfl, hkk, (Option.some.inj hk').symm⟩
  · rw [if_neg hkk] at hk'; exact .inl hk'

theorem delete_inv (cfg : Cfg) (s : St) (ts : Int) (k : Key) (h : Inv s) :
    Inv (delete cfg s ts k).1 := by
  refine inv_of_write cfg _ h (delete_disk cfg s ts k) (delete_active cfg s ts k) (fun k' loc' hk' => ?_)
  rw [delete_keydir, AL.get_del, write_keydir] at hk'
  by_cases hkk : k' = k
  · rw [if_pos hkk] at hk'; cases hk'
  · rw [if_neg hkk] at hk'; exact .inl hk'

theorem write_abs_other (cfg : Cfg) (s : St) (r : Rec) (h : Inv s) (s' : St)
    (hd : s'.disk = (write cfg s r).1.disk) (k' : Key)
    (hk : AL.get k' s'.keydir = AL.get k' s.keydir) : s'.abs k' = s.abs k' :=
  abs_keeps (fun l hl => ⟨h.locs k' l hl, (h.locs k' l hl).fid_le h⟩) hk (by rw [hd]; exact write_keeps cfg s r)

theorem write_abs_new (cfg : Cfg) (s : St) (r : Rec) (s' : St) (hd : s'.disk = (write cfg s r).1.disk)
    (hk : AL.get r.key s'.keydir = some (write cfg s r).2.1) : s'.abs r.key = r.val := by
  obtain ⟨n1, n2⟩ := write_recAt cfg s r
  rw [write_loc] at hk
  rw [← hd] at n1 n2
  exact abs_of_locOk hk n1 rfl n2

theorem put_abs (cfg : Cfg) (s : St) (ts : Int) (k : Key) (v : Val) (h : Inv s) :
    (put cfg s ts k v).1.abs = s.abs.set k v := by
  funext k'
  unfold Map.set
  by_cases hkk : k' = k
  · rw [if_pos hkk, hkk]
    exact write_abs_new cfg s { ts := ts, key := k, val := some v } _ (put_disk cfg s ts k v)
      (by rw [put_keydir, AL.get_set_same])
  · rw [if_neg hkk]
    exact write_abs_other cfg s _ h _ (put_disk cfg s ts k v) k'
      (by rw [put_keydir, AL.get_set_other hkk, write_keydir])

theorem delete_abs (cfg : Cfg) (s : St) (ts : Int) (k : Key) (h : Inv s) :
    (delete cfg s ts k).1.abs = s.abs.del k ∧ (delete cfg s ts k).2.1 = (s.abs k).isSome := by
  constructor
  · funext k'
    unfold Map.del
    by_cases hkk : k' = k
    · rw [if_pos hkk, hkk]
      exact abs_none_of_none (by rw [delete_keydir, AL.get_del_same])
    · rw [if_neg hkk]
      exact write_abs_other cfg s _ h _ (delete_disk cfg s ts k) k'
        (by rw [delete_keydir, AL.get_del_other hkk, write_keydir])
  · rw [delete_found]
    cases hg : AL.get k s.keydir with
    | none => rw [abs_none_of_none hg]; rfl
    | some loc =>
      obtain ⟨x, h1, h2, h3, h4, h5⟩ := h.locs k loc hg
      rw [abs_of_locOk hg h1 h4 h5, h3]; rfl

end Store
