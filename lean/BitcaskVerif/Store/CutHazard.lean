/-
  Why the merged files are removed in ascending id order (C03): if `sel` is ascending, nothing
  absent is resurrectable in `s` (`Full s`) and the complete selection is hazard-free
  (`NoHazard s sel`), then every prefix of `sel` is hazard-free as well — so a kill between two
  unlinks never resurrects a deleted key.  With it, `stepC_cut_recoversW` at the end of the file is
  the crash theorem for a kill inside any single operation, merge passes included.
-/
import BitcaskVerif.Store.CutUnlink
import BitcaskVerif.Store.CutHistory

namespace Store

/-- the events of a directory with ascending ids are ordered by file id -/
theorem allEvs_sorted {l : List (Nat × List Rec)} (h : Asc l) :
    (allEvs l).Pairwise (fun a b => a.loc.fid ≤ b.loc.fid) := by
  induction l with
  | nil => simp [allEvs]
  | cons x xs ih =>
    obtain ⟨f, rs⟩ := x
    simp only [allEvs]
    rw [List.pairwise_append]
    refine ⟨?_, ih h.tail, ?_⟩
    · have hall : ∀ e ∈ evData f rs 0, e.loc.fid = f := fun e he => evData_fid he
      generalize evData f rs 0 = es at hall
      induction es with
      | nil => simp
      | cons e es ih2 =>
        rw [List.pairwise_cons]
        refine ⟨?_, ih2 (fun a ha => hall a (List.mem_cons_of_mem _ ha))⟩
        intro a ha
        rw [hall e List.mem_cons_self, hall a (List.mem_cons_of_mem _ ha)]
        exact Nat.le_refl _
    · intro a ha b hb
      obtain ⟨f', rs', hm, he⟩ := mem_allEvs hb
      rw [evData_fid ha, evData_fid he]
      exact Nat.le_of_lt (h.head_lt f' (List.mem_map.mpr ⟨_, hm, rfl⟩))

/-- in a list ordered by file id the deciding event of a key is in the highest file that has an
    event of that key -/
theorem lastFor_max {k : Key} {es : List Ev} (hs : es.Pairwise (fun a b => a.loc.fid ≤ b.loc.fid)) {e : Ev}
    (h : lastFor k es = some e) : ∀ e' ∈ es, e'.key = k → e'.loc.fid ≤ e.loc.fid := by
  induction es with
  | nil => simp [lastFor] at h
  | cons x xs ih =>
    rw [List.pairwise_cons] at hs
    simp only [lastFor] at h
    intro e' he' hk'
    cases hx : lastFor k xs with
    | some y =>
      simp only [hx, Option.some.injEq] at h
      subst h
      rcases List.mem_cons.mp he' with rfl | he'
      · exact hs.1 _ (lastFor_key hx).2
      · exact ih hs.2 hx e' he' hk'
    | none =>
      simp only [hx] at h
      by_cases hxk : x.key = k
      · simp only [hxk, ↓reduceIte, Option.some.injEq] at h
        subst h
        rcases List.mem_cons.mp he' with rfl | he'
        · exact Nat.le_refl _
        · exact absurd hk' ((lastFor_none.mp hx) e' he')
      · simp [hxk] at h

/-- **ascending removal order**: with `sel` ascending, `Full s` and `NoHazard s sel`, every
    prefix of `sel` is hazard-free -/
theorem noHazard_prefix_of_sorted {s : St} (ha : Asc s.disk.data) (hf : Full s) {sel : List Nat}
    (hsorted : sel.Pairwise (· ≤ ·)) (hz : NoHazard s sel) {done : List Nat} (hd : done <+: sel) :
    NoHazard s done := by
  obtain ⟨rest, rfl⟩ := hd
  intro k hk
  have hfull := hf k hk
  rw [replay_eq] at hfull ⊢
  cases hl : lastFor k (allEvs s.disk.data) with
  | none =>
    have : lastFor k ((allEvs s.disk.data).filter (fun e => decide (e.loc.fid ∉ done))) = none := by
      rw [lastFor_none]; intro r hr
      exact (lastFor_none.mp hl) r (List.mem_filter.mp hr).1
    rw [this]; rfl
  | some e =>
    have ht : e.tomb = true := by
      cases ht : e.tomb with
      | true => rfl
      | false => simp [hl, evVal, ht] at hfull
    by_cases hq : e.loc.fid ∈ done
    · cases hx : lastFor k ((allEvs s.disk.data).filter (fun e => decide (e.loc.fid ∉ done))) with
      | none => rfl
      | some e' =>
        obtain ⟨hk', hm'⟩ := lastFor_key hx
        obtain ⟨hmE, hq'⟩ := List.mem_filter.mp hm'
        simp only [decide_eq_true_eq] at hq'
        have hle := lastFor_max (allEvs_sorted ha) hl e' hmE hk'
        have hns : e'.loc.fid ∉ done ++ rest := by
          intro hc
          rcases List.mem_append.mp hc with hc | hc
          · exact hq' hc
          · exact hq' (Nat.le_antisymm hle ((List.pairwise_append.mp hsorted).2.2 _ hq _ hc) ▸ hq)
        -- `e'` also decides `k` among the unselected files
        have hkeep := lastFor_filter_keep (fun e => decide (e.loc.fid ∉ done ++ rest)) hx
          (decide_eq_true hns)
        have hff : ((allEvs s.disk.data).filter (fun e => decide (e.loc.fid ∉ done))).filter
            (fun e => decide (e.loc.fid ∉ done ++ rest)) =
            (allEvs s.disk.data).filter (fun e => decide (e.loc.fid ∉ done ++ rest)) := by
          rw [List.filter_filter]
          apply List.filter_congr
          intro a _
          cases h2 : decide (a.loc.fid ∉ done ++ rest) with
          | false => rfl
          | true => exact decide_eq_true fun hc => of_decide_eq_true h2 (List.mem_append_left _ hc)
        rw [hff] at hkeep
        have := hz k hk
        rw [replay_eq, hkeep] at this
        exact this
    · rw [lastFor_filter_keep _ hl (decide_eq_true hq)]
      simp [evVal, ht]

open Tr in
/-- **a kill inside any operation** (merge passes included) -/
theorem stepC_cut_recoversW (cfg : Cfg) {s : St} (h : RInv s) (hf : Full s) (op : TOp) (hop : opOk s op)
    {c : List Call} (hc : Cut (stepC cfg s op).2 c) :
    RecoversW (applyCalls s.disk c) s.abs ∨ RecoversW (applyCalls s.disk c) (specOp s.abs op) := by
  by_cases hm : mergeFree op
  · exact (stepC_cut_recovers cfg h hf op hm hc).imp Recovers.weak Recovers.weak
  · cases op with
    | merge sel order =>
      obtain ⟨h1, h2, h3, h4⟩ := hop
      exact .inl (mergeWith_cut_recovers cfg h sel order h1 h2
        (fun _ hd => noHazard_prefix_of_sorted h.asc hf h3 h4 hd) hc)
    | _ => exact absurd trivial hm

end Store
