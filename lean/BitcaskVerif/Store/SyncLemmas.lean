/-
  Ordering of appends, fsyncs and unlinks in the call lists of the store (C09).

  `syncedB cs` is an executable monitor: every append in `cs` is followed, later in `cs` and
  before any unlink, by an fsync of the same file.  It holds for the calls of `put` / `delete`
  when `sync = always`, and for the calls of every merge pass (the outputs — data and hint — are
  forced to stable storage before the first input is removed; defect D4 is the absence of these
  fsyncs), hence for whole traces.
-/
import BitcaskVerif.Store.CutLemmas

namespace Store

def fsyncBeforeUnlink (f : FName) : List Call → Bool
  | [] => false
  | .fsync g :: rest => decide (g = f) || fsyncBeforeUnlink f rest
  | .unlink _ :: _ => false
  | _ :: rest => fsyncBeforeUnlink f rest

def syncedB : List Call → Bool
  | [] => true
  | .append f _ :: rest => fsyncBeforeUnlink f rest && syncedB rest
  | _ :: rest => syncedB rest

theorem fsyncBeforeUnlink_spec {f : FName} {cs : List Call} (h : fsyncBeforeUnlink f cs = true) :
    ∃ mid rest, cs = mid ++ Call.fsync f :: rest ∧ ∀ c ∈ mid, ∀ g, c ≠ Call.unlink g := by
  induction cs with
  | nil => cases h
  | cons x xs ih =>
    -- a call that is not an unlink is passed over
    have skip : (∀ g, x ≠ Call.unlink g) → fsyncBeforeUnlink f xs = true →
        ∃ mid rest, x :: xs = mid ++ Call.fsync f :: rest ∧ ∀ c ∈ mid, ∀ g, c ≠ Call.unlink g := by
      intro hx h'
      obtain ⟨mid, rest, e, hm⟩ := ih h'
      refine ⟨x :: mid, rest, by rw [e]; rfl, ?_⟩
      intro c hc
      rcases List.mem_cons.mp hc with rfl | hc
      · exact hx
      · exact hm c hc
    cases x with
    | fsync g =>
      simp only [fsyncBeforeUnlink, Bool.or_eq_true, decide_eq_true_eq] at h
      rcases h with rfl | h
      · exact ⟨[], xs, rfl, fun _ hc => nomatch hc⟩
      · exact skip (fun _ => nofun) h
    | unlink g => cases h
    | create g => exact skip (fun _ => nofun) h
    | append g q => exact skip (fun _ => nofun) h

theorem syncedB_tail {x : Call} {xs : List Call} (h : syncedB (x :: xs) = true) : syncedB xs = true := by
  cases x with
  | append f p => exact (Bool.and_eq_true _ _ ▸ h).2
  | fsync f => exact h
  | unlink f => exact h
  | create f => exact h

theorem syncedB_spec {cs : List Call} (h : syncedB cs = true) :
    ∀ pre f p post, cs = pre ++ Call.append f p :: post →
      ∃ mid rest, post = mid ++ Call.fsync f :: rest ∧ ∀ c ∈ mid, ∀ g, c ≠ Call.unlink g := by
  intro pre
  induction pre generalizing cs with
  | nil =>
    intro f p post e
    subst e
    exact fsyncBeforeUnlink_spec (Bool.and_eq_true _ _ ▸ h).1
  | cons y pre ih =>
    intro f p post e
    subst e
    exact ih (syncedB_tail h) f p post rfl

theorem fbu_append_mono (f : FName) (cs : List Call) {t t' : List Call}
    (h1 : fsyncBeforeUnlink f t = true → fsyncBeforeUnlink f t' = true) :
    fsyncBeforeUnlink f (cs ++ t) = true → fsyncBeforeUnlink f (cs ++ t') = true := by
  induction cs with
  | nil => exact h1
  | cons x xs ih =>
    cases x with
    | fsync g =>
      simp only [List.cons_append, fsyncBeforeUnlink, Bool.or_eq_true]
      exact Or.imp_right ih
    | unlink g => exact id
    | create g => exact ih
    | append g q => exact ih

theorem synced_mono (cs : List Call) {t t' : List Call}
    (h1 : ∀ f, fsyncBeforeUnlink f t = true → fsyncBeforeUnlink f t' = true)
    (h2 : syncedB t = true → syncedB t' = true) :
    syncedB (cs ++ t) = true → syncedB (cs ++ t') = true := by
  induction cs with
  | nil => exact h2
  | cons x xs ih =>
    cases x with
    | append g q =>
      simp only [List.cons_append, syncedB, Bool.and_eq_true]
      exact And.imp (fbu_append_mono g xs (h1 g)) ih
    | fsync g => exact ih
    | unlink g => exact ih
    | create g => exact ih

theorem synced_append {a b : List Call} (ha : syncedB a = true) (hb : syncedB b = true) :
    syncedB (a ++ b) = true :=
  synced_mono a (t := []) (fun _ h => nomatch h) (fun _ => hb) (by rw [List.append_nil]; exact ha)

theorem synced_of_noappend {cs : List Call} (h : ∀ x ∈ cs, ∀ f p, x ≠ Call.append f p) : syncedB cs = true := by
  induction cs with
  | nil => rfl
  | cons x xs ih =>
    have ih' : syncedB xs = true := ih (fun y hy => h y (List.mem_cons_of_mem _ hy))
    cases x with
    | append g q => exact absurd rfl (h _ List.mem_cons_self g q)
    | fsync g => exact ih'
    | unlink g => exact ih'
    | create g => exact ih'

theorem write_calls_sync (cfg : Cfg) (s : St) (r : Rec) (h : cfg.syncAlways = true) :
    (write cfg s r).2.2 = [Call.append ⟨.data, s.active⟩ (.ofRec r), Call.fsync ⟨.data, s.active⟩] ++
      (if s.written + r.len > cfg.maxFile then [Call.create ⟨.data, s.active + 1⟩] else []) := by
  rw [Tr.write_calls, h]; rfl

theorem write_synced (cfg : Cfg) (s : St) (r : Rec) (h : cfg.syncAlways = true) :
    syncedB (write cfg s r).2.2 = true := by
  rw [write_calls_sync cfg s r h]
  refine synced_append (by simp [syncedB, fsyncBeforeUnlink]) (synced_of_noappend ?_)
  intro x hx
  split at hx
  · cases List.mem_singleton.mp hx; exact fun _ _ => nofun
  · cases hx

/-- loop invariant: with the two fsyncs of the current output appended, the calls so far pass the
    monitor -/
def MSync (m : MergeSt) : Prop :=
  syncedB (m.calls ++ [Call.fsync ⟨.data, m.mid⟩, Call.fsync ⟨.hint, m.mid⟩]) = true

theorem synced_appends_fsyncs (f g : FName) (p q : Payload) (rest : List Call) :
    syncedB (Call.append f p :: Call.append g q :: Call.fsync f :: Call.fsync g :: rest) = syncedB rest := by
  simp [syncedB, fsyncBeforeUnlink]

open Tr in
theorem mergeStep_msync (cfg : Cfg) (sel : List Nat) (m : MergeSt) (k : Key) (h : MSync m) :
    MSync (mergeStep cfg sel m k) := by
  apply mergeStep_ind MSync cfg sel m k h h
  · intro loc r _ _ _
    unfold MSync at h ⊢
    simp only [moveNoRoll, moveCalls, List.append_assoc]
    refine synced_mono m.calls ?_ ?_ h
    · exact fun _ h => h
    · exact fun _ => synced_appends_fsyncs ..
  · intro loc r _ _ _
    unfold MSync at h ⊢
    simp only [moveRoll, moveCalls, List.append_assoc]
    refine synced_mono m.calls ?_ ?_ h
    · exact fun f => fbu_append_mono f [_, _] (t := []) (fun h => nomatch h)
    · exact fun _ => synced_appends_fsyncs ..

theorem mergeWith_synced (cfg : Cfg) (s : St) (sel : List Nat) (order : List Key) :
    syncedB (mergeWith cfg s sel order).2 = true := by
  have hL : MSync (mergeLoop cfg s sel order) :=
    foldl_inv (P := MSync) (mergeStep_msync cfg sel) order (by simp [MSync, mergeStart, syncedB])
  obtain ⟨ul, e, hul⟩ := mergeWith_calls_shape cfg s sel order
  rw [e, List.append_assoc]
  refine synced_append hL (synced_of_noappend ?_)
  intro x hx
  rcases List.mem_append.mp hx with hx | hx
  · obtain ⟨_, _, _, rfl⟩ := hul x hx
    exact fun _ _ => nofun
  · cases List.mem_singleton.mp hx
    exact fun _ _ => nofun

def callId : Call → Nat
  | .create f => f.id
  | .append f _ => f.id
  | .fsync f => f.id
  | .unlink f => f.id

def OutCall (A : Nat) (c : Call) : Prop := A < callId c ∧ ∀ f, c ≠ Call.unlink f

def MOut (A : Nat) (m : MergeSt) : Prop := A < m.mid ∧ ∀ c ∈ m.calls, OutCall A c

theorem mergeStart_mout (s : St) : MOut s.active (mergeStart s) := by
  refine ⟨Nat.lt_succ_self _, ?_⟩
  intro c hc
  simp only [mergeStart, List.mem_cons, List.not_mem_nil, or_false] at hc
  rcases hc with rfl | rfl <;> exact ⟨Nat.lt_succ_self _, nofun⟩

open Tr in
theorem mergeStep_mout (cfg : Cfg) (sel : List Nat) (A : Nat) (m : MergeSt) (k : Key) (h : MOut A m) :
    MOut A (mergeStep cfg sel m k) := by
  apply mergeStep_ind (MOut A) cfg sel m k h h
  · intro loc r _ _ _
    refine ⟨h.1, ?_⟩
    intro c hc
    simp only [moveNoRoll, moveCalls, List.mem_append, List.mem_cons, List.not_mem_nil, or_false] at hc
    rcases hc with hc | rfl | rfl
    · exact h.2 c hc
    · exact ⟨h.1, nofun⟩
    · exact ⟨h.1, nofun⟩
  · intro loc r _ _ _
    refine ⟨Nat.lt_succ_of_lt h.1, ?_⟩
    intro c hc
    simp only [moveRoll, moveCalls, List.mem_append, List.mem_cons, List.not_mem_nil, or_false] at hc
    rcases hc with (hc | rfl | rfl) | rfl | rfl | rfl | rfl
    · exact h.2 c hc
    · exact ⟨h.1, nofun⟩
    · exact ⟨h.1, nofun⟩
    · exact ⟨h.1, nofun⟩
    · exact ⟨h.1, nofun⟩
    · exact ⟨Nat.lt_succ_of_lt h.1, nofun⟩
    · exact ⟨Nat.lt_succ_of_lt h.1, nofun⟩

theorem mergeWith_targets (cfg : Cfg) (s : St) (sel : List Nat) (order : List Key) :
    ∀ c ∈ (mergeWith cfg s sel order).2,
      (∀ f p, c = Call.append f p → s.active < f.id) ∧ (∀ f, c = Call.unlink f → f.id ∈ sel) := by
  have hL : MOut s.active (mergeLoop cfg s sel order) :=
    foldl_inv (P := MOut s.active) (mergeStep_mout cfg sel _) order (mergeStart_mout s)
  obtain ⟨ul, e, hul⟩ := mergeWith_calls_shape cfg s sel order
  rw [e]
  intro c hc
  simp only [List.mem_append, List.mem_cons, List.not_mem_nil, or_false] at hc
  rcases hc with ((hc | rfl | rfl) | hc) | rfl
  · have := hL.2 c hc
    exact ⟨fun f p e => by subst e; exact this.1, fun f e => (this.2 f e).elim⟩
  · exact ⟨fun _ _ => nofun, fun _ => nofun⟩
  · exact ⟨fun _ _ => nofun, fun _ => nofun⟩
  · obtain ⟨kd, i, hi, rfl⟩ := hul c hc
    exact ⟨fun _ _ => nofun, fun f e => by cases e; exact hi⟩
  · exact ⟨fun _ _ => nofun, fun _ => nofun⟩

def opRec : Tr.TOp → Option Rec
  | .put ts k v => some ⟨ts, k, some v⟩
  | .del ts k => some ⟨ts, k, none⟩
  | _ => none

theorem stepC_write {op : Tr.TOp} {r : Rec} (h : opRec op = some r) (cfg : Cfg) (s : St) :
    (Tr.stepC cfg s op).2 = (write cfg s r).2.2 ∧ (Tr.stepC cfg s op).1.disk = (write cfg s r).1.disk := by
  cases op with
  | put ts k v => cases h; exact ⟨Tr.put_calls cfg s ts k v, put_disk cfg s ts k v⟩
  | del ts k => cases h; dsimp only [Tr.stepC]; exact ⟨Tr.delete_calls cfg s ts k, delete_disk cfg s ts k⟩
  | get k => cases h
  | merge sel order => cases h
  | reopen => cases h

theorem stepC_synced (cfg : Cfg) (h : cfg.syncAlways = true) (s : St) (op : Tr.TOp) :
    syncedB (Tr.stepC cfg s op).2 = true := by
  cases op with
  | put ts k v => rw [(stepC_write (op := .put ts k v) rfl cfg s).1]; exact write_synced cfg s _ h
  | del ts k => rw [(stepC_write (op := .del ts k) rfl cfg s).1]; exact write_synced cfg s _ h
  | get k => rfl
  | merge sel order => exact mergeWith_synced cfg s sel order
  | reopen => rfl

theorem traceOf_synced (cfg : Cfg) (h : cfg.syncAlways = true) (ops : List Tr.TOp) :
    ∀ s, syncedB (Tr.traceOf cfg s ops) = true := by
  induction ops with
  | nil => intro s; rfl
  | cons op ops ih => intro s; exact synced_append (stepC_synced cfg h s op) (ih _)

end Store
