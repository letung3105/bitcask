/-
  Size of the active file (C14): at the start of every write the byte counter is at most the
  configured maximum and equals the real size of the active file, which has no crash tail.
-/
import BitcaskVerif.Store.TraceRun

namespace Store.Tr
structure SzInv (cfg : Cfg) (s : St) : Prop where
  le : s.written ≤ cfg.maxFile
  eq : s.written = fileSize (dataOf s.disk s.active)

theorem SzInv.congr {cfg : Cfg} {s s' : St} (hd : s'.disk = s.disk) (ha : s'.active = s.active)
    (hw : s'.written = s.written) (h : SzInv cfg s) : SzInv cfg s' := by
  constructor
  · rw [hw]; exact h.le
  · rw [hw, hd, ha]; exact h.eq

theorem write_sz (cfg : Cfg) (s : St) (r : Rec) (h : SzInv cfg s) : SzInv cfg (write cfg s r).1 := by
  by_cases hroll : s.written + r.len > cfg.maxFile
  · rw [write_roll cfg s r hroll]
    constructor
    · exact Nat.zero_le _
    · simp [dataOf, AL.get_set_same]
  · rw [write_noroll cfg s r hroll]
    constructor
    · simp only; omega
    · have := h.eq
      simp only [dataOf, AL.get_set_same, Option.getD_some, fileSize_append, fileSize_cons, fileSize_nil] at this ⊢
      omega

theorem put_written (cfg : Cfg) (s : St) (ts : Int) (k : Key) (v : Val) :
    (put cfg s ts k v).1.written = (write cfg s { ts := ts, key := k, val := some v }).1.written := by
  rw [put_fst, Stats.accountPrev_written]

theorem delete_written (cfg : Cfg) (s : St) (ts : Int) (k : Key) :
    (delete cfg s ts k).1.written = (write cfg s { ts := ts, key := k, val := none }).1.written := by
  rw [delete_fst, Stats.accountPrev_written]

theorem mergeWith_sz (cfg : Cfg) (s : St) (sel : List Nat) (order : List Key) :
    SzInv cfg (mergeWith cfg s sel order).1 := by
  rw [mergeWith_fst]
  constructor
  · exact Nat.zero_le _
  · simp [newActive, dataOf, AL.get_set_same]

theorem reopen_sz (cfg : Cfg) (s : St) : SzInv cfg (reopen s).1 := by
  constructor
  · rw [reopen_written]; exact Nat.zero_le _
  · rw [reopen_written, reopen_disk]; simp [dataOf, AL.get_set_same]

theorem stepC_sz (cfg : Cfg) (s : St) (op : TOp) (h : SzInv cfg s) : SzInv cfg (stepC cfg s op).1 := by
  cases op with
  | put ts k v =>
    simp only [stepC]; exact (write_sz cfg s _ h).congr (put_disk ..) (put_active ..) (put_written ..)
  | del ts k =>
    simp only [stepC]; exact (write_sz cfg s _ h).congr (delete_disk ..) (delete_active ..) (delete_written ..)
  | get k => exact h
  | merge sel order => exact mergeWith_sz cfg s sel order
  | reopen => exact reopen_sz cfg s

theorem run_sz (cfg : Cfg) (ops : List TOp) : ∀ (s : St), SzInv cfg s → SzInv cfg (runC cfg s ops) := by
  induction ops with
  | nil => intro s h; exact h
  | cons op ops ih => intro s h; exact ih _ (stepC_sz cfg s op h)

theorem fresh_sz (cfg : Cfg) : SzInv cfg fresh := by
  constructor
  · exact Nat.zero_le _
  · simp [fresh, dataOf, AL.get]

theorem IdInv.no_tail {s : St} (h : IdInv s) : (AL.get s.active s.disk.tails).getD 0 = 0 := by
  cases hg : AL.get s.active s.disk.tails with
  | none => rfl
  | some v => have := h.tails _ (AL.mem_keys_of_get hg); omega

/-- the merge never starts a copy into an output whose byte counter exceeds the maximum -/
theorem mergeStep_mpos_le (cfg : Cfg) (sel : List Nat) (ms : MergeSt) (k : Key)
    (h : ms.mpos ≤ cfg.maxFile) : (mergeStep cfg sel ms k).mpos ≤ cfg.maxFile := by
  apply mergeStep_ind (fun x => x.mpos ≤ cfg.maxFile) cfg sel ms k
  · exact h
  · exact h
  · intro loc r _ _ hroll; simp only [moveNoRoll]; omega
  · intro loc r _ _ _; simp [moveRoll]

theorem mergeFold_mpos_le (cfg : Cfg) (sel : List Nat) (order : List Key) (ms : MergeSt)
    (h : ms.mpos ≤ cfg.maxFile) : (order.foldl (mergeStep cfg sel) ms).mpos ≤ cfg.maxFile :=
  List.foldlRecOn (motive := fun (ms : MergeSt) => ms.mpos ≤ cfg.maxFile) order _ h
    fun ms h k _ => mergeStep_mpos_le cfg sel ms k h

end Store.Tr