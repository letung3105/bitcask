/-
  `reopen` and whole runs keep the coupling invariant (C14): under the id invariant the startup
  scan finds the active id as the largest one, so the new active id is fresh.
-/
import BitcaskVerif.Store.TraceMerge
import BitcaskVerif.Store.Recovery

namespace Store.Tr

/-- under the id invariant the startup scan finds the active id as the largest one -/
theorem sortedIds_getLast {s : St} (h : IdInv s) : (sortedIds s.disk).getLast? = some s.active :=
  getLast_sortedIds h.top.mem h.ids

theorem reopen_active {s : St} (h : IdInv s) : (reopen s).1.active = s.active + 1 :=
  rebuild_snd_max h.top.mem h.ids

theorem reopen_disk (s : St) :
    (reopen s).1.disk = { s.disk with data := AL.set (reopen s).1.active [] s.disk.data } := rfl

theorem reopen_calls (s : St) : (reopen s).2 = [Call.create ⟨.data, (reopen s).1.active⟩] := rfl

theorem reopen_written (s : St) : (reopen s).1.written = 0 := rfl

theorem reopen_idinv {s : St} (h : IdInv s) : IdInv (reopen s).1 := by
  have t := h.top.push (Nat.le_succ _) ([] : List Rec)
  have ha := reopen_active h
  have hd := reopen_disk s
  rw [ha] at hd
  have h' : IdInv { s with active := s.active + 1,
                           disk := { s.disk with data := AL.set (s.active + 1) [] s.disk.data } } :=
    ⟨t.le, hsub_setData h.hsub _ _, t.ex,
      fun id hid => Nat.lt_succ_of_lt (h.tails id hid), fun id hid => Nat.lt_succ_of_lt (h.hlt id hid)⟩
  exact h'.congr hd ha

theorem MonOk.restart {a : Nat} {m : Mon} (h : MonOk a m) :
    MonOk (a + 1) ((m.step .restart).calls [Call.create ⟨.data, a + 1⟩]) :=
  .of_create (m := m.step .restart) (Nat.le_of_eq h.bound) (fun _ hf => nomatch hf) h.okF h.okO h.okT

/-- the monitor state of a store whose current life began with the creation of its active file -/
def Mon.init (a : Nat) : Mon := ({} : Mon).step (.call (.create ⟨.data, a⟩))

theorem monOk_init (a : Nat) : MonOk a (Mon.init a) :=
  .of_create (Nat.zero_le _) (fun _ hf => nomatch hf) rfl rfl rfl

theorem coup_init {s : St} (h : IdInv s) : Coup s (Mon.init s.active) := ⟨h, monOk_init _⟩

/-- `Mon.init a` without the `create` event, for traces that do not begin with the creation of
    file `a` (`evsOf cfg s ops` alone): what `c14_monitor`, `c14_top_never_removed` and the
    theorems of `Props/C20Merge.lean` start from.  `Mon.init` is for the traces of `mon_own`
    (`c14_appends_own`, `c14_fresh_id_full`, `c14_faults`), which must see the `create`. -/
def Mon.start (a : Nat) : Mon := { bound := a + 1, created := [⟨.data, a⟩] }

theorem monOk_start (a : Nat) : MonOk a (Mon.start a) :=
  ⟨rfl, List.mem_cons_self, fun _ hf => (nomatch hf), rfl, rfl, rfl⟩

theorem stepC_coup (cfg : Cfg) (s : St) (op : TOp) (m : Mon) (h : Coup s m)
    (hv : match op with
          | .merge sel _ => ∀ id, id ∈ sel → id ≤ s.active
          | _ => True) :
    Coup (stepC cfg s op).1 ((m.run op.marker).calls (stepC cfg s op).2) := by
  cases op with
  | put ts k v =>
    rw [stepC, put_calls]
    exact (write_coup cfg s _ m h).congr (put_disk ..) (put_active ..)
  | del ts k =>
    simp only [stepC]; rw [delete_calls]
    exact (write_coup cfg s _ m h).congr (delete_disk ..) (delete_active ..)
  | get k => exact h
  | merge sel order => exact mergeWith_coup cfg s sel order m h hv
  | reopen =>
    refine ⟨reopen_idinv h.inv, ?_⟩
    show MonOk (reopen s).1.active ((m.step .restart).calls (reopen s).2)
    rw [reopen_calls, reopen_active h.inv]
    exact h.mon.restart

theorem stepC_idinv (cfg : Cfg) (s : St) (op : TOp) (h : IdInv s)
    (hv : match op with
          | .merge sel _ => ∀ id, id ∈ sel → id ≤ s.active
          | _ => True) : IdInv (stepC cfg s op).1 :=
  (stepC_coup cfg s op _ (coup_init h) hv).inv

theorem run_coup (cfg : Cfg) (ops : List TOp) : ∀ (s : St) (m : Mon), Coup s m → ValidC cfg s ops →
    Coup (runC cfg s ops) (m.run (evsOf cfg s ops)) := by
  induction ops with
  | nil => intro s m h _; exact h
  | cons op ops ih =>
    intro s m h hv
    have h1 := stepC_coup cfg s op m h hv.1
    have h2 := ih _ _ h1 hv.2
    simp only [runC, evsOf, Mon.run_append]
    exact h2

theorem fresh_idinv : IdInv fresh := ⟨by decide, by decide, by decide, by decide, by decide⟩

theorem run_idinv (cfg : Cfg) (ops : List TOp) (s : St) (h : IdInv s) (hv : ValidC cfg s ops) :
    IdInv (runC cfg s ops) :=
  (run_coup cfg ops s _ (coup_init h) hv).inv

theorem open_empty_calls : (openDisk {}).2 = [Call.create ⟨.data, 0⟩] := by
  simp [openDisk, rebuild, sortedIds, AL.keys]

/-- the complete trace of a store created on an empty directory, with life boundaries -/
def fullEvs (cfg : Cfg) (ops : List TOp) : List TEv := (openDisk {}).2.map TEv.call ++ evsOf cfg fresh ops

/-- states reachable from a freshly created store -/
def Reach (cfg : Cfg) (s : St) : Prop := ∃ ops, ValidC cfg fresh ops ∧ s = runC cfg fresh ops

end Store.Tr