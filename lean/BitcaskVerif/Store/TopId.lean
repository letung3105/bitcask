/-
  The largest id of a directory.  Every operation changes the data files in one of three ways: it
  rewrites a file at or below the newest one, adds a file above it, or removes one below it.
  The first two also keep "every hint file has its data file".
-/
import BitcaskVerif.Store.Lemmas

namespace Store.Tr

/-- `top` is a key of `data` and no key is larger -/
structure TopId {β : Type} (data : List (Nat × β)) (top : Nat) : Prop where
  le : ∀ id, id ∈ AL.keys data → id ≤ top
  ex : (AL.get top data).isSome

section TopId
variable {β : Type} {data : List (Nat × β)} {top : Nat}

theorem TopId.mem (h : TopId data top) : top ∈ AL.keys data := mem_keys_of_isSome h.ex

theorem TopId.set (h : TopId data top) {id : Nat} (hid : id ≤ top) (v : β) : TopId (AL.set id v data) top := by
  refine ⟨keys_set_le hid h.le, ?_⟩
  rw [AL.get_set]
  split
  · rfl
  · exact h.ex

theorem TopId.push (h : TopId data top) {b : Nat} (hb : top ≤ b) (v : β) : TopId (AL.set b v data) b :=
  ⟨keys_set_le (Nat.le_refl b) fun i hi => Nat.le_trans (h.le i hi) hb, AL.isSome_get_set _ _ _⟩

theorem TopId.del (h : TopId data top) {id : Nat} (hid : top ≠ id) : TopId (AL.del id data) top :=
  ⟨fun i hi => h.le i (AL.mem_keys_del.mp hi).2, by rw [AL.get_del_other hid]; exact h.ex⟩

end TopId

section hsub
variable {β γ : Type} {hint : List (Nat × γ)} {data : List (Nat × β)}

/-- hint files keep their data files when a data file is written -/
theorem hsub_setData (h : ∀ id, id ∈ AL.keys hint → id ∈ AL.keys data) (b : Nat) (v : β) :
    ∀ id, id ∈ AL.keys hint → id ∈ AL.keys (AL.set b v data) :=
  fun id hid => AL.mem_keys_set.mpr (.inr (h id hid))

/-- ... and when the same id is written in both lists -/
theorem hsub_set (h : ∀ id, id ∈ AL.keys hint → id ∈ AL.keys data) (b : Nat) (w : γ) (v : β) :
    ∀ id, id ∈ AL.keys (AL.set b w hint) → id ∈ AL.keys (AL.set b v data) :=
  fun id hid => AL.mem_keys_set.mpr ((AL.mem_keys_set.mp hid).imp_right (h id))

end hsub

end Store.Tr
