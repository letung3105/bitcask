/-
  Power loss during a merge pass (C09): what is durable after the calls of the merge loop, every
  cut of the copy phase, and the theorem for the whole merge pass.
-/
import BitcaskVerif.Store.PowerImage

namespace Store

/-! ### durability along the calls of a merge pass

  Every append of the copy loop goes to the current output, and an output is fsynced before the
  next one is created: after the calls of every loop state everything but the current output is
  durable.  This is a fact about the calls alone (any state, any selection). -/

section
variable {sd0 : SDisk2} {m : MergeSt}

theorem allBut_moveNoRoll (h : AllBut m.mid (syncCalls2 sd0 m.calls)) (k : Key) (loc : Loc) (r : Rec) :
    AllBut m.mid (syncCalls2 sd0 (Tr.moveNoRoll m k loc r).calls) := by
  show AllBut m.mid (syncCalls2 sd0 (m.calls ++ _))
  rw [syncCalls2_append]
  exact allBut_append (allBut_append h _ _) _ _

theorem allBut_fsyncs_then (h : AllBut m.mid (syncCalls2 sd0 m.calls)) {rest : List Call}
    (hr : ∀ c ∈ rest, ∀ f p, c ≠ Call.append f p) :
    FullySynced2 (syncCalls2 sd0 (m.calls ++ Call.fsync ⟨.data, m.mid⟩ :: Call.fsync ⟨.hint, m.mid⟩ :: rest)) := by
  rw [syncCalls2_append]
  exact fullySynced2_steps rest (allBut_fsyncs h) hr

theorem allBut_moveRoll (h : AllBut m.mid (syncCalls2 sd0 m.calls)) (k : Key) (loc : Loc) (r : Rec) :
    AllBut (m.mid + 1) (syncCalls2 sd0 (Tr.moveRoll m k loc r).calls) :=
  (allBut_fsyncs_then (m := Tr.moveNoRoll m k loc r) (allBut_moveNoRoll h k loc r)
    (rest := [Call.create ⟨.data, m.mid + 1⟩, Call.create ⟨.hint, m.mid + 1⟩]) (noAppend_of rfl)).allBut _

end

theorem mergeStep_allBut (cfg : Cfg) (sel : List Nat) {sd0 : SDisk2} (m : MergeSt) (k : Key)
    (h : AllBut m.mid (syncCalls2 sd0 m.calls)) :
    AllBut (mergeStep cfg sel m k).mid (syncCalls2 sd0 (mergeStep cfg sel m k).calls) := by
  apply Tr.mergeStep_ind (fun m' => AllBut m'.mid (syncCalls2 sd0 m'.calls)) cfg sel m k h h
  · intro loc r _ _ _; exact allBut_moveNoRoll h k loc r
  · intro loc r _ _ _; exact allBut_moveRoll h k loc r

theorem mergeLoop_allBut (cfg : Cfg) (s : St) (sel : List Nat) (order : List Key) {sd0 : SDisk2}
    (hfs : FullySynced2 sd0) :
    AllBut (mergeLoop cfg s sel order).mid (syncCalls2 sd0 (mergeLoop cfg s sel order).calls) := by
  have h0 : AllBut (mergeStart s).mid (syncCalls2 sd0 (mergeStart s).calls) :=
    (fullySynced2_steps _ hfs (noAppend_of rfl)).allBut _
  exact foldl_inv (P := fun m : MergeSt => AllBut m.mid (syncCalls2 sd0 m.calls)) (mergeStep_allBut cfg sel) order h0

theorem mergeWith_calls_tail (cfg : Cfg) (s : St) (sel : List Nat) (order : List Key) :
    ∃ post, (mergeWith cfg s sel order).2 = (mergeLoop cfg s sel order).calls ++
      (Call.fsync ⟨.data, (mergeLoop cfg s sel order).mid⟩ :: Call.fsync ⟨.hint, (mergeLoop cfg s sel order).mid⟩ :: post) ∧
      ∀ x ∈ post, ∀ f p, x ≠ Call.append f p := by
  obtain ⟨ul, e, hul⟩ := mergeWith_calls_shape cfg s sel order
  refine ⟨ul ++ [Call.create ⟨.data, (mergeLoop cfg s sel order).mid + 1⟩], by rw [e]; simp, ?_⟩
  intro x hx
  rcases List.mem_append.mp hx with hx | hx
  · obtain ⟨_, _, _, rfl⟩ := hul x hx
    exact fun _ _ => nofun
  · cases List.mem_singleton.mp hx
    exact fun _ _ => nofun

theorem mergeWith_fullySynced2 (cfg : Cfg) (s : St) (sel : List Nat) (order : List Key) {sd0 : SDisk2}
    (hfs : FullySynced2 sd0) : FullySynced2 (syncCalls2 sd0 (mergeWith cfg s sel order).2) := by
  obtain ⟨post, e, hpost⟩ := mergeWith_calls_tail cfg s sel order
  rw [e]
  exact allBut_fsyncs_then (mergeLoop_allBut cfg s sel order hfs) hpost

structure PI (s : St) (sd0 : SDisk2) (m : MergeSt) : Prop where
  li : LI s m
  img : ImgOk s m.mid m.s.disk
  sync : AllBut m.mid (syncCalls2 sd0 m.calls)

def PGood (s : St) (sd0 : SDisk2) (c : List Call) : Prop :=
  ∃ mid, AllBut mid (syncCalls2 sd0 c) ∧ ImgOk s mid (applyCalls s.disk c)

theorem PGood.recovers {s : St} {sd0 : SDisk2} (hd : sd0.disk = s.disk) {c : List Call} (h : PGood s sd0 c)
    {I : Disk} (hp : PowerLoss2 (syncCalls2 sd0 c) I) : RecoversW I s.abs := by
  obtain ⟨mid, h1, h2⟩ := h
  have := powerLoss2_outImage h1 hp
  rw [syncCalls2_disk, hd] at this
  exact h2 I this

theorem Clean.empty_above {d : Disk} {kd : List (Key × Loc)} {a : Nat} (h : Clean d kd a) {b : Nat} (hb : a < b) :
    dataOf d b = [] ∧ hintsOf d b = [] := by
  constructor
  · exact dataOf_absent fun hm => Nat.not_le_of_gt hb (h.max _ hm)
  · rw [hintsOf, AL.get_eq_none_iff.mpr fun hm => Nat.not_le_of_gt hb (h.hmax _ hm)]; rfl

theorem imgOk_addData {s : St} {d : Disk} {kd : List (Key × Loc)} {a : Nat} (hc : Clean d kd a)
    (hm : absOf d kd = s.abs) : ImgOk s (a + 1) { d with data := AL.set (a + 1) [] d.data } :=
  imgOk_of_clean_empty (hc.addData (Nat.lt_succ_self a)) ((hc.absOf_addData (Nat.lt_succ_self a)).trans hm)
    (dataOf_set_same _ _ _) (hc.empty_above (Nat.lt_succ_self a)).2

theorem LI.imgOk_rolled {s : St} {m : MergeSt} (h : LI s m) {d : Disk} (hd : m.s.disk = rollDisk d m.mid) :
    ImgOk s m.mid m.s.disk := by
  refine imgOk_of_clean_empty h.clean h.absOf ?_ ?_
  · rw [hd]; exact dataOf_set_same _ _ _
  · rw [hd, hintsOf, rollDisk, AL.get_set_same]; rfl

theorem mergeStart_pi {s : St} (h : RInv s) (hf : Full s) {sd0 : SDisk2} (hfs : FullySynced2 sd0) :
    PI s sd0 (mergeStart s) :=
  ⟨mergeStart_li h hf, (mergeStart_li h hf).imgOk_rolled rfl,
    (fullySynced2_steps _ hfs (noAppend_of rfl)).allBut _⟩

theorem pgood_of {s : St} {sd0 : SDisk2} {m : MergeSt} (h : PI s sd0 m) {c' : List Call}
    (hs : AllBut m.mid (syncCalls2 (syncCalls2 sd0 m.calls) c')) (himg : ImgOk s m.mid (applyCalls m.s.disk c')) :
    PGood s sd0 (m.calls ++ c') :=
  ⟨m.mid, by rw [syncCalls2_append]; exact hs, by rw [applyCalls_append, h.li.frame]; exact himg⟩

theorem move_pcuts {s : St} {sd0 : SDisk2} {m : MergeSt} (h : PI s sd0 m) (k : Key) (loc : Loc) (r : Rec)
    (hlen : r.len = loc.len) (hmove : LI s (Tr.moveNoRoll m k loc r)) {c : List Call}
    (hc : Cut [Call.append ⟨.data, m.mid⟩ (.ofRec r),
      Call.append ⟨.hint, m.mid⟩ (.ofHint { ts := loc.ts, len := loc.len, pos := m.mpos, key := k })] c) :
    PGood s sd0 (m.calls ++ c) := by
  have hhalf := imgOk_half h.li h.img r
  have hfull := imgOk_move h.li k loc r hlen hmove hhalf
  -- complete or torn, every append goes to the current output
  rcases cut_two_appends hc with rfl | ⟨bs, rfl⟩ | rfl | ⟨bs, rfl⟩ | rfl
  · exact pgood_of h h.sync h.img
  · exact pgood_of h (allBut_append h.sync _ _) (h.img.tails _)
  · exact pgood_of h (allBut_append h.sync _ _) hhalf
  · exact pgood_of h (allBut_append (allBut_append h.sync _ _) _ _) hhalf
  · exact pgood_of h (allBut_append (allBut_append h.sync _ _) _ _) hfull

theorem mergeStep_pi (cfg : Cfg) (sel : List Nat) {s : St} (hsel : ∀ id, id ∈ sel → id ≤ s.active)
    {sd0 : SDisk2} {m : MergeSt} (h : PI s sd0 m) (k : Key) :
    PI s sd0 (mergeStep cfg sel m k) ∧
    ∀ {c : List Call}, Cut (mergeStep cfg sel m k).calls c → Cut m.calls c ∨ PGood s sd0 c := by
  have hli' := mergeStep_li cfg sel hsel h.li k
  have hpiNR : ∀ {loc r}, r.len = loc.len → LI s (Tr.moveNoRoll m k loc r) → PI s sd0 (Tr.moveNoRoll m k loc r) :=
    fun hlen hli => ⟨hli, imgOk_move h.li k _ _ hlen hli (imgOk_half h.li h.img _), allBut_moveNoRoll h.sync k _ _⟩
  have hpiR : ∀ {loc r}, LI s (Tr.moveRoll m k loc r) → PI s sd0 (Tr.moveRoll m k loc r) :=
    fun hli => ⟨hli, hli.imgOk_rolled rfl, allBut_moveRoll h.sync k _ _⟩
  refine ⟨?_, fun {c} hc => ?_⟩
  · rcases h.li.minv.mergeStep_eq cfg sel k with ⟨e, _⟩ | ⟨loc, r, _, _, _, _, _, h4, _, ⟨_, e⟩ | ⟨_, e⟩⟩ <;>
      rw [e] at hli' ⊢
    · exact h
    · exact hpiNR h4 hli'
    · exact hpiR hli'
  · rcases h.li.minv.mergeStep_cut cfg sel k hc with h0 | ⟨loc, r, _, _, _, hlen, eNR, hcs⟩
    · exact .inl h0
    right
    have hliNR : LI s (Tr.moveNoRoll m k loc r) := eNR ▸ mergeStep_li _ sel hsel h.li k
    have hp := hpiNR hlen hliNR
    rcases hcs with ⟨c', rfl, h2⟩ | ⟨e, c', post, rfl, e'⟩
    · exact move_pcuts h k loc r hlen hliNR h2
    · rw [e] at hli'
      rcases prefix_cases4 e' with rfl | rfl | rfl | rfl | rfl
      · exact pgood_of hp hp.sync hp.img
      · exact pgood_of hp (allBut_noAppend hp.sync _ (noAppend_of rfl)) hp.img
      · exact pgood_of hp (allBut_noAppend hp.sync _ (noAppend_of rfl)) hp.img
      · exact ⟨m.mid + 1, (allBut_fsyncs_then hp.sync (rest := [_]) (noAppend_of rfl)).allBut _, by
          rw [applyCalls_append, hliNR.frame]
          exact imgOk_addData hliNR.clean hliNR.absOf⟩
      · exact ⟨m.mid + 1, (hpiR hli').sync, by rw [applyCalls_append, hliNR.frame]; exact (hpiR hli').img⟩

theorem mergeStart_pcuts {s : St} (h : RInv s) (hf : Full s) {sd0 : SDisk2}
    (hfs : FullySynced2 sd0) {c : List Call} (hc : Cut (mergeStart s).calls c) : PGood s sd0 c := by
  obtain ⟨post, e⟩ := cut_noappend_list (cs := (mergeStart s).calls) rfl hc
  have hcl := clean_of_rinv h hf
  have hna : ∀ x ∈ c, ∀ f p, x ≠ Call.append f p :=
    fun x hx => noAppend_of (cs := (mergeStart s).calls) rfl x (e ▸ List.mem_append_left _ hx)
  refine ⟨s.active + 1, (fullySynced2_steps c hfs hna).allBut _, ?_⟩
  rcases prefix_cases2 e with rfl | rfl | rfl
  · exact imgOk_of_clean_empty hcl (abs_eq_absOf s).symm (hcl.empty_above (Nat.lt_succ_self _)).1
      (hcl.empty_above (Nat.lt_succ_self _)).2
  · exact imgOk_addData hcl (abs_eq_absOf s).symm
  · exact (mergeStart_pi (sd0 := sd0) h hf hfs).img

theorem mergeLoop_pcuts (cfg : Cfg) {s : St} (h : RInv s) (hf : Full s) (sel : List Nat)
    (hsel : ∀ id, id ∈ sel → id ≤ s.active) (order : List Key) {sd0 : SDisk2}
    (hfs : FullySynced2 sd0) :
    PI s sd0 (mergeLoop cfg s sel order) ∧
    ∀ {c : List Call}, Cut (mergeLoop cfg s sel order).calls c → PGood s sd0 c := by
  have := foldl_inv (P := fun m => PI s sd0 m ∧ ∀ c, Cut m.calls c → PGood s sd0 c) (f := mergeStep cfg sel)
    (fun m k ⟨hpi, hcuts⟩ => ⟨(mergeStep_pi cfg sel hsel hpi k).1, fun c hc =>
      ((mergeStep_pi cfg sel hsel hpi k).2 hc).elim (hcuts c) id⟩)
    order ⟨mergeStart_pi h hf hfs, fun _ => mergeStart_pcuts h hf hfs⟩
  exact ⟨this.1, fun hc => this.2 _ hc⟩

/-- a cut of the calls `a` followed by two calls that are not appends and more such calls: a cut
    of `a`; `a` and the first call; or `a`, both calls and some of the rest -/
theorem cut_two_then {a post c : List Call} {x y : Call} (h : Cut (a ++ x :: y :: post) c)
    (hx : ∀ f p, x ≠ Call.append f p) (hy : ∀ f p, y ≠ Call.append f p)
    (hpost : ∀ z ∈ post, ∀ f p, z ≠ Call.append f p) :
    Cut a c ∨ c = a ++ [x] ∨ ∃ c'' rest, c = a ++ x :: y :: c'' ∧ post = c'' ++ rest := by
  rcases cut_append h with h1 | ⟨c', rfl, h2⟩
  · exact .inl h1
  obtain ⟨rest, e⟩ := cut_noappend (List.forall_mem_cons.mpr ⟨hx, List.forall_mem_cons.mpr ⟨hy, hpost⟩⟩) h2
  rcases c' with _ | ⟨x', _ | ⟨y', c''⟩⟩
  · exact .inl (by rw [List.append_nil]; exact Cut.all _)
  · obtain ⟨rfl, _⟩ := List.cons.inj e
    exact .inr (.inl rfl)
  · obtain ⟨rfl, e3⟩ := List.cons.inj e
    obtain ⟨rfl, e4⟩ := List.cons.inj e3
    exact .inr (.inr ⟨c'', rest, rfl, e4⟩)

/-- **Power failure anywhere in a merge pass.**  `s` satisfies the recovery invariant, the
    selection consists of existing files, the iteration order covers the KeyDir, every prefix of
    the selection is hazard-free (see `mergeWith_cut_recovers`); when the merge starts everything
    in the directory is durable (`sd0`).  The power fails after the calls `c` (any cut, torn
    appends included) of the merge pass.  Every directory `I` the failure can leave — every data
    file and every hint file cut back independently to any length at or above its durable
    length — opens to a store that satisfies the invariant and reads exactly as before the
    merge. -/
theorem mergeWith_powerLoss_recovers (cfg : Cfg) {s : St} (h : RInv s) (sel : List Nat) (order : List Key)
    (hsel : ∀ id, id ∈ sel → id ≤ s.active) (hcov : Covers order s)
    (hz : ∀ done, done <+: sel → NoHazard s done) {sd0 : SDisk2} (hd : sd0.disk = s.disk)
    (hfs : FullySynced2 sd0) {c : List Call} (hc : Cut (mergeWith cfg s sel order).2 c) {I : Disk}
    (hp : PowerLoss2 (syncCalls2 sd0 c) I) : RecoversW I s.abs := by
  have hf : Full s := (noHazard_nil_iff s).mp (hz [] (List.nil_prefix))
  obtain ⟨pi, hcuts⟩ := mergeLoop_pcuts cfg h hf sel hsel order hfs
  rcases mergeWith_cut_cases cfg h sel order hsel hcov hz hc with h1 | ⟨hcl, _⟩
  · exact (hcuts h1).recovers hd hp
  · obtain ⟨post, e, hpost⟩ := mergeWith_calls_tail cfg s sel order
    rw [e] at hc
    rcases cut_two_then hc (fun _ _ => nofun) (fun _ _ => nofun) hpost with h1 | rfl | ⟨c'', rest, rfl, rfl⟩
    · exact (hcuts h1).recovers hd hp
    · exact (pgood_of pi (c' := [Call.fsync ⟨.data, (mergeLoop cfg s sel order).mid⟩])
        (allBut_noAppend pi.sync _ (noAppend_of rfl)) pi.img).recovers hd hp
    · -- both fsyncs done: everything is durable from here on, the image has the files of the
      -- directory at the cut
      have hfs2 := allBut_fsyncs_then pi.sync (rest := c'') (fun x hx => hpost x (List.mem_append_left _ hx))
      have hsf := powerLoss2_sameFiles hfs2 hp
      rw [syncCalls2_disk, hd] at hsf
      exact (hcl.sameFiles hsf).recovers.weak

end Store
