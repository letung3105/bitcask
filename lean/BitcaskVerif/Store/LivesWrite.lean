/-
  Lives after a crash inside a merge: `put`, `delete`, `reopen` keep the lives invariant,
  and every crash cut of them leaves a directory with a clean visible part (`CJ`, `RecW`) that
  opens to a store that again satisfies it (`RecJ`).

  The operations never look at a stale merge output: run on the real directory and on its
  visible part they reach the same index / counters (`put_withDisk`, `delete_withDisk`), so the
  crash-free theory applies to the visible part.
-/
import BitcaskVerif.Store.LivesEvents

namespace Store

theorem write_withDisk (cfg : Cfg) (s : St) (d1 : Disk) (r : Rec) (e : dataOf d1 s.active = dataOf s.disk s.active) :
    write cfg { s with disk := d1 } r =
      ({ (write cfg s r).1 with disk := (write cfg { s with disk := d1 } r).1.disk }, (write cfg s r).2) := by
  by_cases hroll : s.written + r.len > cfg.maxFile
  · rw [write_roll cfg s r hroll, write_roll cfg { s with disk := d1 } r hroll]
    simp only [e]
  · rw [write_noroll cfg s r hroll, write_noroll cfg { s with disk := d1 } r hroll]
    simp only [e]

theorem accountPrev_withDisk (s : St) (p : Option Loc) (d : Disk) :
    accountPrev { s with disk := d } p = { accountPrev s p with disk := d } := by
  cases p <;> rfl

theorem put_withDisk (cfg : Cfg) (s : St) (d1 : Disk) (ts : Int) (k : Key) (v : Val)
    (e : dataOf d1 s.active = dataOf s.disk s.active) :
    ({ (put cfg s ts k v).1 with disk := (put cfg { s with disk := d1 } ts k v).1.disk } : St) =
      (put cfg { s with disk := d1 } ts k v).1 := by
  unfold put
  rw [write_withDisk cfg s d1 _ e]
  simp only [accountPrev_disk]
  exact (accountPrev_withDisk ..).symm

theorem delete_withDisk (cfg : Cfg) (s : St) (d1 : Disk) (ts : Int) (k : Key)
    (e : dataOf d1 s.active = dataOf s.disk s.active) :
    ({ (delete cfg s ts k).1 with disk := (delete cfg { s with disk := d1 } ts k).1.disk } : St) =
      (delete cfg { s with disk := d1 } ts k).1 := by
  unfold delete
  rw [write_withDisk cfg s d1 _ e]
  simp only [accountPrev_disk]
  exact (accountPrev_withDisk ..).symm

theorem Sim.appendData {d1 d : Disk} (h : Sim d1 d) {a : Nat} (hh : AL.get a d1.hint = none)
    (hex : (AL.get a d1.data).isSome) (r : Rec) :
    Sim { d1 with data := AL.set a (dataOf d1 a ++ [r]) d1.data }
        { d with data := AL.set a (dataOf d a ++ [r]) d.data } := by
  have hex' : (AL.get a d.data).isSome := by rw [h.data_isSome]; exact hex
  have hh' : AL.get a d.hint = none := h.hint_none.mpr hh
  refine ⟨?_, h.hkeys, h.tl, ?_⟩
  · show AL.keys (AL.set a _ d.data) = AL.keys (AL.set a _ d1.data)
    rw [AL.keys_set_of_mem (mem_keys_of_isSome hex), AL.keys_set_of_mem (mem_keys_of_isSome hex'), h.keys]
  · intro fid
    by_cases e : fid = a
    · subst e
      exact .unhinted hh' (by rw [dataOf_set_same, dataOf_set_same, (h.file fid).unh hh'])
    · exact (h.file fid).congr (dataOf_set_other _ e _) (dataOf_set_other _ e _) rfl rfl rfl

theorem Sim.setTail {d1 d : Disk} (h : Sim d1 d) {a : Nat} (hh : AL.get a d1.hint = none) (n : Nat) :
    Sim { d1 with tails := AL.set a n d1.tails } { d with tails := AL.set a n d.tails } := by
  have hh' : AL.get a d.hint = none := h.hint_none.mpr hh
  refine ⟨h.keys, h.hkeys, by simp only [h.tl], ?_⟩
  intro fid
  by_cases e : fid = a
  · subst e
    exact .unhinted hh' ((h.file fid).unh hh')
  · exact (h.file fid).congr rfl rfl rfl rfl (AL.get_set_other e _ _)

theorem write_dataOf_lt (cfg : Cfg) (s : St) (r : Rec) {fid : Nat} (h : fid < s.active) :
    dataOf (write cfg s r).1.disk fid = dataOf s.disk fid := by
  by_cases hroll : s.written + r.len > cfg.maxFile
  · rw [write_roll cfg s r hroll]
    simp only [dataOf, AL.get_set_other (by omega : fid ≠ s.active + 1), AL.get_set_other (by omega : fid ≠ s.active)]
  · rw [write_noroll cfg s r hroll]
    simp only [dataOf, AL.get_set_other (by omega : fid ≠ s.active)]

theorem write_sim (cfg : Cfg) {s : St} {d1 : Disk} (h : Sim d1 s.disk) (hi : Inv { s with disk := d1 })
    (hh : AL.get s.active d1.hint = none) (r : Rec) :
    Sim (write cfg { s with disk := d1 } r).1.disk (write cfg s r).1.disk := by
  have hA := h.appendData hh hi.act r
  by_cases hroll : s.written + r.len > cfg.maxFile
  · rw [write_roll cfg s r hroll, write_roll cfg { s with disk := d1 } r hroll]
    refine hA.addData ?_ (get_none_of_gt hi.hids (Nat.lt_succ_self _))
    rw [AL.keys_set_of_mem (mem_keys_of_isSome hi.act)]
    intro hc
    have := hi.ids _ hc
    simp only at this; omega
  · rw [write_noroll cfg s r hroll, write_noroll cfg { s with disk := d1 } r hroll]
    exact hA

theorem write_asc (cfg : Cfg) {s : St} (hi : Inv s) (ha : Asc s.disk.data) (r : Rec) :
    Asc (write cfg s r).1.disk.data :=
  (write_events cfg hi ha r).1

theorem Sim.junk_hinted {d1 d : Disk} (h : Sim d1 d) {fid p : Nat} {j : Rec}
    (h1 : recAt (dataOf d fid) p = some j) (h2 : fileSize (dataOf d1 fid) ≤ p) :
    (AL.get fid d.hint).isSome := by
  cases hg : AL.get fid d.hint with
  | some v => rfl
  | none =>
    rw [(h.file fid).unh hg] at h1
    have := recAt_lt h1
    omega

theorem Sim.junk_lt {d1 d : Disk} (h : Sim d1 d) {a : Nat} (hids : ∀ id ∈ AL.keys d.hint, id ≤ a)
    (hact : AL.get a d.hint = none) {fid p : Nat} {j : Rec}
    (h1 : recAt (dataOf d fid) p = some j) (h2 : fileSize (dataOf d1 fid) ≤ p) : fid < a := by
  have hs := h.junk_hinted h1 h2
  have hle := hids fid (mem_keys_of_isSome hs)
  have hne : fid ≠ a := fun e => by rw [e, hact] at hs; cases hs
  exact Nat.lt_of_le_of_ne hle hne

theorem JunkOK.mono {d1 d d1' d' : Disk} {f f' : IdxF} (h : JunkOK d1 d f)
    (hjunk : ∀ fid p j, recAt (dataOf d' fid) p = some j → fileSize (dataOf d1' fid) ≤ p →
      recAt (dataOf d fid) p = some j ∧ fileSize (dataOf d1 fid) ≤ p)
    (hkeep : ∀ key loc j, f' key = some loc → recAt (dataOf d loc.fid) loc.pos = some j →
      recAt (dataOf d' loc.fid) loc.pos = some j)
    (hf : ∀ fid p j key loc, recAt (dataOf d' fid) p = some j → fileSize (dataOf d1' fid) ≤ p →
      f' key = some loc → lexlt loc fid p → f key = some loc) : JunkOK d1' d' f' := by
  intro fid p j h1 h2
  obtain ⟨o1, o2⟩ := hjunk fid p j h1 h2
  obtain ⟨a1, a2⟩ := h fid p j o1 o2
  exact ⟨a1, fun loc hl hlt => hkeep _ loc j hl (a2 loc (hf fid p j _ loc h1 h2 hl hlt) hlt)⟩

theorem LJw.active_data {s : St} {d1 : Disk} (h : LJw s d1) : dataOf d1 s.active = dataOf s.disk s.active :=
  ((h.sim.file s.active).unh (h.sim.hint_none.mpr h.rinv.acth)).symm

theorem LJw.junk_lt {s : St} {d1 : Disk} (h : LJw s d1) {fid p : Nat} {j : Rec}
    (h1 : recAt (dataOf s.disk fid) p = some j) (h2 : fileSize (dataOf d1 fid) ≤ p) : fid < s.active :=
  h.sim.junk_lt h.inv.hids (h.sim.hint_none.mpr h.rinv.acth) h1 h2

theorem write_junk (cfg : Cfg) {s : St} {d1 : Disk} (h : LJw s d1) (r : Rec) {fid p : Nat} {j : Rec}
    (h1 : recAt (dataOf (write cfg s r).1.disk fid) p = some j)
    (h2 : fileSize (dataOf (write cfg { s with disk := d1 } r).1.disk fid) ≤ p) :
    fid < s.active ∧ recAt (dataOf s.disk fid) p = some j ∧ fileSize (dataOf d1 fid) ≤ p := by
  have hlt : fid < s.active :=
    (write_sim cfg h.sim h.rinv.inv h.rinv.acth r).junk_lt (by rw [write_hint]; exact h.inv.hids)
      (by rw [write_hint]; exact h.sim.hint_none.mpr h.rinv.acth) h1 h2
  rw [write_dataOf_lt cfg s r hlt] at h1
  rw [write_dataOf_lt cfg { s with disk := d1 } r (fid := fid) hlt] at h2
  exact ⟨hlt, h1, h2⟩

theorem write_lj (cfg : Cfg) {s : St} {d1 : Disk} (h : LJw s d1) (r : Rec) {s' : St} {d1' : Disk}
    (hd : s'.disk = (write cfg s r).1.disk) (hd1 : d1' = (write cfg { s with disk := d1 } r).1.disk)
    (hkd : ∀ k, k ≠ r.key → AL.get k s'.keydir = AL.get k s.keydir)
    (hk : AL.get r.key s'.keydir = if r.val.isSome then some (write cfg s r).2.1 else none)
    (hr : RInv { s' with disk := d1' }) (hf : Full { s' with disk := d1' }) : LJw s' d1' := by
  have hi := h.inv
  refine ⟨hr, hf, ?_, ?_, ?_⟩
  · rw [hd, hd1]
    exact write_sim cfg h.sim h.rinv.inv h.rinv.acth r
  · rw [hd, hd1]
    refine h.junk.mono (fun fid p j h1 h2 => (write_junk cfg h r h1 h2).2) ?_ ?_
    · intro key loc j _ hrec
      have hex := isSome_of_recAt hrec
      exact (write_keeps cfg s r loc.fid loc.pos j (hi.ids _ (mem_keys_of_isSome hex)) hrec hex).1
    · intro fid p j key loc h1 h2 hl hlt
      have hfid := (write_junk cfg h r h1 h2).1
      unfold kdF at hl ⊢
      by_cases hkk : key = r.key
      · -- the new entry lies in the active file, behind every invisible record
        rw [hkk, hk] at hl
        split at hl
        · have : loc.fid = s.active := by rw [← Option.some.inj hl, write_loc]
          -- `fid < s.active = loc.fid`, against `hlt`
          rw [lexlt, this] at hlt
          exact absurd hfid (hlt.elim Nat.lt_asymm fun e => e.1 ▸ Nat.lt_irrefl _)
        · cases hl
      · rwa [hkd key hkk] at hl
  · intro k hkn
    rw [hd, (write_events cfg hi h.asc r).2.1]
    by_cases hkk : k = r.key
    · -- absent after the update: `r` is a tombstone
      rw [hkk, hk] at hkn
      have hv : r.val.isNone = true := by cases hv : r.val <;> simp [hv] at hkn ⊢
      have := replay_snoc_same (allEvs s.disk.data) (mkEv s.active (fileSize (dataOf s.disk s.active)) r)
      rw [hkk]
      simpa [mkEv, hv] using this
    · rw [replay_snoc_other _ _ (fun e => hkk e.symm)]
      exact h.fullA k (hkd k hkk ▸ hkn)

theorem put_lj (cfg : Cfg) {s : St} {d1 : Disk} (h : LJw s d1) (ts : Int) (k : Key) (v : Val) :
    LJw (put cfg s ts k v).1 (put cfg { s with disk := d1 } ts k v).1.disk := by
  have e1 := put_withDisk cfg s d1 ts k v h.active_data
  obtain ⟨p1, p2⟩ := put_rinv cfg { s with disk := d1 } ts k v h.rinv
  have hkd := write_keydir cfg s ⟨ts, k, some v⟩
  refine write_lj cfg h ⟨ts, k, some v⟩ (put_disk ..) (put_disk ..) ?_ ?_
    (by rw [e1]; exact p1) (by rw [e1]; exact p2 h.full1)
  · intro k' hk'
    rw [put_keydir, AL.get_set, hkd, if_neg hk']
  · rw [put_keydir, AL.get_set, if_pos rfl]
    rfl

theorem delete_lj (cfg : Cfg) {s : St} {d1 : Disk} (h : LJw s d1) (ts : Int) (k : Key) :
    LJw (delete cfg s ts k).1 (delete cfg { s with disk := d1 } ts k).1.disk := by
  have e1 := delete_withDisk cfg s d1 ts k h.active_data
  obtain ⟨p1, p2⟩ := delete_rinv cfg { s with disk := d1 } ts k h.rinv
  have hkd := write_keydir cfg s ⟨ts, k, none⟩
  refine write_lj cfg h ⟨ts, k, none⟩ (delete_disk ..) (delete_disk ..) ?_ ?_
    (by rw [e1]; exact p1) (by rw [e1]; exact p2 h.full1)
  · intro k' hk'
    rw [delete_keydir, AL.get_del, hkd, if_neg hk']
  · rw [delete_keydir, AL.get_del, if_pos rfl]
    rfl

def RecJ (d : Disk) (m : Map) : Prop := LJ (openDisk d).1 ∧ (openDisk d).1.abs = m

theorem RecJ.inv {d : Disk} {m : Map} (h : RecJ d m) : Inv (openDisk d).1 := h.1.inv

/-- the (real) directory `DB` has the clean visible part `dB`, from which the scan recovers the
    index `kd` reading as `m`; the invisible records of `DB` are harmless -/
structure CJ (dB DB : Disk) (kd : List (Key × Loc)) (a : Nat) (m : Map) : Prop where
  clean : Clean dB kd a
  abs : absOf dB kd = m
  sim : Sim dB DB
  junk : JunkOK dB DB (kdF kd)
  fullA : FullAll DB (kdF kd)

section
variable {dB DB : Disk} {kd : List (Key × Loc)} {a : Nat} {m : Map}

theorem CJ.wit (h : CJ dB DB kd a m) : Wit dB DB a :=
  ⟨h.clean.asc, h.clean.hx, h.clean.mem, h.clean.max, h.clean.hmax, h.sim⟩

theorem CJ.asc (h : CJ dB DB kd a m) : Asc DB.data :=
  h.wit.asc'

theorem CJ.lt (h : CJ dB DB kd a m) {b : Nat} (hb : a < b) :
    ∀ id ∈ AL.keys DB.data, id < b := by
  intro id hid
  rw [h.sim.keys] at hid
  have := h.clean.max id hid; omega

theorem CJ.addData (h : CJ dB DB kd a m) {b : Nat}
    (hb : a < b) :
    CJ { dB with data := AL.set b [] dB.data } { DB with data := AL.set b [] DB.data } kd b m := by
  have hb1 : b ∉ AL.keys dB.data := fun hc => by have := h.clean.max b hc; omega
  refine ⟨h.clean.addData hb, (h.clean.absOf_addData hb).trans h.abs,
    h.sim.addData hb1 (get_none_of_gt h.clean.hmax hb), h.junk.addData (h.sim.keys ▸ hb1), ?_⟩
  intro k hk
  show replay (allEvs (AL.set b [] DB.data)) k = none
  rw [allEvs_set_new h.asc (h.lt hb)]
  exact h.fullA k hk

theorem CJ.recJ (h : CJ dB DB kd a m) : RecJ DB m := by
  have hw := h.wit
  obtain ⟨o1, o2, o3, _, o5⟩ := h.clean.open
  have ha := h.addData (Nat.lt_succ_self a)
  have hkd : kdF (openDisk DB).1.keydir = kdF kd := hw.keydir.trans h.clean.kd.symm
  have hlj : LJw (openDisk DB).1 (openDisk dB).1.disk := by
    refine ⟨hw.open_eq ▸ o1, hw.open_eq ▸ o2, ?_, ?_, ?_⟩
    · rw [hw.open_disk, o5]; exact ha.sim
    · rw [hw.open_disk, o5, hkd]; exact ha.junk
    · rw [full_iff_fullAll, hw.open_disk, hkd]; exact ha.fullA
  exact ⟨⟨_, hlj⟩, by rw [← hlj.abs, hw.open_eq, o3, h.abs]⟩

def RecW (D : Disk) (m : Map) : Prop := ∃ dB kd a, CJ dB D kd a m

theorem RecW.recJ {D : Disk} {m : Map} (h : RecW D m) : RecJ D m :=
  let ⟨_, _, _, cj⟩ := h; cj.recJ

theorem CJ.recW (h : CJ dB DB kd a m) : RecW DB m :=
  ⟨_, _, _, h⟩

end

theorem LJw.wit {s : St} {d1 : Disk} (h : LJw s d1) : Wit d1 s.disk s.active :=
  ⟨h.rinv.asc, h.rinv.hx, h.rinv.active_mem, h.rinv.inv.ids, h.rinv.inv.hids, h.sim⟩

theorem LJw.kd_eq {s : St} {d1 : Disk} (h : LJw s d1) : kdF s.keydir = replay (allEvs d1.data) :=
  h.rinv.kd_eq h.full1

theorem LJw.cj {s : St} {d1 : Disk} (h : LJw s d1) : CJ d1 s.disk s.keydir s.active s.abs :=
  ⟨clean_of_rinv h.rinv h.full1, h.abs, h.sim, h.junk, h.fullA⟩

theorem LJw.recW {s : St} {d1 : Disk} (h : LJw s d1) : RecW s.disk s.abs := h.cj.recW

theorem LJw.recovers {s : St} {d1 : Disk} (h : LJw s d1) : RecJ s.disk s.abs := h.cj.recJ

theorem LJ.recovers {s : St} (h : LJ s) : RecJ s.disk s.abs := let ⟨_, w⟩ := h; w.recovers

theorem LJ.recW {s : St} (h : LJ s) : RecW s.disk s.abs := let ⟨_, w⟩ := h; w.recW

theorem reopen_lj {s : St} (h : LJ s) : LJ (reopen s).1 ∧ (reopen s).1.abs = s.abs := h.recovers

theorem LJw.setTail {s : St} {d1 : Disk} (h : LJw s d1) (n : Nat) :
    LJw { s with disk := { s.disk with tails := AL.set s.active n s.disk.tails } }
      { d1 with tails := AL.set s.active n d1.tails } :=
  ⟨⟨⟨h.rinv.inv.locs, h.rinv.inv.ids, h.rinv.inv.hids, h.rinv.inv.act⟩, h.rinv.asc, h.rinv.wkd, h.rinv.hx,
      h.rinv.acth⟩,
    h.full1, h.sim.setTail h.rinv.acth n, h.junk, h.fullA⟩

/-- a crash during `write`, for an operation that consists of `write` and an update of the index
    (`hlj`: its outcome under any rollover limit satisfies the lives invariant and reads as `m'`) -/
theorem write_cut_recW (cfg : Cfg) {s : St} {d1 : Disk} (w : LJw s d1) (r : Rec) {m' : Map}
    (hlj : ∀ cfg' : Cfg, ∃ s', LJ s' ∧ s'.disk = (write cfg' s r).1.disk ∧ s'.abs = m')
    {c : List Call} (hc : Cut (write cfg s r).2.2 c) :
    RecW (applyCalls s.disk c) s.abs ∨ RecW (applyCalls s.disk c) m' := by
  rcases write_cut_cases cfg s r hc with e | ⟨n, e⟩ | e | e
  · rw [e]; exact .inl w.recW
  · rw [e]; exact .inl (w.setTail n).recW
  · obtain ⟨s', hw, hd, ha⟩ := hlj (noRollCfg cfg s r)
    rw [e, ← write_noRollCfg cfg, ← hd, ← ha]
    exact .inr hw.recW
  · obtain ⟨s', hw, hd, ha⟩ := hlj cfg
    rw [e, ← hd, ← ha]
    exact .inr hw.recW

/-- `put` as an instance of `hlj` -/
theorem put_write_lj {s : St} {d1 : Disk} (w : LJw s d1) (ts : Int) (k : Key) (v : Val) (cfg : Cfg) :
    ∃ s', LJ s' ∧ s'.disk = (write cfg s ⟨ts, k, some v⟩).1.disk ∧ s'.abs = s.abs.set k v :=
  ⟨_, ⟨_, put_lj cfg w ts k v⟩, put_disk .., put_abs cfg s ts k v w.inv⟩

theorem delete_write_lj {s : St} {d1 : Disk} (w : LJw s d1) (ts : Int) (k : Key) (cfg : Cfg) :
    ∃ s', LJ s' ∧ s'.disk = (write cfg s ⟨ts, k, none⟩).1.disk ∧ s'.abs = s.abs.del k :=
  ⟨_, ⟨_, delete_lj cfg w ts k⟩, delete_disk .., (delete_abs cfg s ts k w.inv).1⟩

theorem put_cut_recW (cfg : Cfg) {s : St} (h : LJ s) (ts : Int) (k : Key) (v : Val)
    {c : List Call} (hc : Cut (put cfg s ts k v).2 c) :
    RecW (applyCalls s.disk c) s.abs ∨ RecW (applyCalls s.disk c) (s.abs.set k v) := by
  obtain ⟨_, w⟩ := h
  rw [Tr.put_calls] at hc
  exact write_cut_recW cfg w _ (put_write_lj w ts k v) hc

theorem delete_cut_recW (cfg : Cfg) {s : St} (h : LJ s) (ts : Int) (k : Key)
    {c : List Call} (hc : Cut (delete cfg s ts k).2.2 c) :
    RecW (applyCalls s.disk c) s.abs ∨ RecW (applyCalls s.disk c) (s.abs.del k) := by
  obtain ⟨_, w⟩ := h
  rw [Tr.delete_calls] at hc
  exact write_cut_recW cfg w _ (delete_write_lj w ts k) hc

theorem reopen_cut_recW {s : St} (h : LJ s) {c : List Call} (hc : Cut (reopen s).2 c) :
    RecW (applyCalls s.disk c) s.abs := by
  rcases cut_single_noappend (fun _ _ => Call.noConfusion) hc with rfl | rfl
  · exact h.recW
  · show RecW (reopen s).1.disk s.abs
    obtain ⟨a, b⟩ := reopen_lj h
    rw [← b]
    exact a.recW

end Store
