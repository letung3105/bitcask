/-
  Lives after a power failure inside a merge (C09): every power-loss image (`PowerLoss3`)
  of every cut of every operation — sets and deletes with `sync = always`, reads, reopens, merge
  passes — in a store that satisfies the lives invariant; histories.
-/
import BitcaskVerif.Store.LivesPower

namespace Store

open Tr

theorem write_onlyActive (cfg : Cfg) (s : St) (r : Rec) :
    ∀ x ∈ (write cfg s r).2.2, ∀ f p, x = Call.append f p → f.id = s.active := by
  intro x hx f p e
  rw [Tr.write_calls] at hx
  simp only [List.mem_append, List.mem_singleton] at hx
  rcases hx with (hx | hx) | hx
  · subst hx; cases e; rfl
  · split at hx
    · simp only [List.mem_singleton] at hx; subst hx; cases e
    · cases hx
  · split at hx
    · simp only [List.mem_singleton] at hx; subst hx; cases e
    · cases hx

/-- **power failure inside a `write`** (`sync = always`), in a store satisfying the lives
    invariant.  `hX`: under every configuration the operation that does the `write` (a set or a
    delete) leads to a state with the contents `m` and the directory of `write`.  The directory
    with the record appended is that directory under a configuration for which the file is not
    yet full (`noRollCfg`). -/
theorem write_image_recW (cfg : Cfg) (hs : cfg.syncAlways = true) {s : St} {d1 : Disk} (w : LJw s d1) (r : Rec)
    {m : Map} (hX : ∀ cfg', ∃ X, LJ X ∧ X.disk = (write cfg' s r).1.disk ∧ X.abs = m) {sd0 : SDisk2}
    (hd : sd0.disk = s.disk) (hfs : FullySynced2 sd0) {c : List Call} (hc : Cut (write cfg s r).2.2 c)
    {I : Disk} (hp : PowerLoss3 (syncCalls2 sd0 c) I) : RecW I s.abs ∨ RecW I m := by
  have hact : ∀ x ∈ c, ∀ f p, x = Call.append f p → f.id = s.active :=
    hc.forall (fun _ _ _ h _ _ e => by cases e; exact h _ _ rfl) (write_onlyActive cfg s r)
  -- an image with the files of the directory of a state `X` reached by `write`: only the tail
  -- of the active file, which has no hint file, may differ
  have img : ∀ {X : St}, LJ X → X.disk.hint = s.disk.hint → X.disk.tails = s.disk.tails → SameFiles X.disk I →
      RecW I X.abs := by
    intro X ⟨dX, wX⟩ hh htl sf
    refine wX.cj.sameFiles sf (fun fid hf => ?_)
    rw [htl, ← hd]
    refine hp.tail_untouched (hfs fid) (fun x hx f p e he => ?_)
    rw [hh, ← he, hact x hx f p e, w.sim.hint_none.mpr w.rinv.acth] at hf
    cases hf
  have after : ∀ cfg', SameFiles (write cfg' s r).1.disk I → RecW I m := by
    intro cfg' sf
    obtain ⟨X, lj, hdk, ha⟩ := hX cfg'
    rw [← ha]
    exact img lj (by rw [hdk, write_hint]) (by rw [hdk, write_tails]) (by rw [hdk]; exact sf)
  rcases write_powerLoss2_cases cfg hs w.inv r hd hfs hc hp.toPL2 with ⟨e, _⟩ | e | e
  · exact .inl (img ⟨_, w⟩ rfl rfl e)
  · exact .inr (after (noRollCfg cfg s r) (by rw [write_noRollCfg]; exact e))
  · exact .inr (after cfg e)

theorem RecW.image_full {D : Disk} {m : Map} (h : RecW D m) {sd : SDisk2} (hd : sd.disk = D)
    (hfs : FullySynced2 sd) {I : Disk} (hp : PowerLoss3 sd I) : RecW I m := by
  obtain ⟨dB, kd, a, cj⟩ := h
  obtain ⟨sf, ht⟩ := powerLoss3_full hfs hp
  rw [hd] at sf ht
  exact cj.sameFiles sf (fun fid _ => ht fid)

theorem mergeWith_image_recW (cfg : Cfg) {s : St} {d1 : Disk} (w : LJw s d1) (sel : List Nat) (order : List Key)
    (hsel : ∀ id, id ∈ sel → id ≤ s.active) (hcov : Covers order s)
    (hz : ∀ done, done <+: sel → NoHazard s done) {sd0 : SDisk2} (hd : sd0.disk = s.disk)
    (hfs : FullySynced2 sd0) {c : List Call} (hc : Cut (mergeWith cfg s sel order).2 c) {I : Disk}
    (hp : PowerLoss3 (syncCalls2 sd0 c) I) : RecW I s.abs := by
  have hl := mergeLoop_sim cfg w hsel order
  have lx := mergeLoop_lx cfg w.rinv w.full1 sel hsel order
  obtain ⟨post', e, hpost⟩ := mergeWith_calls_tail cfg s sel order
  have hcrash := mergeWith_cut_recW cfg w sel order hsel hcov hz hc
  rw [e] at hc
  rcases cut_two_then hc (fun _ _ => nofun) (fun _ _ => nofun) hpost with h1 | rfl | ⟨c'', rest, rfl, rfl⟩
  · -- inside the copy phase
    obtain ⟨hout, nf⟩ := loopCut_newFacts cfg w sel hsel order (by rw [hl.ms.calls]; exact h1)
    exact copyPhase_image w hout nf hd hfs hp
  · -- the first fsync done: still only new files of copies
    have hloop := loopCut_newFacts cfg w sel hsel order (Cut.all _)
    rw [hl.ms.calls] at hloop
    refine copyPhase_image w (List.forall_mem_append.mpr ⟨hloop.1, fun x hx => ?_⟩)
      (by rw [newFiles_append]; exact hloop.2) hd hfs hp
    rw [List.mem_singleton.mp hx]
    exact ⟨by rw [← hl.ms.mid]; exact lx.li.minv.midgt, fun _ => Call.noConfusion⟩
  · -- both fsyncs done: everything is durable from here on
    exact hcrash.image_full (by rw [syncCalls2_disk, hd])
      (allBut_fsyncs_then (mergeLoop_allBut cfg s sel order hfs) (fun x hx => hpost x (List.mem_append_left _ hx))) hp

theorem stepC_image_recW (cfg : Cfg) (hs : cfg.syncAlways = true) {s : St} (h : LJ s) {sd0 : SDisk2}
    (hd : sd0.disk = s.disk) (hfs : FullySynced2 sd0) (op : TOp) (hop : opOk s op) {c : List Call}
    (hc : Cut (stepC cfg s op).2 c) {I : Disk} (hp : PowerLoss3 (syncCalls2 sd0 c) I) :
    (RecW I s.abs ∨ RecW I (specOp s.abs op)) ∧ (c = (stepC cfg s op).2 → RecW I (specOp s.abs op)) := by
  -- after the whole operation everything is durable: the image has the files of the new state
  have full : c = (stepC cfg s op).2 → RecW I (specOp s.abs op) := by
    rintro rfl
    obtain ⟨lj, ha⟩ := stepC_lj cfg h op hop
    rw [← ha]
    exact lj.recW.image_full (by rw [syncCalls2_disk, hd]; exact stepC_frame_all cfg s op)
      (stepC_fullySynced2 cfg hs s hfs op) hp
  refine ⟨?_, full⟩
  obtain ⟨d1, w⟩ := h
  cases op with
  | put ts k v =>
    rw [(stepC_write (op := .put ts k v) rfl cfg s).1] at hc
    exact write_image_recW cfg hs w _ (put_write_lj w ts k v) hd hfs hc hp
  | del ts k =>
    rw [(stepC_write (op := .del ts k) rfl cfg s).1] at hc
    exact write_image_recW cfg hs w _ (delete_write_lj w ts k) hd hfs hc hp
  | get k =>
    rw [cut_nil hc] at hp
    exact .inl (w.recW.image_full hd hfs hp)
  | merge sel order =>
    obtain ⟨h1, h2, h3, h4⟩ := hop
    exact .inl (mergeWith_image_recW cfg w sel order h1 h2
      (fun _ hd => noHazard_prefix_of_sorted w.asc w.fullA h3 h4 hd) hd hfs hc hp)
  | reopen =>
    rcases cut_single_noappend (fun _ _ => Call.noConfusion) hc with rfl | rfl
    · exact .inl (w.recW.image_full hd hfs hp)
    · exact .inl (full rfl)

theorem history_image_recW (cfg : Cfg) (hs : cfg.syncAlways = true) {s : St} (h : LJ s) {sd0 : SDisk2}
    (hd : sd0.disk = s.disk) (hfs : FullySynced2 sd0) (ops : List TOp) (hv : ValidOps cfg s ops)
    (op : TOp) (hop : opOk (runC cfg s ops) op) {c : List Call} (hc : Cut (stepC cfg (runC cfg s ops) op).2 c)
    {I : Disk} (hp : PowerLoss3 (syncCalls2 sd0 (traceOf cfg s ops ++ c)) I) :
    (RecW I (specRun s.abs ops) ∨ RecW I (specOp (specRun s.abs ops) op)) ∧
    (c = (stepC cfg (runC cfg s ops) op).2 → RecW I (specOp (specRun s.abs ops) op)) := by
  obtain ⟨e1, e2⟩ := runC_sync2 cfg hs ops sd0 hd hfs
  obtain ⟨a, e⟩ := runC_lj cfg ops h hv
  rw [syncCalls2_append] at hp
  have := stepC_image_recW cfg hs a e1 e2 op hop hc hp
  rw [e] at this
  exact this

/-- states reachable by operations, kills at any cut of any operation followed by recovery, and —
    from a state whose directory is durable — power failures at any cut of any operation of a
    history with `sync = always`, followed by recovery -/
inductive ReachP (cfg : Cfg) : St → Prop
  | fresh : ReachP cfg fresh
  | step {s : St} (op : TOp) : ReachP cfg s → opOk s op → ReachP cfg (stepC cfg s op).1
  | crash {s : St} (op : TOp) (c : List Call) : ReachP cfg s → opOk s op → Cut (stepC cfg s op).2 c →
      ReachP cfg (openDisk (applyCalls s.disk c)).1
  | power {s : St} (sd0 : SDisk2) (ops : List TOp) (op : TOp) (c : List Call) (I : Disk) : ReachP cfg s →
      cfg.syncAlways = true → sd0.disk = s.disk → FullySynced2 sd0 → ValidOps cfg s ops →
      opOk (runC cfg s ops) op → Cut (stepC cfg (runC cfg s ops) op).2 c →
      PowerLoss3 (syncCalls2 sd0 (traceOf cfg s ops ++ c)) I → ReachP cfg (openDisk I).1

theorem reachP_lj {cfg : Cfg} {s : St} (h : ReachP cfg s) : LJ s := by
  induction h with
  | fresh => exact lj_fresh
  | step op _ hop ih => exact (stepC_lj cfg ih op hop).1
  | crash op c _ hop hc ih =>
    rcases stepC_cut_recJ cfg ih op hop hc with r | r
    · exact r.1
    · exact r.1
  | power sd0 ops op c I _ hs hd hfs hv hop hc hp ih =>
    rcases (history_image_recW cfg hs ih hd hfs ops hv op hop hc hp).1 with r | r
    · exact r.recJ.1
    · exact r.recJ.1

theorem ReachL.toReachP {cfg : Cfg} {s : St} (h : ReachL cfg s) : ReachP cfg s := by
  induction h with
  | fresh => exact .fresh
  | step op _ hop ih => exact .step op ih hop
  | crash op c _ hop hc ih => exact .crash op c ih hop hc

theorem reachP_runC {cfg : Cfg} (ops : List TOp) : ∀ {s : St}, ReachP cfg s → ValidOps cfg s ops →
    ReachP cfg (runC cfg s ops) := by
  induction ops with
  | nil => intro s h _; exact h
  | cons op ops ih => intro s h hv; exact ih (.step op h hv.1) hv.2

end Store
