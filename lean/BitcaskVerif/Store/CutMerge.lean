/-
  Crash cuts of the copy phase of the merge pass (C03): general lemmas about directories that are
  not "clean" (a data file with a record its hint file does not list yet), the loop invariant of
  the copy phase with everything a crash analysis needs, and the directories a cut inside one
  merge iteration can leave.
-/
import BitcaskVerif.Store.CutRecover
import BitcaskVerif.Store.Rescan

namespace Store

/-- the reopened store satisfies the store invariant (reads are sound) and reads as `m`.
    (Weaker than `Recovers`: after a kill between the data append and the hint append of a merge
    iteration the output's hint file lists one record less than its data file, so `HintsExact`
    does not hold in the reopened store.) -/
def RecoversW (d : Disk) (m : Map) : Prop := Inv (openDisk d).1 ∧ (openDisk d).1.abs = m

theorem Recovers.weak {d : Disk} {m : Map} (h : Recovers d m) : RecoversW d m := ⟨h.1.inv, h.2.2⟩

/-- the two outcomes of a crash inside an operation, in the terms of C03 -/
theorem recoversW_or {d : Disk} {m m' : Map} (h : RecoversW d m ∨ RecoversW d m') :
    ((openDisk d).1.abs = m ∨ (openDisk d).1.abs = m') ∧ Inv (openDisk d).1 := by
  rcases h with r | r
  · exact ⟨.inl r.2, r.1⟩
  · exact ⟨.inr r.2, r.1⟩

theorem recovers_or {d : Disk} {m m' : Map} (h : Recovers d m ∨ Recovers d m') :
    ((openDisk d).1.abs = m ∨ (openDisk d).1.abs = m') ∧ Inv (openDisk d).1 :=
  recoversW_or (h.imp Recovers.weak Recovers.weak)

/-- if the scan of `d'` is the scan of `d`, `d'` has the same files and hint files and keeps
    every record of `d`, then `d'` opens as `d` does -/
theorem recoversW_extend {d d' : Disk} {m : Map} (hr : rebuild d' = rebuild d) (hkeep : ∀ b, Keeps b d d')
    (hkeys : AL.keys d'.data = AL.keys d.data) (hh : ∀ id, id ∈ AL.keys d'.hint → id ∈ AL.keys d.hint)
    (h : RecoversW d m) : RecoversW d' m := by
  obtain ⟨hi, ha⟩ := h
  have hkd : (openDisk d').1.keydir = (openDisk d).1.keydir := by
    rw [openDisk_keydir, openDisk_keydir, hr]
  have hact : (openDisk d').1.active = (openDisk d).1.active := by
    rw [openDisk_active, openDisk_active, hr]
  have hK : ∀ b, Keeps b (openDisk d).1.disk (openDisk d').1.disk := by
    intro b fid p x _ h1 h2
    rw [openDisk_disk] at h1 h2
    rw [openDisk_disk, hr]
    by_cases e : fid = (rebuild d).2
    · subst e
      simp [dataOf, AL.get_set_same, recAt] at h1
    · simp only [dataOf, AL.get_set_other e] at h1 h2 ⊢
      exact hkeep fid fid p x (Nat.le_refl _) h1 h2
  refine ⟨⟨?_, ?_, ?_, ?_⟩, ?_⟩
  · intro k loc hk
    rw [hkd] at hk
    have hl := hi.locs k loc hk
    exact hl.keeps (Nat.le_refl _) (hK loc.fid)
  · intro id hid
    rw [hact]
    apply hi.ids
    rw [openDisk_disk] at hid ⊢
    rw [hr] at hid
    exact AL.mem_keys_set.mpr ((AL.mem_keys_set.mp hid).imp_right fun e => hkeys ▸ e)
  · intro id hid
    rw [hact]
    apply hi.hids
    rw [openDisk_disk] at hid ⊢
    simp only at hid ⊢
    exact hh id hid
  · rw [openDisk_disk, openDisk_active]; simp [AL.get_set_same]
  · rw [← ha]
    funext k
    apply abs_keeps (b := (openDisk d).1.active)
    · intro loc hl
      exact ⟨hi.locs k loc hl, LocOk.fid_le hi (hi.locs k loc hl)⟩
    · rw [hkd]
    · exact hK _

/-- `J'` differs from `J` only in file `mid`, where it has more records and scans the same -/
theorem recoversW_at {J J' : Disk} {m : Map} (mid : Nat) (hkeys : AL.keys J'.data = AL.keys J.data)
    (hhk : ∀ id, id ∈ AL.keys J'.hint → id ∈ AL.keys J.hint)
    (hother : ∀ fid, fid ≠ mid → AL.get fid J'.hint = AL.get fid J.hint ∧ dataOf J' fid = dataOf J fid ∧
      AL.get fid J'.tails = AL.get fid J.tails)
    (hpre : dataOf J mid <+: dataOf J' mid) (hscan : ∀ ix, fileScan J' ix mid = fileScan J ix mid)
    (h : RecoversW J m) : RecoversW J' m := by
  refine recoversW_extend ?_ ?_ hkeys hhk h
  · apply rebuild_congr hkeys
    intro fid _ ix
    by_cases e : fid = mid
    · subst e; exact hscan ix
    · exact fileScan_congr (hother fid e).1 (hother fid e).2.1 (fun _ => (hother fid e).2.2) ix
  · refine fun b => keeps_of_prefix (fun fid => ?_) b
    by_cases e : fid = mid
    · subst e; exact hpre
    · rw [(hother fid e).2.1]; exact List.prefix_refl _

/-- everything the crash analysis needs to know about a state of the merge loop started in `s` -/
structure LI (s : St) (m : MergeSt) : Prop where
  minv : MInv s.active s.abs m
  mr : MR m
  /-- the index is exactly what a scan of the current directory recovers -/
  kd : kdF m.s.keydir = replay (allEvs m.s.disk.data)
  /-- the calls issued so far are the effect on the directory so far -/
  frame : applyCalls s.disk m.calls = m.s.disk
  dom : ∀ k, (AL.get k m.s.keydir).isSome = (AL.get k s.keydir).isSome
  /-- the merge has only added records of keys that are present -/
  evs : ∃ extra, allEvs m.s.disk.data = allEvs s.disk.data ++ extra ∧
    ∀ e ∈ extra, (AL.get e.key s.keydir).isSome = true

theorem LI.clean {s : St} {m : MergeSt} (h : LI s m) : Clean m.s.disk m.s.keydir m.mid :=
  ⟨h.mr.asc, h.mr.hx, mem_keys_of_isSome h.minv.midex, h.minv.ids, h.minv.hids, h.minv.locs, h.kd⟩

theorem LI.absOf {s : St} {m : MergeSt} (h : LI s m) : absOf m.s.disk m.s.keydir = s.abs := by
  rw [← abs_eq_absOf]; exact h.minv.abs

theorem LI.absent {s : St} {m : MergeSt} (h : LI s m) {k : Key} (hk : AL.get k m.s.keydir = none) :
    AL.get k s.keydir = none := by
  cases hs : AL.get k s.keydir with
  | none => rfl
  | some l => have := h.dom k; rw [hk, hs] at this; cases this

theorem LI.recovers {s : St} {m : MergeSt} (h : LI s m) : Recovers m.s.disk s.abs := by
  have := h.clean.recovers
  rw [h.absOf] at this
  exact this

theorem mergeStart_li {s : St} (h : RInv s) (hf : Full s) : LI s (mergeStart s) := by
  obtain ⟨a, b, c⟩ := mergeStart_spec s h
  refine ⟨a, b, ?_, mergeStart_frame s, fun _ => rfl, ⟨[], by rw [c]; simp, by simp⟩⟩
  rw [c]
  exact h.kd_eq hf

theorem mergeStep_li (cfg : Cfg) (sel : List Nat) {s : St} (hsel : ∀ id, id ∈ sel → id ≤ s.active)
    {m : MergeSt} (h : LI s m) (k : Key) : LI s (mergeStep cfg sel m k) := by
  obtain ⟨s1, s2, _, _, _⟩ := mergeStep_spec cfg sel s.active s.abs hsel m k h.minv
  have hmr := mergeStep_mr cfg sel m k h.minv h.mr
  have hfr := mergeStep_frame cfg sel s.disk m k h.frame
  have hdom : ∀ k', (AL.get k' (mergeStep cfg sel m k).s.keydir).isSome = (AL.get k' s.keydir).isSome :=
    fun k' => by rw [s2, h.dom]
  rcases mergeStep_events cfg sel m k h.minv h.mr with e | ⟨loc, hk, hkd, hev, _, _, _⟩
  · rw [e]; exact h
  · refine ⟨s1, hmr, ?_, hfr, hdom, ?_⟩
    · rw [hkd, hev]
      funext k'
      unfold kdF
      rw [AL.get_set]
      by_cases hkk : k' = k
      · subst hkk
        have := replay_snoc_same (allEvs m.s.disk.data) ⟨k', newLocOf m loc, false⟩
        simp only [↓reduceIte]
        simpa using this.symm
      · simp only [hkk, ↓reduceIte]
        rw [replay_snoc_other _ _ (fun e => hkk e.symm)]
        exact congrFun h.kd k'
    · obtain ⟨extra, e1, e2⟩ := h.evs
      refine ⟨extra ++ [⟨k, newLocOf m loc, false⟩], by rw [hev, e1, List.append_assoc], ?_⟩
      intro e he
      rcases List.mem_append.mp he with he | he
      · exact e2 e he
      · simp only [List.mem_singleton] at he
        subst he
        simp only
        rw [← h.dom, hk]; rfl

theorem mergeLoop_li (cfg : Cfg) {s : St} (h : RInv s) (hf : Full s) (sel : List Nat)
    (hsel : ∀ id, id ∈ sel → id ≤ s.active) (order : List Key) : LI s (mergeLoop cfg s sel order) :=
  foldl_inv (P := LI s) (fun _ k h => mergeStep_li cfg sel hsel h k) order (mergeStart_li h hf)

/-- a clean directory plus one more empty data file above every id opens to the same contents -/
theorem Clean.recovers_addData {d : Disk} {kd : List (Key × Loc)} {a : Nat} (h : Clean d kd a) {b : Nat}
    (hb : a < b) : Recovers { d with data := AL.set b [] d.data } (absOf d kd) :=
  h.absOf_addData hb ▸ (h.addData hb).recovers

/-- the directory after the data append of a merge iteration, before its hint append -/
def halfDisk (m : MergeSt) (r : Rec) : Disk :=
  { m.s.disk with data := AL.set m.mid (dataOf m.s.disk m.mid ++ [r]) m.s.disk.data }

theorem dataOf_halfDisk_mid (m : MergeSt) (r : Rec) :
    dataOf (halfDisk m r) m.mid = dataOf m.s.disk m.mid ++ [r] := dataOf_set_same _ _ _

theorem dataOf_halfDisk_other (m : MergeSt) (r : Rec) {fid : Nat} (h : fid ≠ m.mid) :
    dataOf (halfDisk m r) fid = dataOf m.s.disk fid := dataOf_set_other _ h _

theorem keys_halfDisk {s : St} {m : MergeSt} (h : LI s m) (r : Rec) :
    AL.keys (halfDisk m r).data = AL.keys m.s.disk.data := AL.keys_set_of_mem (mem_keys_of_isSome h.minv.midex)

/-- a copied record whose hint entry is missing is invisible to the scan (the source file still
    holds it) -/
theorem halfDisk_recovers {s : St} {m : MergeSt} (h : LI s m) (r : Rec) : RecoversW (halfDisk m r) s.abs := by
  refine recoversW_at m.mid (keys_halfDisk h r) (fun _ hi => hi)
    (fun fid e => ⟨rfl, dataOf_halfDisk_other m r e, rfl⟩) ⟨[r], (dataOf_halfDisk_mid m r).symm⟩ (fun ix => ?_)
    h.recovers.weak
  obtain ⟨hs, hg⟩ := Option.isSome_iff_exists.mp h.mr.hmid
  have hfit := h.mr.hx.fit hg
  have hg' : AL.get m.mid (halfDisk m r).hint = some hs := hg
  rw [fileScan_hinted hg' ?_ ix, fileScan_hinted hg ?_ ix]
  · intro x hx; exact Nat.le_trans (hfit x hx) (Nat.le_add_right _ _)
  · intro x hx
    rw [dataOf_halfDisk_mid, fileSize_append, Nat.add_assoc]
    exact Nat.le_trans (hfit x hx) (Nat.le_add_right _ _)

/-- every cut of the two appends of a merge iteration -/
theorem move_cuts {s : St} {m : MergeSt} (h : LI s m) (k : Key) (loc : Loc) (r : Rec)
    (hmove : LI s (Tr.moveNoRoll m k loc r)) {c : List Call}
    (hc : Cut [Call.append ⟨.data, m.mid⟩ (.ofRec r),
      Call.append ⟨.hint, m.mid⟩ (.ofHint { ts := loc.ts, len := loc.len, pos := m.mpos, key := k })] c) :
    RecoversW (applyCalls m.s.disk c) s.abs := by
  rcases cut_two_appends hc with rfl | ⟨bs, rfl⟩ | rfl | ⟨bs, rfl⟩ | rfl
  · exact h.recovers.weak
  · have := (h.clean.tails (AL.set m.mid ((AL.get m.mid m.s.disk.tails).getD 0 + bs.length) m.s.disk.tails)).recovers
    rw [absOf_tails, h.absOf] at this
    exact this.weak
  · exact halfDisk_recovers h r
  · exact halfDisk_recovers h r
  · exact hmove.recovers.weak

/-- **the cuts of one merge iteration**: a cut of the calls issued before it; these calls and a
    cut of the two appends; or, if the output rolls over, the calls up to the appends and a prefix
    of the rollover's calls.  The state after the appends is the one in which the iteration ends
    under a limit that is just not exceeded, so whatever the iteration preserves for every limit
    holds there as well. -/
theorem MInv.mergeStep_cut {A : Nat} {abs0 : Map} {m : MergeSt} (h : MInv A abs0 m) (cfg : Cfg) (sel : List Nat)
    (k : Key) {c : List Call} (hc : Cut (mergeStep cfg sel m k).calls c) :
    Cut m.calls c ∨ ∃ loc r, AL.get k m.s.keydir = some loc ∧ loc.fid ∈ sel ∧
      recAt (dataOf m.s.disk loc.fid) loc.pos = some r ∧ r.len = loc.len ∧
      mergeStep { cfg with maxFile := m.mpos + loc.len } sel m k = Tr.moveNoRoll m k loc r ∧
      ((∃ c', c = m.calls ++ c' ∧ Cut [Call.append ⟨.data, m.mid⟩ (.ofRec r), Call.append ⟨.hint, m.mid⟩
          (.ofHint { ts := loc.ts, len := loc.len, pos := m.mpos, key := k })] c') ∨
       (mergeStep cfg sel m k = Tr.moveRoll m k loc r ∧ ∃ c' post, c = (Tr.moveNoRoll m k loc r).calls ++ c' ∧
          [Call.fsync ⟨.data, m.mid⟩, Call.fsync ⟨.hint, m.mid⟩, Call.create ⟨.data, m.mid + 1⟩,
           Call.create ⟨.hint, m.mid + 1⟩] = c' ++ post)) := by
  rcases h.mergeStep_eq cfg sel k with ⟨e, _⟩ | ⟨loc, r, hk, hs, h1, _, _, h4, _, hr⟩
  · exact .inl (e ▸ hc)
  · have hNR : mergeStep { cfg with maxFile := m.mpos + loc.len } sel m k = Tr.moveNoRoll m k loc r := by
      rw [mergeStep_move _ sel m k loc r hk hs h1, if_neg (Nat.lt_irrefl _)]; rfl
    refine Or.imp_right (fun x => ⟨loc, r, hk, hs, h1, h4, hNR, x⟩) ?_
    rcases hr with ⟨_, e⟩ | ⟨_, e⟩
    · rw [e] at hc; exact (cut_append (a := m.calls) hc).imp_right .inl
    · rw [e] at hc
      rcases cut_append (a := (Tr.moveNoRoll m k loc r).calls) hc with h2 | ⟨c', rfl, h2⟩
      · exact (cut_append (a := m.calls) h2).imp_right .inl
      · obtain ⟨post, e'⟩ := cut_noappend_list rfl h2
        exact .inr (.inr ⟨e, c', post, rfl, e'⟩)

/-- **a kill inside one merge iteration** leaves a cut of the calls issued before the iteration,
    or a directory that opens to the contents before the merge -/
theorem mergeStep_cuts (cfg : Cfg) (sel : List Nat) {s : St} (hsel : ∀ id, id ∈ sel → id ≤ s.active)
    {m : MergeSt} (h : LI s m) (k : Key) {c : List Call} (hc : Cut (mergeStep cfg sel m k).calls c) :
    Cut m.calls c ∨ RecoversW (applyCalls s.disk c) s.abs := by
  rcases h.minv.mergeStep_cut cfg sel k hc with h1 | ⟨loc, r, _, _, _, _, eNR, hcs⟩
  · exact .inl h1
  right
  have hNR : LI s (Tr.moveNoRoll m k loc r) := eNR ▸ mergeStep_li _ sel hsel h k
  rcases hcs with ⟨c', rfl, h2⟩ | ⟨e, c', post, rfl, e'⟩
  · rw [applyCalls_append, h.frame]; exact move_cuts h k loc r hNR h2
  · rw [applyCalls_append, hNR.frame]
    rcases prefix_cases4 e' with rfl | rfl | rfl | rfl | rfl
    · exact hNR.recovers.weak
    · exact hNR.recovers.weak
    · exact hNR.recovers.weak
    · have := hNR.clean.recovers_addData (b := m.mid + 1) (Nat.lt_succ_self _)
      rw [hNR.absOf] at this
      exact this.weak
    · exact (e ▸ mergeStep_li cfg sel hsel h k).recovers.weak

/-- a kill while the first output pair is being created -/
theorem mergeStart_cuts {s : St} (h : RInv s) (hf : Full s) {c : List Call} (hc : Cut (mergeStart s).calls c) :
    RecoversW (applyCalls s.disk c) s.abs := by
  obtain ⟨post, e⟩ := cut_noappend_list rfl hc
  rcases prefix_cases2 e with rfl | rfl | rfl
  · exact (recovers_self h hf).weak
  · have := (clean_of_rinv h hf).recovers_addData (b := s.active + 1) (Nat.lt_succ_self _)
    rw [← abs_eq_absOf] at this
    exact this.weak
  · exact (mergeStart_li h hf).recovers.weak

/-- **copy phase of the merge**: every cut of the calls issued up to the end of the merge loop
    leaves a directory that opens to the contents before the merge -/
theorem mergeLoop_cuts (cfg : Cfg) {s : St} (h : RInv s) (hf : Full s) (sel : List Nat)
    (hsel : ∀ id, id ∈ sel → id ≤ s.active) (order : List Key) {c : List Call}
    (hc : Cut (mergeLoop cfg s sel order).calls c) : RecoversW (applyCalls s.disk c) s.abs := by
  rcases foldl_cut (calls := MergeSt.calls) order _ (fun done k _ _ _ hc =>
    mergeStep_cuts cfg sel hsel (mergeLoop_li cfg h hf sel hsel done) k hc) hc with h1 | h1
  · exact mergeStart_cuts h hf h1
  · exact h1

end Store
