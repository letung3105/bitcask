/-
  Fault-aware merge pass (C20): the trace monitor of C14 accepts the calls of a failed merge
  pass, and after the pass (and its possibly pending move) the coupling invariant `Coup` between
  store and monitor — in particular the id invariant `IdInv` — holds again.  So histories with
  failed merge passes satisfy the trace properties of C14 (fresh ids, own appends, the largest id
  is never removed) as a whole, and every C14 theorem applies to every run that continues after
  the failure.
-/
import BitcaskVerif.Store.MergeFaultCalls
import BitcaskVerif.Store.TraceRun

namespace Store.Tr

variable {hintFirst : Bool}

/-! ### the directory -/

/-- no data file above `mid`, hint files belong to existing data files, crash tails only up to `mid` -/
structure DOk (mid : Nat) (d : Disk) : Prop where
  ids : ∀ id, id ∈ AL.keys d.data → id ≤ mid
  hsub : ∀ id, id ∈ AL.keys d.hint → id ∈ AL.keys d.data
  tl : ∀ id, id ∈ AL.keys d.tails → id ≤ mid

theorem DOk.mono {mid mid' : Nat} {d : Disk} (h : DOk mid d) (hm : mid ≤ mid') : DOk mid' d :=
  ⟨fun id hid => Nat.le_trans (h.ids id hid) hm, h.hsub, fun id hid => Nat.le_trans (h.tl id hid) hm⟩

/-- one more (or a longer) data file -/
theorem DOk.setData {mid : Nat} {d : Disk} (h : DOk mid d) {b : Nat} (hb : b ≤ mid) (rs : List Rec) :
    DOk mid { d with data := AL.set b rs d.data } :=
  ⟨Store.keys_set_le hb h.ids, fun id hid => AL.mem_keys_set.mpr (.inr (h.hsub id hid)), h.tl⟩

theorem MCoup.dok {A : Nat} {T : List (Nat × Nat)} {m0 : Mon} {m : MergeSt} (h : MCoup A T m0 m)
    (hT : ∀ id, id ∈ AL.keys T → id ≤ A) : DOk m.mid m.s.disk :=
  ⟨h.ids, h.hsub, fun id hid => Nat.le_trans (hT id (h.tails ▸ hid)) (Nat.le_of_lt h.mon.midgt)⟩

theorem UCoup.dok {A mid : Nat} {T : List (Nat × Nat)} {m0 : Mon} {st : St × List Call} (h : UCoup A mid T m0 st)
    (hT : ∀ id, id ∈ AL.keys T → id ≤ A) : DOk mid st.1.disk :=
  ⟨h.ids, h.hsub, fun id hid => Nat.le_trans (hT id (h.tails ▸ hid)) (Nat.le_of_lt h.mon.midgt)⟩

/-- the new active file above every id -/
theorem DOk.close {mid : Nat} {s : St} (h : DOk mid s.disk) : IdInv (newActive s (mid + 1)).1 := by
  have h' := (h.mono (Nat.le_succ mid)).setData (Nat.le_refl _) []
  exact ⟨h'.ids, h'.hsub, by simp [newActive, AL.get_set_same], fun id hid => Nat.lt_succ_of_le (h.tl id hid),
    fun id hid => Nat.lt_succ_of_le (h.ids id (h.hsub id hid))⟩

/-- **the directory after a failing iteration** -/
theorem failMove_dok {A : Nat} {T : List (Nat × Nat)} {m0 : Mon} {sel : List Nat} {m : MergeSt} {k : Key} {loc : Loc} {r : Rec}
    (h : MCoup A T m0 m) (hT : ∀ id, id ∈ AL.keys T → id ≤ A) (hk : AL.get k m.s.keydir = some loc)
    (hs : loc.fid ∈ sel) (hr : recAt (dataOf m.s.disk loc.fid) loc.pos = some r) (i torn : Nat) :
    DOk (failMove hintFirst m k loc r i torn).mid (failMove hintFirst m k loc r i torn).s.disk := by
  have d := h.dok hT
  -- the complete copy, as in an iteration whose limit is not exceeded
  have dNo : DOk m.mid (moveDisk m k loc r) := by
    have := (mergeStep_coup { maxFile := m.mpos + loc.len } sel A T m0 m k h).dok hT
    rw [mergeStep_move _ sel m k loc r hk hs hr, if_neg (Nat.lt_irrefl _)] at this
    exact this
  rcases i with _ | _ | _ | _ | _ | i
  · exact ⟨d.ids, d.hsub, Store.keys_set_le (Nat.le_refl _) d.tl⟩  -- 0: data append
  · cases hintFirst <;> exact d.setData (Nat.le_refl _) _           -- 1: hint append
  · exact dNo                                                       -- 2: fsync data
  · exact dNo                                                       -- 3: fsync hint
  · exact dNo.mono (Nat.le_succ _)                                  -- 4: create data
  · exact (dNo.mono (Nat.le_succ _)).setData (Nat.le_refl _) []     -- 5: create hint

/-! ### the monitor -/

/-- what the monitor knows when `merge_files` has returned — with or without an error — with
    `merge_fileid = mid`, for a pass started at active id `A` -/
structure FMon (A mid : Nat) (m : Mon) : Prop where
  midgt : A < mid
  bound : m.bound ≤ mid + 1
  unl : ∀ f, f ∈ m.unlinked → f.id ≤ A
  okF : m.okFresh = true
  okO : m.okOwn = true
  okT : m.okTop = true

theorem MMonOk.toF {A mid : Nat} {m : Mon} (h : MMonOk A mid m) : FMon A mid m :=
  ⟨h.midgt, Nat.le_of_eq h.bound, h.unl, h.okF, h.okO, h.okT⟩

theorem UMonOk.toF {A mid : Nat} {m : Mon} (h : UMonOk A mid m) : FMon A mid m :=
  ⟨h.midgt, Nat.le_of_eq h.bound, h.unl, h.okF, h.okO, h.okT⟩

theorem FMon.mono {A mid : Nat} {m : Mon} (h : FMon A mid m) : FMon A (mid + 1) m :=
  ⟨Nat.lt_succ_of_lt h.midgt, Nat.le_succ_of_le h.bound, h.unl, h.okF, h.okO, h.okT⟩

/-- the creation of a data file above every id the pass has used -/
theorem FMon.create {A mid : Nat} {m : Mon} (h : FMon A mid m) :
    MonOk (mid + 1) (m.calls [Call.create ⟨.data, mid + 1⟩]) :=
  .of_create h.bound (fun f hf => Nat.lt_succ_of_le (Nat.le_trans (h.unl f hf) (Nat.le_of_lt h.midgt))) h.okF h.okO h.okT

/-- … seen from the pass that goes on: the creation of the next output data file -/
theorem FMon.createNext {A mid : Nat} {m : Mon} (h : FMon A mid m) :
    FMon A (mid + 1) (m.calls [Call.create ⟨.data, mid + 1⟩]) :=
  have h' := h.create
  ⟨Nat.lt_succ_of_lt h.midgt, Nat.le_of_eq h'.bound, h.unl, h'.okF, h'.okO, h'.okT⟩

/-- **the monitor after a failing iteration** -/
theorem failMove_mon {A : Nat} (m0 : Mon) (m : MergeSt) (k : Key) (loc : Loc) (r : Rec) (i torn : Nat)
    (h : MMonOk A m.mid (m0.calls m.calls)) :
    FMon A (failMove hintFirst m k loc r i torn).mid (m0.calls (failMove hintFirst m k loc r i torn).calls) := by
  have h2 : MMonOk A m.mid (m0.calls (moveCalls m k loc r)) := by
    rw [moveCalls, Mon.calls_append]; exact h.appends _ _
  rcases i with _ | _ | _ | _ | _ | i
  · -- 0: data append
    exact (Mon.calls_append m0 m.calls _).symm ▸ (h.appendD _).toF
  · -- 1: hint append
    exact (Mon.calls_append m0 m.calls _).symm ▸ (h.appends _ _).toF
  · -- 2: fsync data
    exact h2.toF
  · -- 3: fsync hint
    exact (Mon.calls_append m0 (moveCalls m k loc r) _).symm ▸ (h2.fsync1 _).toF
  · -- 4: create data
    exact (Mon.calls_append m0 (moveCalls m k loc r) _).symm ▸ (h2.fsyncs _ _).toF.mono
  · -- 5: create hint
    have := (h2.fsyncs ⟨.data, m.mid⟩ ⟨.hint, m.mid⟩).toF.createNext
    rw [← Mon.calls_append, ← Mon.calls_append] at this
    exact this

/-! ### the pass -/

/-- **directory and monitor when `merge_files` returns**, failed at any call or not at all -/
theorem _root_.Store.Stop.coup {cfg : Cfg} {s : St} {sel : List Nat} {order : List Key} {j torn : Nat}
    {z : (St × List Call) × Bool} {mid : Nat} {m0 : Mon} (h : Coup s m0) (hsel : ∀ id, id ∈ sel → id ≤ s.active)
    (hst : Stop hintFirst cfg s sel order j torn z mid) :
    DOk mid z.1.1.disk ∧ FMon s.active mid (m0.calls z.1.2) := by
  have hT : ∀ id, id ∈ AL.keys s.disk.tails → id ≤ s.active := fun id hid => Nat.le_of_lt (h.inv.tails id hid)
  have hL := mergeLoop_coup cfg s sel m0 h
  have hU : ∀ done, (∀ id, id ∈ done → id ∈ sel) →
      UCoup s.active (Store.mergeLoop cfg s sel order).mid s.disk.tails m0 (unlinked cfg s sel order done) :=
    fun done hd => unlinkFold_coup _ _ _ m0 done (fun id hid => hsel id (hd id hid)) _ (hL order).synced
  have d0 : DOk (s.active + 1) s.disk :=
    ⟨fun id hid => Nat.le_succ_of_le (h.inv.ids id hid), h.inv.hsub, fun id hid => Nat.le_succ_of_le (hT id hid)⟩
  cases hst with
  | done => exact ⟨(hU sel fun _ hd => hd).dok hT, (hU sel fun _ hd => hd).mon.toF⟩
  | create0 =>
    exact ⟨d0, Nat.lt_succ_self _, Nat.le_succ_of_le (Nat.le_of_eq h.mon.bound), fun f hf => Nat.le_of_lt (h.mon.unl f hf),
      h.mon.okF, h.mon.okO, h.mon.okT⟩
  | create1 =>
    have h1 : MonOk (s.active + 1) (m0.step (.call (.create ⟨.data, s.active + 1⟩))) :=
      h.mon.create_data (Nat.lt_succ_self _)
    exact ⟨d0.setData (Nat.le_refl _) [], Nat.lt_succ_self _, Nat.le_of_eq h1.bound,
      fun f hf => Nat.le_of_lt_succ (h1.unl f hf), h1.okF, h1.okO, h1.okT⟩
  | move ho hm hk hs hr =>
    subst hm
    exact ⟨failMove_dok (hL _) hT hk hs hr _ _, failMove_mon m0 _ _ _ _ _ _ (hL _).mon⟩
  | @sync i hi =>
    refine ⟨(hL order).dok hT, ?_⟩
    rw [Mon.calls_append]
    rcases lt_two hi with rfl | rfl
    · exact (hL order).mon.toF
    · exact ((hL order).mon.fsync1 _).toF
  | unlink1 hsel' hu =>
    subst hu
    have hu := hU _ fun _ hd => hsel' ▸ List.mem_append_left _ hd
    exact ⟨hu.dok hT, hu.mon.toF⟩
  | @unlink2 done rest id u hsel' hu =>
    subst hu
    have hu := hU _ fun _ hd => hsel' ▸ List.mem_append_left _ hd
    have d := hu.dok hT
    refine ⟨⟨d.ids, fun i hi => d.hsub i (AL.mem_keys_del.mp hi).2, d.tl⟩, ?_⟩
    rw [Mon.calls_append, Mon.calls_cons, Mon.calls_nil]
    exact (hu.mon.unlink ⟨.hint, id⟩ (hsel id (hsel' ▸ List.mem_append_right _ List.mem_cons_self))).toF

/-- **the monitor accepts the calls of a failed merge pass, and the coupling invariant holds again
    after the pass and its possibly pending move** -/
theorem mergeF_coup (cfg : Cfg) (s : St) (sel : List Nat) (order : List Key) (j torn : Nat) (m0 : Mon)
    (h : Coup s m0) (hsel : ∀ id, id ∈ sel → id ≤ s.active) :
    Coup (mergeF hintFirst cfg s sel order j torn).p.move.1
      (m0.calls ((mergeF hintFirst cfg s sel order j torn).calls ++ (mergeF hintFirst cfg s sel order j torn).p.move.2)) := by
  obtain ⟨hd, hm⟩ := (mfZ_stop (hintFirst := hintFirst) cfg s sel order j torn).coup h hsel
  rw [mergeF_eq, (closeF_move _ _ _).1, (closeF_move _ _ _).2, Mon.calls_append]
  exact ⟨hd.close, hm.create⟩

end Store.Tr
