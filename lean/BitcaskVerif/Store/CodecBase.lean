/-
  What the byte codec of `Store/Codec.lean` is made of, independently of the two entry formats:
  little-endian integers round-trip; a one-entry decoder is a chain of `Dec.take` steps, and such
  a chain is stable under appending bytes (`Dec.Ext`); a sequential scan over whole entries
  followed by something cut short returns exactly the whole entries (`scan_flatMap`).
  Core Lean only.
-/
import BitcaskVerif.Store.Codec
import BitcaskVerif.Store.Lemmas

namespace Store

/-- `k` little-endian base-256 digits of `n` -/
def leBytes : Nat → Nat → List UInt8
  | 0, _ => []
  | k+1, n => UInt8.ofNat (n % 256) :: leBytes k (n / 256)

theorem leBytes_length (k n : Nat) : (leBytes k n).length = k := by
  induction k generalizing n with
  | zero => rfl
  | succ k ih => rw [leBytes, List.length_cons, ih]

theorem range_map_eq_leBytes (k n : Nat) :
    ((List.range k).map fun i => UInt8.ofNat ((n / 256 ^ i) % 256)) = leBytes k n := by
  induction k generalizing n with
  | zero => rfl
  | succ k ih =>
    rw [List.range_succ_eq_map, List.map_cons, List.map_map, leBytes, ← ih (n / 256)]
    simp only [Nat.pow_zero, Nat.div_one, List.cons.injEq, true_and]
    apply List.map_congr_left
    intro i _
    simp only [Function.comp, Nat.pow_succ, Nat.div_div_eq_div_mul]
    rw [Nat.mul_comm]

theorem u64le_eq_leBytes (n : Nat) : u64le n = leBytes 8 n := range_map_eq_leBytes 8 n

theorem leNat_leBytes (k n : Nat) : leNat (leBytes k n) = n % 256 ^ k := by
  induction k generalizing n with
  | zero => rw [leBytes, leNat, Nat.pow_zero, Nat.mod_one]
  | succ k ih =>
    rw [leBytes, leNat, ih, UInt8.toNat_ofNat']
    show n % 256 % 256 + _ = _
    rw [Nat.mod_mod, Nat.pow_succ, Nat.mul_comm (256 ^ k) 256, Nat.mod_mul]

@[simp] theorem u64le_length (n : Nat) : (u64le n).length = 8 := by
  rw [u64le_eq_leBytes, leBytes_length]

@[simp] theorem i64le_length (z : Int) : (i64le z).length = 8 := u64le_length _

theorem leNat_u64le (n : Nat) (h : n < 18446744073709551616) : leNat (u64le n) = n := by
  rw [u64le_eq_leBytes, leNat_leBytes]
  exact Nat.mod_eq_of_lt h

/-- two's complement: a non-negative `z` is its own residue, a negative one is the residue minus
    2^64, and the residue is below 2^63 exactly in the first case -/
theorem toI64_leNat_i64le (z : Int) (h1 : -9223372036854775808 ≤ z) (h2 : z < 9223372036854775808) :
    toI64 (leNat (i64le z)) = z := by
  unfold i64le
  by_cases hz : 0 ≤ z
  · obtain ⟨n, rfl⟩ := Int.eq_ofNat_of_zero_le hz
    have hn : n < 9223372036854775808 := Int.ofNat_lt.mp h2
    rw [Int.emod_eq_of_lt hz (Int.lt_trans h2 (by decide)), Int.toNat_natCast,
      leNat_u64le n (Nat.lt_trans hn (by decide)), toI64, if_pos hn]
  · have hb : 0 ≤ z + 18446744073709551616 ∧ z + 18446744073709551616 < 18446744073709551616 := by omega
    obtain ⟨n, hn⟩ := Int.eq_ofNat_of_zero_le hb.1
    rw [Int.emod_eq_add_self_emod, Int.emod_eq_of_lt hb.1 hb.2, hn, Int.toNat_natCast,
      leNat_u64le n (Int.ofNat_lt.mp (hn ▸ hb.2)), toI64, if_neg (by omega)]
    omega

theorem takeN_append_left {n : Nat} {a : List UInt8} (h : a.length = n) (b : List UInt8) :
    takeN n (a ++ b) = some (a, b) := by
  subst h
  rw [takeN, if_pos (by rw [List.length_append]; exact Nat.le_add_right _ _), List.take_left, List.drop_left]

theorem takeN_eq_some {n : Nat} {bs a b : List UInt8} (h : takeN n bs = some (a, b)) :
    bs = a ++ b ∧ a.length = n := by
  unfold takeN at h
  split at h
  · next hle =>
    injection h with h
    injection h with ha hb
    subst ha hb
    exact ⟨(List.take_append_drop n bs).symm, List.length_take_of_le hle⟩
  · cases h

theorem takeN_append_of_some {n : Nat} {bs a b : List UInt8} (h : takeN n bs = some (a, b))
    (q : List UInt8) : takeN n (bs ++ q) = some (a, b ++ q) := by
  obtain ⟨rfl, hl⟩ := takeN_eq_some h
  rw [List.append_assoc]
  exact takeN_append_left hl _

namespace Dec
variable {α : Type}

/-- split off `n` bytes and go on with `f`; with fewer bytes left the entry is cut short.
    `decRec` and `decHint` are chains of these steps (`decRec_eq_take`, `decHint_eq_take`). -/
def take (n : Nat) (bs : List UInt8) (f : List UInt8 → List UInt8 → Dec α) : Dec α :=
  match takeN n bs with
  | none => .eof
  | some (a, b) => f a b

theorem take_append_left {n : Nat} {a : List UInt8} (h : a.length = n) (b : List UInt8)
    (f : List UInt8 → List UInt8 → Dec α) : take n (a ++ b) f = f a b := by
  rw [take, takeN_append_left h]

/-- `Ext q d d'`: `d'` is a possible result on `p ++ q` of a decoder that returned `d` on `p`.
    A decoded entry stands (with `q` left over as well) and so does an error; only "cut short"
    may turn into anything. -/
def Ext (q : List UInt8) : Dec α → Dec α → Prop
  | .ok a rest, d' => d' = .ok a (rest ++ q)
  | .bad, d' => d' = .bad
  | .eof, _ => True

theorem take_ext {q : List UInt8} {f : List UInt8 → List UInt8 → Dec α}
    (hf : ∀ a b, Ext q (f a b) (f a (b ++ q))) (n : Nat) (p : List UInt8) :
    Ext q (take n p f) (take n (p ++ q) f) := by
  unfold take
  cases h : takeN n p with
  | none => trivial
  | some ab => rw [takeN_append_of_some h]; exact hf ab.1 ab.2

/-- a decoder that is stable under appending bytes reports the first `n` bytes of an input it
    decodes completely, `n` less than its length, as cut short: anything else would stand on the
    whole input and leave the missing bytes over -/
theorem eof_of_take {dec : List UInt8 → Dec α} (hext : ∀ p q, Ext q (dec p) (dec (p ++ q)))
    {e : List UInt8} {a : α} (he : dec e = .ok a []) {n : Nat} (hn : n < e.length) :
    (e.take n).length = n ∧ dec (e.take n) = .eof := by
  refine ⟨List.length_take_of_le (Nat.le_of_lt hn), ?_⟩
  have h := hext (e.take n) (e.drop n)
  rw [List.take_append_drop, he] at h
  cases hd : dec (e.take n) with
  | eof => rfl
  | bad => rw [hd] at h; cases h
  | ok a' rest =>
    rw [hd] at h
    injection h with _ h2
    have := congrArg List.length (List.append_eq_nil_iff.mp h2.symm).2
    rw [List.length_drop] at this
    exact absurd (Nat.sub_eq_zero_iff_le.mp this) (Nat.not_le_of_lt hn)

end Dec

section
variable {α : Type} {dec : List UInt8 → Dec α} {enc : α → List UInt8} {Good : α → Prop}
  {scan : Nat → List UInt8 → Option (List α)}

/-- whole entries followed by bytes that the decoder reports as cut short scan to exactly the
    whole entries; `scan` is any function with the recursion equation of `scanRecs` and
    `scanHintsBytes` -/
theorem scan_flatMap
    (hscan : ∀ fuel bs, scan (fuel + 1) bs = match dec bs with
      | .eof => some []
      | .bad => none
      | .ok a rest => (scan fuel rest).map (a :: ·))
    (hdec : ∀ x, Good x → ∀ rest, dec (enc x ++ rest) = .ok x rest)
    (xs : List α) (hxs : ∀ x ∈ xs, Good x) {p : List UInt8} (hp : dec p = .eof) (fuel : Nat)
    (hf : xs.length < fuel) : scan fuel (xs.flatMap enc ++ p) = some xs := by
  induction xs generalizing fuel with
  | nil =>
    cases fuel with
    | zero => cases hf
    | succ fuel => rw [List.flatMap_nil, List.nil_append, hscan, hp]
  | cons x xs ih =>
    cases fuel with
    | zero => cases hf
    | succ fuel =>
      rw [List.flatMap_cons, List.append_assoc, hscan, hdec x (hxs x List.mem_cons_self)]
      show (scan fuel (xs.flatMap enc ++ p)).map (x :: ·) = some (x :: xs)
      rw [ih (fun y hy => hxs y (List.mem_cons_of_mem _ hy)) fuel (Nat.lt_of_succ_lt_succ hf)]
      rfl

theorem length_le_flatMap (hpos : ∀ x, 0 < (enc x).length) (xs : List α) :
    xs.length ≤ (xs.flatMap enc).length := by
  induction xs with
  | nil => exact Nat.le_refl _
  | cons x xs ih =>
    rw [List.flatMap_cons, List.length_append, List.length_cons, Nat.add_comm]
    exact Nat.add_le_add (hpos x) ih

end

end Store
