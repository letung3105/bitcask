/-
  C19 helper lemmas (static): in a state where every KeyDir entry addresses the record it
  was created for (`Inv.locs`) and KeyDir keys are distinct, the counting form of exactness
  (`FileAcc`) is the same as equality with the ground truth `truthFile` recomputed from the
  file's records.  The bridge is a bijection argument: distinct keys address distinct records
  (a record has one key), records of a file start at distinct positions (lengths are positive).
  Then the counter list, read as a finite map or up to order, is `Store.truth`.
-/
import BitcaskVerif.Store.StatsOps

namespace Store.Stats
open Store

theorem isLiveAt_iff (kd : List (Key × Loc)) (f pos len : Nat) :
    isLiveAt kd f pos len = true ↔ ∃ k l, (k, l) ∈ kd ∧ l.fid = f ∧ l.pos = pos ∧ l.len = len := by
  unfold isLiveAt
  rw [List.any_eq_true]
  constructor
  · rintro ⟨⟨k, l⟩, hm, hp⟩
    simp only [Bool.and_eq_true, decide_eq_true_eq] at hp
    exact ⟨k, l, hm, hp.1.1, hp.1.2, hp.2⟩
  · rintro ⟨k, l, hm, h1, h2, h3⟩
    exact ⟨(k, l), hm, by simp [h1, h2, h3]⟩

/-- a KeyDir entry in file `f` at or after byte `base` addresses a record of `rs` (laid out from
    `base`) with its key and length -/
def Addr (kd : List (Key × Loc)) (f base : Nat) (rs : List Rec) : Prop :=
  ∀ k l, AL.get k kd = some l → l.fid = f → base ≤ l.pos →
    ∃ r, recAt rs (l.pos - base) = some r ∧ r.key = k ∧ r.len = l.len

variable {kd : List (Key × Loc)} {f base : Nat} {r : Rec} {rs : List Rec}

theorem Addr.split (h : Addr kd f base (r :: rs)) {k : Key} {l : Loc} (hg : AL.get k kd = some l)
    (hf : l.fid = f) (hb : base ≤ l.pos) : l.pos = base ∨ base + r.len ≤ l.pos := by
  obtain ⟨x, hx, _⟩ := h k l hg hf hb
  rcases recAt_cons_some hx with ⟨h0, _⟩ | ⟨h0, _⟩
  · exact .inl (Nat.le_antisymm (Nat.sub_eq_zero_iff_le.mp h0) hb)
  · exact .inr (Nat.add_le_of_le_sub' hb h0)

theorem Addr.head (h : Addr kd f base (r :: rs)) {k : Key} {l : Loc} (hg : AL.get k kd = some l)
    (hf : l.fid = f) (hb : l.pos = base) : k = r.key ∧ l.len = r.len := by
  obtain ⟨x, hx, h1, h2⟩ := h k l hg hf (Nat.le_of_eq hb.symm)
  rcases recAt_cons_some hx with ⟨_, e⟩ | ⟨h0, _⟩
  · subst e; exact ⟨h1.symm, h2.symm⟩
  · rw [hb, Nat.sub_self] at h0
    exact absurd h0 (Nat.not_le_of_gt r.len_pos)

theorem Addr.tail (h : Addr kd f base (r :: rs)) : Addr kd f (base + r.len) rs := by
  intro k l hg hf hb
  obtain ⟨x, hx, h1, h2⟩ := h k l hg hf (Nat.le_trans (Nat.le_add_right ..) hb)
  rcases recAt_cons_some hx with ⟨h0, _⟩ | ⟨_, hx'⟩
  · exact absurd (Nat.le_trans hb (Nat.sub_eq_zero_iff_le.mp h0))
      (Nat.not_le_of_gt (Nat.lt_add_of_pos_right r.len_pos))
  · exact ⟨x, Nat.sub_add_eq .. ▸ hx', h1, h2⟩

theorem Addr.isLiveAt_head (h : Addr kd f base (r :: rs)) (hnd : (AL.keys kd).Nodup) :
    isLiveAt kd f base r.len = true ↔ ∃ l, AL.get r.key kd = some l ∧ l.fid = f ∧ l.pos = base := by
  rw [isLiveAt_iff]
  constructor
  · rintro ⟨k, l, hm, h1, h2, _⟩
    have hg := get_of_mem hnd hm
    exact ⟨l, (h.head hg h1 h2).1 ▸ hg, h1, h2⟩
  · rintro ⟨l, hg, h1, h2⟩
    exact ⟨r.key, l, mem_of_get hg, h1, h2, (h.head hg h1 h2).2⟩

def liveFrom (kd : List (Key × Loc)) (f : Nat) (w : Nat → Nat) (base : Nat) : Nat :=
  wsum (fun l => if l.fid = f ∧ base ≤ l.pos then w l.len else 0) kd

theorem liveFrom_nil (hnd : (AL.keys kd).Nodup) (w : Nat → Nat) (h : Addr kd f base []) :
    liveFrom kd f w base = 0 := by
  apply wsum_zero
  intro k l hm
  by_cases hc : l.fid = f ∧ base ≤ l.pos
  · obtain ⟨x, hx, _⟩ := h k l (get_of_mem hnd hm) hc.1 hc.2
    cases hx
  · exact if_neg hc

/-- **the bijection, one record at a time**: the entries at or after `base` are the entry of the
    first record's key, if that record is live, and the entries behind the first record -/
theorem liveFrom_cons (hnd : (AL.keys kd).Nodup) (w : Nat → Nat) (h : Addr kd f base (r :: rs)) :
    liveFrom kd f w base =
      (if isLiveAt kd f base r.len then w r.len else 0) + liveFrom kd f w (base + r.len) := by
  have hgt : ¬ base + r.len ≤ base := Nat.not_le_of_gt (Nat.lt_add_of_pos_right r.len_pos)
  -- split the sum into "at `base`" and "behind the first record"
  have hsplit : liveFrom kd f w base =
      wsum (fun l => if l.fid = f ∧ l.pos = base then w l.len else 0) kd + liveFrom kd f w (base + r.len) := by
    apply wsum_add
    intro k l hm
    by_cases hc : l.fid = f ∧ base ≤ l.pos
    · rcases h.split (get_of_mem hnd hm) hc.1 hc.2 with e | e
      · rw [if_pos hc, if_pos ⟨hc.1, e⟩, if_neg fun c => hgt (Nat.le_trans c.2 (Nat.le_of_eq e))]; rfl
      · rw [if_pos hc, if_neg fun c : l.fid = f ∧ l.pos = base => hgt (Nat.le_trans e (Nat.le_of_eq c.2)),
          if_pos ⟨hc.1, e⟩, Nat.zero_add]
    · rw [if_neg hc, if_neg fun c => hc ⟨c.1, Nat.le_of_eq c.2.symm⟩,
        if_neg fun c => hc ⟨c.1, Nat.le_trans (Nat.le_add_right ..) c.2⟩]
  -- the "at `base`" part is the entry of the first record's key
  have hone : wsum (fun l => if l.fid = f ∧ l.pos = base then w l.len else 0) kd =
      ow (fun l => if l.fid = f ∧ l.pos = base then w l.len else 0) (AL.get r.key kd) := by
    apply wsum_single hnd
    intro k l hm hk
    exact if_neg fun c => hk (h.head (get_of_mem hnd hm) c.1 c.2).1
  rw [hsplit, hone]
  congr 1
  have hl := h.isLiveAt_head hnd
  cases hg : AL.get r.key kd with
  | none =>
    rw [hg] at hl
    rw [if_neg fun c => by obtain ⟨_, e, _⟩ := hl.mp c; cases e]; rfl
  | some l =>
    rw [hg] at hl
    by_cases hc : l.fid = f ∧ l.pos = base
    · rw [if_pos (hl.mpr ⟨l, rfl, hc⟩), ow_some, if_pos hc, (h.head hg hc.1 hc.2).2]
    · rw [if_neg fun c => by obtain ⟨_, e, c'⟩ := hl.mp c; cases e; exact hc c', ow_some, if_neg hc]

theorem truth_fold (hnd : (AL.keys kd).Nodup) : ∀ (rs pre : List Rec) (base n b : Nat) (st : Stat),
    Addr kd f base rs → Cnt n b st pre →
    Cnt (n + liveFrom kd f (fun _ => 1) base) (b + liveFrom kd f (fun x => x) base)
      (rs.foldl (fun (acc : Stat × Nat) r =>
        let (st, pos) := acc
        if isLiveAt kd f pos r.len then (st.addLive, pos + r.len)
        else (st.addDead r.len, pos + r.len)) (st, base)).1 (pre ++ rs) := by
  intro rs
  induction rs with
  | nil =>
    intro pre base n b st ha h
    rw [liveFrom_nil hnd _ ha, liveFrom_nil hnd _ ha, List.append_nil]
    exact h
  | cons r rs ih =>
    intro pre base n b st ha h
    rw [liveFrom_cons hnd _ ha, liveFrom_cons hnd _ ha, List.foldl_cons, List.append_cons]
    cases hl : isLiveAt kd f base r.len
    · simp only [hl, Bool.false_eq_true, ↓reduceIte, Nat.zero_add]
      exact ih _ _ _ _ _ ha.tail (h.addDead r)
    · simp only [hl, ↓reduceIte, ← Nat.add_assoc]
      exact ih _ _ _ _ _ ha.tail (h.addLive r)

theorem FileAcc.truth {stats : List (Nat × Stat)} (h : FileAcc kd stats f rs) (hnd : (AL.keys kd).Nodup)
    (ha : Addr kd f 0 rs) : statOf stats f = truthFile kd f rs := by
  have e1 : liveFrom kd f (fun _ => 1) 0 = liveCnt kd f :=
    wsum_congr fun k l _ => by simp only [Nat.zero_le, and_true]
  have e2 : liveFrom kd f (fun x => x) 0 = liveBytes kd f :=
    wsum_congr fun k l _ => by simp only [Nat.zero_le, and_true]
  have := truth_fold hnd rs [] 0 0 0 {} ha ⟨rfl, rfl, rfl⟩
  rw [e1, e2, Nat.zero_add, Nat.zero_add, List.nil_append] at this
  exact h.cnt.unique this

theorem get_truthList (g : Nat → List Rec → Stat) (f : Nat) (l : List (Nat × List Rec))
    (hnd : (AL.keys l).Nodup) :
    AL.get f ((l.filter fun (_, rs) => !rs.isEmpty).map fun (fid, rs) => (fid, g fid rs)) =
      (if (AL.get f l).getD [] = [] then none else some (g f ((AL.get f l).getD []))) := by
  induction l with
  | nil => simp [AL.get]
  | cons x xs ih =>
    obtain ⟨f', rs⟩ := x
    simp only [keys_cons, List.nodup_cons] at hnd
    have ih' := ih hnd.2
    by_cases e : f' = f
    · subst e
      have hn : AL.get f' xs = none := AL.get_eq_none_iff.mpr hnd.1
      rw [hn] at ih'
      simp only [Option.getD_none, ↓reduceIte] at ih'
      cases rs with
      | nil =>
        simp only [List.filter_cons, List.isEmpty_nil, Bool.not_true, Bool.false_eq_true, ↓reduceIte,
          AL.get, Option.getD_some]
        exact ih'
      | cons r rs' =>
        simp [AL.get]
    · cases rs with
      | nil =>
        simp only [List.filter_cons, List.isEmpty_nil, Bool.not_true, Bool.false_eq_true, ↓reduceIte,
          AL.get, e]
        exact ih'
      | cons r rs' =>
        simp only [List.filter_cons, List.isEmpty_cons, Bool.not_false, ↓reduceIte, List.map_cons,
          AL.get, e]
        exact ih'

theorem get_truth (s : St) (hnd : (AL.keys s.disk.data).Nodup) (f : Nat) :
    AL.get f (truth s) =
      (if dataOf s.disk f = [] then none else some (truthFile s.keydir f (dataOf s.disk f))) :=
  get_truthList (truthFile s.keydir) f s.disk.data hnd

theorem addr_of_inv {s : St} (hi : Inv s) (f : Nat) : Addr s.keydir f 0 (dataOf s.disk f) := by
  intro k l hg hf _
  obtain ⟨r, h1, h2, _, h4, _⟩ := hi.locs k l hg
  exact ⟨r, hf ▸ h1, h2, h4⟩

theorem stats_eq_truthFile {s : St} (hi : Inv s) (h : AccInv s) (f : Nat) :
    AL.get f s.stats =
      (if dataOf s.disk f = [] then none else some (truthFile s.keydir f (dataOf s.disk f))) := by
  have hf := h.file f
  by_cases e : dataOf s.disk f = []
  · rw [if_pos e]; exact hf.dom.mpr e
  · rw [if_neg e, ← hf.truth h.kdNodup (addr_of_inv hi f)]
    cases hg : AL.get f s.stats with
    | none => exact absurd (hf.dom.mp hg) e
    | some st => rw [statOf, hg]; rfl

theorem stats_eq_truth {s : St} (hi : Inv s) (h : AccInv s) (hnd : (AL.keys s.disk.data).Nodup) (f : Nat) :
    AL.get f s.stats = AL.get f (truth s) := by
  rw [get_truth s hnd f, stats_eq_truthFile hi h f]

theorem nodup_of_keys {κ β : Type} {l : List (κ × β)} (h : (AL.keys l).Nodup) : l.Nodup :=
  List.Pairwise.of_map (fun x => x.1) (fun _ _ hab e => hab (congrArg _ e)) h

theorem truth_keys_nodup (s : St) (hnd : (AL.keys s.disk.data).Nodup) : (AL.keys (truth s)).Nodup := by
  have e : AL.keys (truth s) = AL.keys (s.disk.data.filter fun (_, rs) => !rs.isEmpty) := by
    unfold truth AL.keys
    rw [List.map_map]
    apply List.map_congr_left
    intro x _; rfl
  rw [e]
  exact List.Nodup.sublist (List.Sublist.map _ List.filter_sublist) hnd

theorem stats_perm_truth {s : St} (hi : Inv s) (h : AccInv s) (hnd : (AL.keys s.disk.data).Nodup) :
    s.stats.Perm (truth s) := by
  have ht := truth_keys_nodup s hnd
  apply (List.perm_ext_iff_of_nodup (nodup_of_keys h.statsNodup) (nodup_of_keys ht)).mpr
  intro ⟨f, st⟩
  constructor
  · intro hm
    exact mem_of_get (stats_eq_truth hi h hnd f ▸ get_of_mem h.statsNodup hm)
  · intro hm
    exact mem_of_get (stats_eq_truth hi h hnd f ▸ get_of_mem ht hm)

end Store.Stats
