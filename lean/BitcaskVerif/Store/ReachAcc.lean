/-
  The states of crash-free histories in which the configuration may change between operations
  (`AReach`; `AReachPD` for sets and deletes only) and the invariants they all satisfy (`Good`: the
  recovery invariant `RInv`, the counting invariant `AccInv`, no cut-off tails).
-/
import BitcaskVerif.Store.StatsMerge
import BitcaskVerif.Store.StatsReopen
import BitcaskVerif.Store.DiskWf
import BitcaskVerif.Store.MergeRecovery
import BitcaskVerif.Store.ReachPD

namespace Store
open Store.Stats

inductive AReachPD : St → Prop where
  | fresh : AReachPD fresh
  | put (cfg : Cfg) (s : St) (ts : Int) (k : Key) (v : Val) : AReachPD s → AReachPD (put cfg s ts k v).1
  | del (cfg : Cfg) (s : St) (ts : Int) (k : Key) : AReachPD s → AReachPD (delete cfg s ts k).1

/-- states reachable in a crash-free history: sets, deletes, merge passes (the selected files are
    existing ones, i.e. ids up to the active id, and the iteration order covers the KeyDir — the
    conditions of `ValidFrom`), and close/reopen cycles -/
inductive AReach : St → Prop where
  | fresh : AReach fresh
  | put (cfg : Cfg) (s : St) (ts : Int) (k : Key) (v : Val) : AReach s → AReach (put cfg s ts k v).1
  | del (cfg : Cfg) (s : St) (ts : Int) (k : Key) : AReach s → AReach (delete cfg s ts k).1
  | merge (cfg : Cfg) (s : St) (sel : List Nat) (order : List Key) : AReach s →
      (∀ id, id ∈ sel → id ≤ s.active) → Covers order s → AReach (mergeWith cfg s sel order).1
  | reopen (s : St) : AReach s → AReach (reopen s).1

theorem AReachPD.reach {s : St} (h : AReachPD s) : AReach s := by
  induction h with
  | fresh => exact .fresh
  | put cfg s ts k v _ ih => exact .put cfg s ts k v ih
  | del cfg s ts k _ ih => exact .del cfg s ts k ih

theorem areach_step (cfg : Cfg) (s : St) (op : Op) (h : AReach s)
    (hv : match op with
          | .merge sel order => (∀ id, id ∈ sel → id ≤ s.active) ∧ Covers order s
          | _ => True) : AReach (step cfg s op).1 := by
  cases op with
  -- `step` is unfolded first: matching `(step ..).1` against `(put ..).1` directly would compare
  -- `step ..` with `put ..`, which fails only after both are unfolded to the end
  | put k v => simp only [step]; exact .put cfg s 0 k v h
  | del k => simp only [step]; exact .del cfg s 0 k h
  | get k => exact h
  | merge sel order => exact .merge cfg s sel order h hv.1 hv.2

theorem areach_run (cfg : Cfg) (ops : List Op) : ∀ (s : St), AReach s → ValidFrom cfg s ops →
    AReach (run cfg s ops).1 := by
  induction ops with
  | nil => intro s h _; exact h
  | cons op ops ih =>
    intro s h hv
    exact ih _ (areach_step cfg s op h hv.1) hv.2

structure Good (s : St) : Prop where
  rinv : RInv s
  acc : AccInv s
  tails : s.disk.tails = []

theorem Good.inv {s : St} (g : Good s) : Inv s := g.rinv.inv

theorem Good.dnodup {s : St} (g : Good s) : (AL.keys s.disk.data).Nodup := g.rinv.asc.nodup

theorem areach_good {s : St} (h : AReach s) : Good s := by
  induction h with
  | fresh => exact ⟨fresh_rinv.1, fresh_acc, rfl⟩
  | put cfg s ts k v _ ih =>
    exact ⟨(put_rinv cfg s ts k v ih.rinv).1, put_acc cfg s ts k v ih.inv ih.acc,
      (put_tails cfg s ts k v).trans ih.tails⟩
  | del cfg s ts k _ ih =>
    exact ⟨(delete_rinv cfg s ts k ih.rinv).1, delete_acc cfg s ts k ih.inv ih.acc,
      (delete_tails cfg s ts k).trans ih.tails⟩
  | merge cfg s sel order _ hsel hcov ih =>
    exact ⟨(mergeWith_rinv cfg s sel order ih.rinv hsel hcov).1, mergeWith_acc cfg s sel order ih.inv ih.acc hsel hcov,
      (mergeWith_tails cfg s sel order).trans ih.tails⟩
  | reopen s _ ih => exact ⟨(reopen_rinv ih.rinv).1, reopen_acc ih.rinv.hx, ih.tails⟩

end Store
