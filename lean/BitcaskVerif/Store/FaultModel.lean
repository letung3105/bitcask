/-
  Fault-aware writer (C20): what `Writer::write` (src/storage/bitcask.rs, with the repairs
  "create the next file before switching the active id" and "after a failed append continue in a
  fresh active file") leaves behind when one of its file-system calls fails.

  One fault per operation.  The failing operation returns the error before the KeyDir is touched
  (`put` / `delete` use `?` on the result of `write`).
-/
import BitcaskVerif.Store.MergeLemmas
import BitcaskVerif.Store.TopId

namespace Store.Tr
/-- which call of `Writer::write` fails -/
inductive Fault where
  /-- the entry is smaller than the 8 KiB `BufWriter` buffer: it is buffered completely, the
      flush fails; the buffer is written out when the writer is dropped -/
  | appendSmall
  /-- the entry is at least 8 KiB: `hdr` bytes of it (header, key, part of the value) reach the
      file, the rest is lost -/
  | appendLarge (hdr : Nat)
  /-- `sync = always`: the entry is in the file, `sync_all` fails -/
  | fsync
  /-- the entry is in the file and accounted for; creating the next active file fails -/
  | create
deriving DecidableEq, Repr

/-- can this fault occur for record `r` in state `s`? (documentation and examples; the theorems
    below hold for every fault in every state) -/
def Fault.possible (cfg : Cfg) (s : St) (r : Rec) : Fault → Bool
  | .appendSmall => r.len < 8192
  | .appendLarge hdr => 8192 ≤ r.len && hdr < r.len
  | .fsync => cfg.syncAlways
  | .create => s.written + r.len > cfg.maxFile

/-- does the entry of an operation that failed with this fault reach the file completely? -/
def Fault.taken : Fault → Bool
  | .appendLarge _ => false
  | _ => true

theorem Fault.taken_iff (f : Fault) : f.taken = true ↔ ∀ hdr, f ≠ .appendLarge hdr := by
  cases f <;> simp [Fault.taken]

theorem Fault.not_taken (f : Fault) (h : f.taken = false) : ∃ hdr, f = .appendLarge hdr := by
  cases f with
  | appendLarge hdr => exact ⟨hdr, rfl⟩
  | _ => cases h

/-- the directory after record `r` reached the end of the active file -/
def appendDisk (s : St) (r : Rec) : Disk :=
  { s.disk with data := AL.set s.active (dataOf s.disk s.active ++ [r]) s.disk.data }

/-- the state in which a failed `Writer::write r` leaves the store -/
def writeF (s : St) (r : Rec) : Fault → St
  | .appendSmall =>
    -- `append` fails with the whole entry in the buffer; `new_active_datafile(active + 1)` creates
    -- the next file, then drops the old writer, which flushes the buffer into the old file
    { s with disk := { appendDisk s r with data := AL.set (s.active + 1) [] (appendDisk s r).data },
             active := s.active + 1, written := 0 }
  | .appendLarge hdr =>
    -- `hdr` bytes that are not a whole entry stay at the end of the old file
    { s with disk := { data := AL.set (s.active + 1) [] s.disk.data, hint := s.disk.hint,
                       tails := AL.set s.active ((AL.get s.active s.disk.tails).getD 0 + hdr) s.disk.tails },
             active := s.active + 1, written := 0 }
  | .fsync =>
    -- `self.writer.sync()?` returns before bytes and counters are accounted
    { s with disk := appendDisk s r }
  | .create =>
    -- everything but the switch to the next file has happened
    { s with disk := appendDisk s r, written := s.written + r.len,
             stats := updStat s.stats s.active (fun st => if r.val.isSome then st.addLive else st.addDead r.len) }

/-- `Writer::put` with an optional fault: new state and whether the call returned `Ok` -/
def putF (cfg : Cfg) (s : St) (ts : Int) (k : Key) (v : Val) : Option Fault → St × Bool
  | none => ((put cfg s ts k v).1, true)
  | some f => (writeF s { ts := ts, key := k, val := some v } f, false)

/-- `Writer::delete` with an optional fault: new state and `Ok(present)` / `Err` -/
def deleteF (cfg : Cfg) (s : St) (ts : Int) (k : Key) : Option Fault → St × Option Bool
  | none => ((delete cfg s ts k).1, some (delete cfg s ts k).2.1)
  | some f => (writeF s { ts := ts, key := k, val := none } f, none)

theorem writeF_keydir (s : St) (r : Rec) (f : Fault) : (writeF s r f).keydir = s.keydir := by
  cases f <;> rfl

theorem writeF_bad (s : St) (r : Rec) (f : Fault) : (writeF s r f).bad = s.bad := by
  cases f <;> rfl

theorem writeF_active_ge (s : St) (r : Rec) (f : Fault) : s.active ≤ (writeF s r f).active := by
  cases f with
  | appendSmall => exact Nat.le_succ _
  | appendLarge hdr => exact Nat.le_succ _
  | fsync => exact Nat.le_refl _
  | create => exact Nat.le_refl _

/-- files that only grow at their ends keep their records -/
theorem _root_.Store.keeps_of_prefix {d d' : Disk} (h : ∀ fid, dataOf d fid <+: dataOf d' fid) (b : Nat) : Keeps b d d' := by
  intro fid p x _ h1 _
  obtain ⟨ys, e⟩ := h fid
  have h1' : recAt (dataOf d' fid) p = some x := e ▸ recAt_append_left h1 ys
  exact ⟨h1', isSome_of_recAt h1'⟩

theorem keeps_appendDisk (s : St) (r : Rec) : Keeps s.active s.disk (appendDisk s r) :=
  keeps_append _ _ _ _ _ _

theorem writeF_keeps (s : St) (r : Rec) (f : Fault) : Keeps s.active s.disk (writeF s r f).disk := by
  cases f with
  | appendSmall =>
    exact (keeps_appendDisk s r).trans (keeps_create s.active (appendDisk s r) (s.active + 1) (by omega) _ _)
  | appendLarge hdr => exact keeps_create s.active s.disk (s.active + 1) (by omega) _ _
  | fsync => exact keeps_appendDisk s r
  | create => exact keeps_appendDisk s r

theorem writeF_hint (s : St) (r : Rec) (f : Fault) : (writeF s r f).disk.hint = s.disk.hint := by
  cases f <;> rfl

/-- the data files stay below the (possibly new) active file, which exists -/
theorem writeF_top (s : St) (r : Rec) (f : Fault) (t : TopId s.disk.data s.active) :
    TopId (writeF s r f).disk.data (writeF s r f).active := by
  have ta := t.set (Nat.le_refl _) (dataOf s.disk s.active ++ [r])
  cases f with
  | appendSmall => exact ta.push (Nat.le_succ _) []
  | appendLarge hdr => exact t.push (Nat.le_succ _) []
  | fsync => exact ta
  | create => exact ta

theorem writeF_inv (s : St) (r : Rec) (f : Fault) (h : Inv s) : Inv (writeF s r f) := by
  have t := writeF_top s r f ⟨h.ids, h.act⟩
  refine ⟨?_, t.le, ?_, t.ex⟩
  · intro k loc hk
    rw [writeF_keydir] at hk
    exact (h.locs k loc hk).keeps (LocOk.fid_le h (h.locs k loc hk)) (writeF_keeps s r f)
  · intro id hid
    rw [writeF_hint] at hid
    exact Nat.le_trans (h.hids id hid) (writeF_active_ge s r f)

theorem writeF_abs (s : St) (r : Rec) (f : Fault) (h : Inv s) : (writeF s r f).abs = s.abs := by
  funext k
  exact abs_keeps (b := s.active) (fun loc hl => ⟨h.locs k loc hl, LocOk.fid_le h (h.locs k loc hl)⟩)
    (by rw [writeF_keydir]) (writeF_keeps s r f)

end Store.Tr