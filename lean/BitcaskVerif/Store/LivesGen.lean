/-
  Lives after a crash inside a merge: what is left of the outputs of an interrupted copy phase.

  `recW_newFiles`: a directory that consists of the OLD files of a store satisfying the lives
  invariant, followed by NEW files `NI` whose records are copies of records the index addresses
  (`CopyRec`) and whose hint files satisfy `HPn` (the accepted entries describe as many records;
  `HintsPrefix` of Props/C03Lives.lean with the number made explicit), opens to the contents of
  the store.  Its visible part is computed: `visOf NI` cuts every file with a hint file back to
  the accepted entries and as many records, and `HPn` is exactly what makes the hint files of
  `visOf NI` exact; the rest is `cj_newFiles` (Store/LivesLoop.lean).

  `hp_image`: a data file and its hint file cut back independently still satisfy `HPn` — a hint
  entry whose record is missing or incomplete points beyond the end of the file (defect D5) and
  stops the scan of the hint file.

  `loopCut_newFacts`: the new files every cut of the copy phase has built (`NewFacts`).  With
  nothing cut back this gives the kill at any cut of the copy phase (`mergeLoop_cut_recW`); with
  the new files cut back in any way, every power-loss image (Store/LivesPower.lean).
-/
import BitcaskVerif.Store.LivesLoop

namespace Store

def visRecs (d : Disk) (fid : Nat) (rs : List Rec) : List Rec :=
  match AL.get fid d.hint with
  | none => rs
  | some hs => rs.take (accOf d fid hs).length

def visOf (d : Disk) : Disk :=
  { data := d.data.map (fun p => (p.1, visRecs d p.1 p.2)),
    hint := d.hint.map (fun p => (p.1, accOf d p.1 p.2)),
    tails := d.tails }

theorem get_hint_visOf (d : Disk) (fid : Nat) :
    AL.get fid (visOf d).hint = (AL.get fid d.hint).map (accOf d fid) := by
  simp only [visOf]
  exact get_map_val (fun id (hs : List Hint) => accOf d id hs) fid d.hint

theorem dataOf_visOf (d : Disk) (fid : Nat) : dataOf (visOf d) fid = visRecs d fid (dataOf d fid) := by
  simp only [dataOf, visOf]
  rw [get_map_val (fun id (rs : List Rec) => visRecs d id rs)]
  cases AL.get fid d.data with
  | some v => rfl
  | none =>
    simp only [Option.map_none, Option.getD_none]
    unfold visRecs
    cases AL.get fid d.hint <;> simp

theorem keys_visOf (d : Disk) : AL.keys (visOf d).data = AL.keys d.data ∧ AL.keys (visOf d).hint = AL.keys d.hint :=
  ⟨keys_map_val (fun id (rs : List Rec) => visRecs d id rs) d.data,
   keys_map_val (fun id (hs : List Hint) => accOf d id hs) d.hint⟩

theorem fileSim_visOf (d : Disk) (fid : Nat) : FileSim (visOf d) d fid := by
  refine ⟨?_, ?_, ?_⟩
  · rw [dataOf_visOf]
    unfold visRecs
    cases AL.get fid d.hint with
    | none => exact List.prefix_refl _
    | some hs => exact List.take_prefix _ _
  · intro hg
    rw [dataOf_visOf]
    unfold visRecs
    rw [hg]
  · intro hs hg
    rw [get_hint_visOf, hg]; rfl

def HPn (d : Disk) : Prop :=
  ∀ fid hs, AL.get fid d.hint = some hs →
    hintEvs fid (accOf d fid hs) = evData fid ((dataOf d fid).take (accOf d fid hs).length) 0

theorem hintsExact_visOf {d : Disk} (h : HPn d) : HintsExact (visOf d) := by
  intro fid hs' hg
  rw [get_hint_visOf] at hg
  obtain ⟨hs, hg0, rfl⟩ := Option.map_eq_some_iff.mp hg
  rw [dataOf_visOf]
  unfold visRecs
  rw [hg0]
  exact h fid hs hg0

theorem sim_visOf (d : Disk) : Sim (visOf d) d :=
  ⟨(keys_visOf d).1.symm, (keys_visOf d).2.symm, rfl, fileSim_visOf d⟩

theorem exists_max {l : List Nat} (h : l ≠ []) : ∃ a, a ∈ l ∧ ∀ x ∈ l, x ≤ a := by
  cases hm : l.max? with
  | none => exact absurd (List.max?_eq_none_iff.mp hm) h
  | some a => exact ⟨a, List.max?_eq_some_iff.mp hm⟩

theorem recW_newFiles {s : St} {d1 : Disk} (w : LJw s d1) {NI : Disk}
    (hn : NewOk s.active s.disk.tails NI) (hasc : Asc NI.data)
    (hhmax : ∀ id ∈ AL.keys NI.hint, ∃ b ∈ AL.keys NI.data, id ≤ b)
    (hHP : HPn NI) (hcopy : ∀ fid p r, recAt (dataOf NI fid) p = some r → CopyRec s r) :
    RecW (dapp s.disk NI) s.abs := by
  have kV := keys_visOf NI
  have hnV : NewOk s.active s.disk.tails (visOf NI) := ⟨kV.1 ▸ hn.ids, kV.2 ▸ hn.hids, hn.tails⟩
  have hascV : Asc (visOf NI).data := by unfold Asc; rw [kV.1]; exact hasc
  -- the visible part: the old visible files, then the visible part of the new files
  have hact : s.active ∈ AL.keys (dapp d1 (visOf NI)).data := by
    rw [keys_data_dapp]; exact List.mem_append_left _ w.rinv.active_mem
  obtain ⟨a, ha, hmax⟩ := exists_max (List.ne_nil_of_mem hact)
  have hwit : Wit (dapp d1 (visOf NI)) (dapp s.disk NI) a := by
    refine ⟨asc_dapp w.below1 hnV w.rinv.asc hascV, hintsExact_dapp w.below1 hnV w.rinv.hx (hintsExact_visOf hHP), ha,
      hmax, ?_, w.sim.dapp2 w.below w.below1 hn kV.1.symm kV.2.symm rfl (fun fid _ => fileSim_visOf NI fid)⟩
    intro id hid
    rw [keys_hint_dapp, kV.2] at hid
    rcases List.mem_append.mp hid with h1 | h1
    · exact Nat.le_trans (w.below1.hids id h1) (hmax _ hact)
    · obtain ⟨b, hb, hle⟩ := hhmax id h1
      refine Nat.le_trans hle (hmax b ?_)
      rw [keys_data_dapp, kV.1]; exact List.mem_append_right _ hb
  exact ⟨_, _, a, cj_newFiles w hn hnV hasc hascV hwit.clean hwit.sim hcopy⟩

theorem evData_length (fid : Nat) : ∀ (rs : List Rec) (p : Nat), (evData fid rs p).length = rs.length
  | [], _ => rfl
  | r :: rs, p => by simp [evData, evData_length fid rs (p + r.len)]

theorem evData_take (fid : Nat) : ∀ (rs : List Rec) (p m : Nat), (evData fid rs p).take m = evData fid (rs.take m) p
  | [], _, m => by simp [evData]
  | r :: rs, p, 0 => by simp [evData]
  | r :: rs, p, m + 1 => by simp [evData, evData_take fid rs (p + r.len) m]

theorem evData_getElem? (fid : Nat) : ∀ (rs : List Rec) (p i : Nat),
    (evData fid rs p)[i]? = rs[i]?.map (mkEv fid (p + fileSize (rs.take i)))
  | [], _, _ => rfl
  | r :: rs, p, 0 => rfl
  | r :: rs, p, i + 1 => by
    rw [evData, List.getElem?_cons_succ, evData_getElem? fid rs (p + r.len) i, List.getElem?_cons_succ,
      List.take_succ_cons, fileSize_cons, Nat.add_assoc]

/-- hint entries that describe the records `rs` (from byte `p` on): entry `i` is at the end of
    the first `i` records and has the length of record `i` -/
theorem hint_at {fid : Nat} {hs : List Hint} {rs : List Rec} {p : Nat} (he : hintEvs fid hs = evData fid rs p)
    {i : Nat} {h : Hint} (hi : hs[i]? = some h) :
    ∃ r, rs[i]? = some r ∧ h.pos = p + fileSize (rs.take i) ∧ h.len = r.len := by
  have e := congrArg (·[i]?) he
  simp only [hintEvs, List.getElem?_map, hi, evData_getElem?, Option.map_some] at e
  cases hr : rs[i]? with
  | none => rw [hr] at e; cases e
  | some r =>
    rw [hr] at e
    have e := Option.some.inj e
    exact ⟨r, rfl, congrArg (·.loc.pos) e, congrArg (·.loc.len) e⟩

/-- **a data file and its hint file cut back independently**: if the hint entries `hs` describe
    the first `hs.length` records of `rs`, then of the cut-back hint file the scan accepts
    entries that describe exactly as many records of the cut-back data file — provided the
    partial record left behind is shorter than the first lost record (`htail`).  A hint entry
    whose record is missing or incomplete points beyond the end of the file (defect D5). -/
theorem hp_image {fid : Nat} {rs : List Rec} {hs : List Hint}
    (hex : hintEvs fid hs = evData fid (rs.take hs.length) 0) (kD kH tail : Nat)
    (htail : ∀ r, rs[kD]? = some r → tail < r.len) :
    hintEvs fid (accLen (fileSize (rs.take kD) + tail) (hs.take kH)) =
      evData fid ((rs.take kD).take (accLen (fileSize (rs.take kD) + tail) (hs.take kH)).length) 0 := by
  generalize hN : fileSize (rs.take kD) + tail = N
  -- the accepted entries are the first `m` entries of `hs`
  have hpre : accLen N (hs.take kH) <+: hs := (List.takeWhile_prefix _).trans (List.take_prefix _ _)
  have hfit : ∀ h ∈ accLen N (hs.take kH), h.pos + h.len ≤ N :=
    fun h hh => of_decide_eq_true (List.all_eq_true.mp List.all_takeWhile h hh)
  have hmle := hpre.length_le
  rw [List.prefix_iff_eq_take] at hpre
  generalize (accLen N (hs.take kH)).length = m at hpre hmle
  rw [hpre] at hfit ⊢
  have h1 : hintEvs fid (hs.take m) = evData fid (rs.take m) 0 := by
    unfold hintEvs at hex ⊢
    rw [List.map_take, hex, evData_take, List.take_take, Nat.min_eq_left hmle]
  rw [h1, List.take_take]
  -- they describe records that are still there: the entry of the first lost record does not fit
  by_cases hk : m ≤ kD
  · rw [Nat.min_eq_left hk]
  · have hk := Nat.lt_of_not_le hk
    rw [Nat.min_eq_right (Nat.le_of_lt hk)]
    by_cases hkr : rs.length ≤ kD
    · rw [List.take_of_length_le hkr, List.take_of_length_le (Nat.le_trans hkr (Nat.le_of_lt hk))]
    · exfalso
      have hkD : kD < hs.length := Nat.lt_of_lt_of_le hk hmle
      obtain ⟨r, a, b, c⟩ := hint_at hex (List.getElem?_eq_getElem hkD)
      rw [List.getElem?_take, if_pos hkD] at a
      rw [List.take_take, Nat.min_eq_left (Nat.le_of_lt hkD), Nat.zero_add] at b
      have hmem : hs[kD] ∈ hs.take m :=
        List.mem_iff_getElem?.mpr ⟨kD, by rw [List.getElem?_take, if_pos hk]; exact List.getElem?_eq_getElem hkD⟩
      have := hfit _ hmem
      rw [b, c, ← hN] at this
      exact Nat.not_le_of_lt (htail r a) (Nat.le_of_add_le_add_left this)

structure NewFacts (s : St) (N : Disk) : Prop where
  asc : Asc N.data
  hmaxN : ∀ id ∈ AL.keys N.hint, ∃ b ∈ AL.keys N.data, id ≤ b
  np : ∀ fid hs, AL.get fid N.hint = some hs → hintEvs fid hs = evData fid ((dataOf N fid).take hs.length) 0
  copy : ∀ fid p r, recAt (dataOf N fid) p = some r → CopyRec s r

/-- what holds of every call issued, and of a torn append whenever of the whole one, holds of
    every call of a cut -/
theorem Cut.forall {P : Call → Prop} (hraw : ∀ f p bs, P (.append f p) → P (.append f (.raw bs)))
    {cs c : List Call} (hc : Cut cs c) (h : ∀ x ∈ cs, P x) : ∀ x ∈ c, P x := by
  rcases hc with ⟨post, e⟩ | ⟨pre, f, p, post, bs, e, _, rfl⟩
  · intro x hx; exact h x (by rw [e]; exact List.mem_append_left _ hx)
  · intro x hx
    rcases List.mem_append.mp hx with hx | hx
    · exact h x (by rw [e]; exact List.mem_append_left _ hx)
    · rw [List.mem_singleton.mp hx]
      exact hraw f p bs (h _ (by rw [e]; simp))

theorem cut_out {A : Nat} {cs c : List Call} (hc : Cut cs c) (h : ∀ x ∈ cs, OutCall A x) : ∀ x ∈ c, OutCall A x :=
  hc.forall (fun _ _ _ h => ⟨h.1, fun _ => Call.noConfusion⟩) h

namespace NewFacts
variable {s : St} {N : Disk}

theorem np_le (h : NewFacts s N) {fid : Nat} {hs : List Hint}
    (hg : AL.get fid N.hint = some hs) : hs.length ≤ (dataOf N fid).length := by
  have := congrArg List.length (h.np fid hs hg)
  simp only [hintEvs, List.length_map, evData_length, List.length_take] at this
  omega

theorem nil (s : St) (T : List (Nat × Nat)) : NewFacts s ⟨[], [], T⟩ :=
  ⟨List.Pairwise.nil, fun _ h => (by cases h), fun _ _ h => (by cases h), fun _ _ _ h => (by cases h)⟩

theorem tails (h : NewFacts s N) (T : List (Nat × Nat)) : NewFacts s { N with tails := T } :=
  ⟨h.asc, h.hmaxN, h.np, h.copy⟩

theorem setData (h : NewFacts s N) {a : Nat} {v : List Rec} (hasc : Asc (AL.set a v N.data))
    (hnp : ∀ hs, AL.get a N.hint = some hs → v.take hs.length = (dataOf N a).take hs.length)
    (hcopy : ∀ p r, recAt v p = some r → CopyRec s r) : NewFacts s { N with data := AL.set a v N.data } := by
  refine ⟨hasc, fun id hid => ?_, fun fid hs hg => ?_, fun fid p r hr => ?_⟩
  · obtain ⟨c, hc, hle⟩ := h.hmaxN id hid
    exact ⟨c, AL.mem_keys_set.mpr (.inr hc), hle⟩
  · by_cases e : fid = a
    · subst e
      rw [dataOf_set_same, hnp hs hg]
      exact h.np fid hs hg
    · rw [dataOf_set_other _ e]
      exact h.np fid hs hg
  · by_cases e : fid = a
    · subst e; rw [dataOf_set_same] at hr; exact hcopy p r hr
    · rw [dataOf_set_other _ e] at hr; exact h.copy fid p r hr

theorem addData (h : NewFacts s N) {b : Nat} (hb : ∀ id ∈ AL.keys N.data, id < b)
    (hh : AL.get b N.hint = none) : NewFacts s { N with data := AL.set b [] N.data } :=
  h.setData (asc_set_new h.asc hb).2 (fun hs hg => by rw [hh] at hg; cases hg) (fun _ _ hr => by cases hr)

theorem half (h : NewFacts s N) {a : Nat} (ha : (AL.get a N.data).isSome)
    {r : Rec} (hr : CopyRec s r) : NewFacts s { N with data := AL.set a (dataOf N a ++ [r]) N.data } := by
  refine h.setData (asc_set_mem h.asc (AL.mem_keys_of_get (Option.eq_some_of_isSome ha)))
    (fun hs hg => List.take_append_of_le_length (h.np_le hg)) (fun p x hx => ?_)
  rcases recAt_snoc hx with hx' | ⟨_, rfl⟩
  · exact h.copy a p x hx'
  · exact hr

end NewFacts

theorem CopyRec.of_vis {s : St} {d1 : Disk} (w : LJw s d1) {r : Rec} (h : CopyRec { s with disk := d1 } r) :
    CopyRec s r := by
  obtain ⟨v, loc, hk, hr⟩ := h
  exact ⟨v, loc, hk, w.sim.recAt hr⟩

section
variable {s : St} {d1 : Disk} (w : LJw s d1) {mB : MergeSt} (h : LX { s with disk := d1 } mB)
include w h

theorem LX.new_ids : (∀ id ∈ AL.keys (newFiles s.disk.tails mB.calls).data, id ≤ mB.mid) ∧
    (∀ id ∈ AL.keys (newFiles s.disk.tails mB.calls).hint, id ≤ mB.mid) ∧
    (AL.get mB.mid (newFiles s.disk.tails mB.calls).data).isSome := by
  have hi := h.li.minv.ids; have hh := h.li.minv.hids; have hm := h.li.minv.midex
  rw [h.disk1 w] at hi hh hm
  rw [get_data_dapp_gt w.below1 h.li.minv.midgt] at hm
  refine ⟨fun id hid => hi id ?_, fun id hid => hh id ?_, hm⟩
  · rw [keys_data_dapp]; exact List.mem_append_right _ hid
  · rw [keys_hint_dapp]; exact List.mem_append_right _ hid

theorem LX.newFacts : NewFacts s (newFiles s.disk.tails mB.calls) := by
  have hn : NewOk s.active s.disk.tails (newFiles s.disk.tails mB.calls) := newOk_newFiles _ h.out
  have e1 := h.disk1 w
  obtain ⟨hids, hhids, hmid⟩ := h.new_ids w
  constructor
  · exact asc_of_dapp (e1 ▸ h.li.mr.asc)
  · exact fun id hid => ⟨mB.mid, AL.mem_keys_of_get (Option.eq_some_of_isSome hmid), hhids id hid⟩
  · intro fid hs hg
    have hgt := hn.hids fid (AL.mem_keys_of_get hg)
    have := h.li.mr.hx
    rw [e1] at this
    have := this fid hs (by rw [get_hint_dapp_gt w.below1 hgt]; exact hg)
    rw [dataOf_dapp_gt w.below1 hgt] at this
    have hl := congrArg List.length this
    simp only [hintEvs, List.length_map, evData_length] at hl
    rw [hl, List.take_length]
    exact this
  · intro fid p r hr
    have hgt : s.active < fid := hn.ids fid (mem_keys_of_isSome (isSome_of_recAt hr))
    apply CopyRec.of_vis w
    apply h.copy fid hgt p r
    rw [e1, dataOf_dapp_gt w.below1 hgt]
    exact hr

end

theorem newFiles_append (T : List (Nat × Nat)) (a b : List Call) :
    newFiles T (a ++ b) = applyCalls (newFiles T a) b := applyCalls_append _ a b

theorem loopCut_newFacts (cfg : Cfg) {s : St} {d1 : Disk} (w : LJw s d1) (sel : List Nat)
    (hsel : ∀ id, id ∈ sel → id ≤ s.active) (order : List Key) {c : List Call}
    (hc : Cut (mergeLoop cfg { s with disk := d1 } sel order).calls c) :
    (∀ x ∈ c, OutCall s.active x) ∧ NewFacts s (newFiles s.disk.tails c) := by
  refine ⟨cut_out hc (mergeLoop_lx cfg w.rinv w.full1 sel hsel order).out, ?_⟩
  rcases foldl_cut (calls := MergeSt.calls) order _ (fun done k _ _ _ hc =>
      mergeStep_shape cfg sel (s := { s with disk := d1 }) hsel (mergeLoop_lx cfg w.rinv w.full1 sel hsel done) k hc)
      hc with
    h1 | ⟨mB, t, hx, rfl, ht⟩
  · -- inside the creation of the first output pair
    obtain ⟨post, e⟩ := cut_noappend_list (cs := (mergeStart _).calls) rfl h1
    rcases prefix_cases2 e with rfl | rfl | rfl
    · exact .nil s _
    · exact (NewFacts.nil s _).addData (fun _ h => nomatch h) rfl
    · exact (mergeStart_lx w.rinv w.full1).newFacts w
  · have nf := hx.newFacts w
    obtain ⟨hids, hhids, hmid⟩ := hx.new_ids w
    rw [newFiles_append]
    cases ht with
    | same e => rw [e]; exact nf
    | raw n e => rw [e]; exact nf.tails _
    | newData e =>
      rw [e]
      exact nf.addData (fun id hid => Nat.lt_succ_of_le (hids id hid)) (get_none_of_gt hhids (Nat.lt_succ_self _))
    | half r hr e => rw [e]; exact nf.half hmid (CopyRec.of_vis w hr)

/-- the case in which nothing is cut back -/
theorem NewFacts.hpn {s : St} {N : Disk} (h : NewFacts s N) : HPn N := by
  intro fid hs hg
  have := hp_image (h.np fid hs hg) (dataOf N fid).length hs.length ((AL.get fid N.tails).getD 0)
    (fun r hr => by rw [List.getElem?_eq_none (Nat.le_refl _)] at hr; cases hr)
  rwa [List.take_length, List.take_length] at this

theorem NewFacts.recW {s : St} {d1 : Disk} (w : LJw s d1) {N : Disk} (hn : NewOk s.active s.disk.tails N)
    (nf : NewFacts s N) : RecW (dapp s.disk N) s.abs :=
  recW_newFiles w hn nf.asc nf.hmaxN nf.hpn nf.copy

theorem mergeLoop_cut_recW (cfg : Cfg) {s : St} {d1 : Disk} (w : LJw s d1) (sel : List Nat)
    (hsel : ∀ id, id ∈ sel → id ≤ s.active) (order : List Key) {c : List Call}
    (hc : Cut (mergeLoop cfg { s with disk := d1 } sel order).calls c) : RecW (applyCalls s.disk c) s.abs := by
  obtain ⟨hout, nf⟩ := loopCut_newFacts cfg w sel hsel order hc
  rw [applyCalls_out w.below hout]
  exact nf.recW w (newOk_newFiles _ hout)

end Store
