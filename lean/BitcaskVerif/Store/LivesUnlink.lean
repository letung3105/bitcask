/-
  Lives after a crash inside a merge: a kill in the REMOVAL phase of a merge pass, and
  the whole pass, in a store that satisfies the lives invariant.

  New with respect to the crash-free theory (Store/CutUnlink.lean): the selected files may
  include a stale merge output.  `unlinkOne` removes the hint file first, the data file second; a
  kill in between leaves the data file WITHOUT hint file, so its records that the hint file did
  not list become visible to the next scan (`CJ.dropHintStale`).  They are harmless because
    * each of them is a copy of the record the index addresses for its key, unless a later file
      holds a record of that key (`JunkOK`), and
    * the hazard hypothesis `NoHazard s done` is about ALL records of the directory, so a deleted
      key is never resurrected by them (`FullAll`).
-/
import BitcaskVerif.Store.LivesGen

namespace Store


theorem keys_filter {β : Type} (q : Nat → Bool) (l : List (Nat × β)) :
    AL.keys (l.filter (fun p => q p.1)) = (AL.keys l).filter q := by
  unfold AL.keys
  rw [List.filter_map]
  rfl

theorem dataOf_unlinked_mem {d : Disk} {done : List Nat} {fid : Nat} (h : fid ∈ done) :
    dataOf (unlinkedDisk d done) fid = [] := by
  simp only [dataOf, unlinkedDisk]
  rw [get_filter (fun f => decide (f ∉ done))]
  simp [h]

theorem get_hint_unlinked {d : Disk} {done : List Nat} (fid : Nat) :
    AL.get fid (unlinkedDisk d done).hint = if fid ∈ done then none else AL.get fid d.hint := by
  simp only [unlinkedDisk]
  rw [get_filter (fun f => decide (f ∉ done))]
  by_cases h : fid ∈ done <;> simp [h]

theorem Sim.unlinked {d1 d : Disk} (h : Sim d1 d) (done : List Nat) :
    Sim (unlinkedDisk d1 done) (unlinkedDisk d done) := by
  refine ⟨?_, ?_, h.tl, ?_⟩
  · show AL.keys (d.data.filter _) = AL.keys (d1.data.filter _)
    rw [keys_filter (fun f => decide (f ∉ done)), keys_filter (fun f => decide (f ∉ done)), h.keys]
  · show AL.keys (d.hint.filter _) = AL.keys (d1.hint.filter _)
    rw [keys_filter (fun f => decide (f ∉ done)), keys_filter (fun f => decide (f ∉ done)), h.hkeys]
  · intro fid
    by_cases hd : fid ∈ done
    · exact .unhinted (by rw [get_hint_unlinked, if_pos hd]) (by rw [dataOf_unlinked_mem hd, dataOf_unlinked_mem hd])
    · exact (h.file fid).congr (dataOf_unlinked hd) (dataOf_unlinked hd) (by rw [get_hint_unlinked, if_neg hd])
        (by rw [get_hint_unlinked, if_neg hd]) rfl


theorem keys_del_congr {β γ : Type} {l : List (Nat × β)} {l' : List (Nat × γ)} (h : AL.keys l = AL.keys l')
    (id : Nat) : AL.keys (AL.del id l) = AL.keys (AL.del id l') := by
  rw [del_eq_filter, del_eq_filter, keys_filter (fun f => decide (f ≠ id)), keys_filter (fun f => decide (f ≠ id)), h]

theorem allEvs_set_mid {l : List (Nat × List Rec)} (h : Asc l) {id : Nat} {a : List Rec}
    (hg : AL.get id l = some a) (j : List Rec) :
    ∃ pre post, allEvs l = pre ++ evData id a 0 ++ post ∧
      allEvs (AL.set id (a ++ j) l) = pre ++ evData id a 0 ++ evData id j (fileSize a) ++ post ∧
      (∀ e ∈ pre, e.loc.fid < id) ∧ (∀ e ∈ post, id < e.loc.fid) := by
  induction l with
  | nil => simp [AL.get] at hg
  | cons x xs ih =>
    obtain ⟨f, rs⟩ := x
    by_cases hf : f = id
    · subst hf
      simp only [AL.get, ↓reduceIte, Option.some.injEq] at hg
      subst hg
      refine ⟨[], allEvs xs, by simp [allEvs], ?_, by simp, ?_⟩
      · simp only [AL.set, ↓reduceIte, allEvs, evData_append, Nat.zero_add, List.nil_append]
      · intro e he
        obtain ⟨f', rs', hm, he'⟩ := mem_allEvs he
        rw [evData_fid he']
        exact h.head_lt f' (by simp only [AL.keys, List.mem_map]; exact ⟨_, hm, rfl⟩)
    · simp only [AL.get, hf, ↓reduceIte] at hg
      obtain ⟨pre, post, e1, e2, e3, e4⟩ := ih h.tail hg
      have hlt : f < id := h.head_lt id (AL.mem_keys_of_get hg)
      refine ⟨evData f rs 0 ++ pre, post, ?_, ?_, ?_, e4⟩
      · simp only [allEvs, e1, List.append_assoc]
      · simp only [AL.set, hf, ↓reduceIte, allEvs, e2, List.append_assoc]
      · intro e he
        rcases List.mem_append.mp he with he | he
        · rw [evData_fid he]; exact hlt
        · exact e3 e he

theorem lastFor_insert (k : Key) (pa J post : List Ev) :
    (lastFor k (pa ++ J ++ post) = lastFor k (pa ++ post)) ∨
    (lastFor k post = none ∧ ∃ y, lastFor k J = some y ∧ lastFor k (pa ++ J ++ post) = some y ∧
      lastFor k (pa ++ post) = lastFor k pa) := by
  rw [lastFor_append, lastFor_append k pa post]
  cases hp : lastFor k post with
  | some x => left; rfl
  | none =>
    simp only
    rw [lastFor_append]
    cases hj : lastFor k J with
    | none => left; rfl
    | some y => right; exact ⟨trivial, y, rfl, rfl, trivial⟩

section
variable {dB DB : Disk} {kd : List (Key × Loc)} {a : Nat} {m : Map}

theorem CJ.dropHintSame (h : CJ dB DB kd a m) (id : Nat)
    (heq : dataOf DB id = dataOf dB id) :
    CJ { dB with hint := AL.del id dB.hint } { DB with hint := AL.del id DB.hint } kd a m := by
  refine ⟨h.clean.dropHint id, h.abs, ?_, h.junk, h.fullA⟩
  refine ⟨h.sim.keys, keys_del_congr h.sim.hkeys id, h.sim.tl, ?_⟩
  intro fid
  by_cases e : fid = id
  · subst e
    exact .unhinted (AL.get_del_same _ _) heq
  · exact (h.sim.file fid).congr rfl rfl (AL.get_del_other e _) (AL.get_del_other e _) rfl

/-- **the hint file of a stale merge output is removed, its data file is not (yet)**: the
    records the hint file did not list become visible.  Each of them is a value record; it
    changes the index only if no later file holds a record of its key, and then it is a copy of
    the record the index addressed before. -/
theorem CJ.dropHintStale (h : CJ dB DB kd a m) (id : Nat)
    (hne : dataOf DB id ≠ dataOf dB id) : RecW { DB with hint := AL.del id DB.hint } m := by
  obtain ⟨j, hj⟩ := h.sim.pre id
  -- file `id` exists: it has more records than are visible
  have hmemB : id ∈ AL.keys dB.data := by
    rw [← h.sim.keys]
    refine mem_keys_of_dataOf_ne_nil fun e => hne ?_
    rw [e]; exact (List.prefix_nil.mp (e ▸ h.sim.pre id)).symm
  have hgB : AL.get id dB.data = some (dataOf dB id) := by
    obtain ⟨v, hv⟩ := AL.get_of_mem_keys hmemB
    simp only [dataOf, hv, Option.getD_some]
  -- the new visible part: file `id` with all its records, without hint file
  obtain ⟨d', hd'⟩ : ∃ d' : Disk,
    d' = { data := AL.set id (dataOf DB id) dB.data, hint := AL.del id dB.hint, tails := dB.tails } := ⟨_, rfl⟩
  have hdid : dataOf d' id = dataOf DB id := by rw [hd']; simp [dataOf, AL.get_set_same]
  have hdo : ∀ fid, fid ≠ id → dataOf d' fid = dataOf dB fid := by
    intro fid e; rw [hd']; exact dataOf_set_other' dB e _ _ _
  have hkeys : AL.keys d'.data = AL.keys dB.data := by
    rw [hd']; exact AL.keys_set_of_mem hmemB
  have hc1 := h.clean.dropHint id
  have hwit : Wit d' { DB with hint := AL.del id DB.hint } a := by
    refine ⟨by rw [hd']; exact asc_set_mem h.clean.asc hmemB, ?_, hkeys ▸ h.clean.mem, hkeys ▸ h.clean.max,
      by rw [hd']; exact hc1.hmax, hkeys ▸ h.sim.keys, ?_, by rw [hd']; exact h.sim.tl, ?_⟩
    · intro fid hs hg
      rw [hd'] at hg
      have e : fid ≠ id := fun e => by simp [e, AL.get_del_same] at hg
      rw [hdo fid e]
      exact hc1.hx fid hs hg
    · rw [hd']; exact keys_del_congr h.sim.hkeys id
    · intro fid
      by_cases e : fid = id
      · subst e
        exact .unhinted (AL.get_del_same _ _) hdid.symm
      · refine (h.sim.file fid).congr (hdo fid e) rfl ?_ (AL.get_del_other e _) rfl
        rw [hd']; exact AL.get_del_other e _
  -- the invisible records of the new directory are those of the old one, outside file `id`
  have hjunk' : ∀ fid p j2, recAt (dataOf DB fid) p = some j2 → fileSize (dataOf d' fid) ≤ p →
      fileSize (dataOf dB fid) ≤ p := by
    intro fid p j2 h1 h2
    by_cases e : fid = id
    · subst e
      rw [hdid] at h2
      have := recAt_lt h1; omega
    · rwa [hdo fid e] at h2
  have hpre : ∀ fid, dataOf dB fid <+: dataOf d' fid := by
    intro fid
    by_cases e : fid = id
    · subst e; rw [hdid]; exact h.sim.pre fid
    · rw [hdo fid e]; exact List.prefix_refl _
  refine (h.extend hwit.clean hwit.sim (keeps_of_prefix hpre a) (fun _ _ _ hr => hr) ?_
    (fun fid p j2 h1 h2 => .inl ⟨h1, hjunk' fid p j2 h1 h2⟩) h.fullA).recW
  have hfull' : FullAll d' (kdF kd) :=
    fullAll_visible hwit.sim hwit.asc (fun fid p j2 h1 h2 => (h.junk fid p j2 h1 (hjunk' fid p j2 h1 h2)).1) h.fullA
  -- the index recovered from the new visible part: the events `J` of the revealed records are
  -- inserted behind the visible events of file `id`
  intro k
  obtain ⟨pre, post, e1, e2, e3, e4⟩ := allEvs_set_mid h.clean.asc hgB j
  rw [hj] at e2
  have hE' : allEvs d'.data = pre ++ evData id (dataOf dB id) 0 ++ evData id j (fileSize (dataOf dB id)) ++ post := by
    rw [hd']; exact e2
  have hkE : AL.get k kd = replay (allEvs dB.data) k := congrFun h.clean.kd k
  have hkE' : AL.get k (rebuild d').1.keydir = replay (allEvs d'.data) k := congrFun hwit.clean.kd k
  rw [hkE, hkE', hE', e1, replay_eq, replay_eq]
  rcases lastFor_insert k (pre ++ evData id (dataOf dB id) 0) (evData id j (fileSize (dataOf dB id))) post with
    hl | ⟨hp, y, hy, hl1, hl2⟩
  · left; rw [hl]
  · -- the last event of `k` is the event of a revealed record `r`
    right
    obtain ⟨hyk, hym⟩ := lastFor_key hy
    obtain ⟨r, q, hr1, rfl, _⟩ := mem_evData hym
    have hrD : recAt (dataOf DB id) (fileSize (dataOf dB id) + q) = some r := by
      rw [← hj, recAt_append_right]; exact hr1
    obtain ⟨hv, hP⟩ := h.junk id _ r hrD (Nat.le_add_right _ _)
    have hrk : r.key = k := hyk
    have hnew : evVal (lastFor k (pre ++ evData id (dataOf dB id) 0 ++ evData id j (fileSize (dataOf dB id)) ++ post)) =
        some ⟨id, fileSize (dataOf dB id) + q, r.len, r.ts⟩ := by
      rw [hl1]; exact evVal_mkEv hv _ _
    rw [hl2]
    cases hold : evVal (lastFor k (pre ++ evData id (dataOf dB id) 0)) with
    | none =>
      -- impossible: the key would be absent, but then no record of it may be recovered
      have := hfull' k (by unfold kdF; rw [hkE, e1, replay_eq, hl2, hold])
      rw [hE', replay_eq, hnew] at this
      cases this
    | some loc =>
      have hmem : (⟨k, loc, false⟩ : Ev) ∈ pre ++ evData id (dataOf dB id) 0 :=
        replay_some_mem (by rw [replay_eq]; exact hold)
      have hlex : lexlt loc id (fileSize (dataOf dB id)) := by
        rcases List.mem_append.mp hmem with hm | hm
        · exact .inl (e3 _ hm)
        · obtain ⟨r', q', g1, g2, _⟩ := mem_evData hm
          have hl : loc = ⟨id, 0 + q', r'.len, r'.ts⟩ := congrArg Ev.loc g2
          rw [hl]
          exact .inr ⟨rfl, (Nat.zero_add q').symm ▸ recAt_lt g1⟩
      refine ⟨_, loc, r, hnew, rfl, ?_, ?_, fun fid p hlt => ?_⟩
      · show recAt (dataOf d' id) _ = some r
        rw [hdid]; exact hrD
      · apply hP loc
        · unfold kdF; rw [hrk, hkE, e1, replay_eq, hl2, hold]
        · exact hlex.mono (.inr ⟨rfl, Nat.le_add_right _ _⟩)
      · exact hlex.mono (hlt.imp_right fun h =>
          ⟨h.1, Nat.le_of_lt (Nat.lt_of_le_of_lt (Nat.le_add_right _ _) h.2)⟩)

end

end Store
