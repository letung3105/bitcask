/-
  States reachable from a fresh store by sets, deletes and close/reopen cycles (no merges), and
  the recovery invariant for them.
-/
import BitcaskVerif.Store.RecInv
import BitcaskVerif.Props.C01

namespace Store

inductive ReachPD (cfg : Cfg) : St → Prop
  | fresh : ReachPD cfg fresh
  | put {s : St} (ts : Int) (k : Key) (v : Val) : ReachPD cfg s → ReachPD cfg (put cfg s ts k v).1
  | delete {s : St} (ts : Int) (k : Key) : ReachPD cfg s → ReachPD cfg (delete cfg s ts k).1
  | reopen {s : St} : ReachPD cfg s → ReachPD cfg (reopen s).1

theorem fresh_rinv : RInv fresh ∧ Full fresh := by
  refine ⟨⟨fresh_inv, ?_, ?_, ?_, rfl⟩, ?_⟩
  · simp [Asc, fresh, AL.keys]
  · intro k loc hk; simp [fresh] at hk
  · intro fid hs hg; simp [fresh] at hg
  · intro k _; rfl

theorem reachPD_rinv {cfg : Cfg} {s : St} (h : ReachPD cfg s) : RInv s ∧ Full s := by
  induction h with
  | fresh => exact fresh_rinv
  | put ts k v _ ih => exact ⟨(put_rinv cfg _ ts k v ih.1).1, (put_rinv cfg _ ts k v ih.1).2 ih.2⟩
  | delete ts k _ ih => exact ⟨(delete_rinv cfg _ ts k ih.1).1, (delete_rinv cfg _ ts k ih.1).2 ih.2⟩
  | reopen _ ih => exact ⟨(reopen_rinv ih.1).1, (reopen_rinv ih.1).2.1⟩

def reopenN : Nat → St → St
  | 0, s => s
  | n + 1, s => reopenN n (reopen s).1

theorem reopenN_abs (n : Nat) : ∀ (t : St), RInv t → Full t →
    (reopenN n t).abs = t.abs ∧ RInv (reopenN n t) ∧ Full (reopenN n t) := by
  induction n with
  | zero => intro t ht hf; exact ⟨rfl, ht, hf⟩
  | succ n ih =>
    intro t ht hf
    obtain ⟨a, b, _⟩ := reopen_rinv ht
    obtain ⟨c, d, e⟩ := ih _ a b
    exact ⟨by rw [reopenN, c, reopen_abs ht hf], d, e⟩

theorem reachPD_reopenN {cfg : Cfg} (n : Nat) : ∀ {s : St}, ReachPD cfg s → ReachPD cfg (reopenN n s) := by
  induction n with
  | zero => intro s h; exact h
  | succ n ih => intro s h; exact ih (ReachPD.reopen h)

def NoMerge : List Op → Prop
  | [] => True
  | .merge _ _ :: _ => False
  | _ :: ops => NoMerge ops

theorem reachPD_run (cfg : Cfg) (ops : List Op) : ∀ {s : St}, ReachPD cfg s → NoMerge ops →
    ReachPD cfg (run cfg s ops).1 := by
  induction ops with
  | nil => exact fun h _ => h
  | cons op ops ih =>
    intro s h hn
    rw [run_cons_fst]
    cases op with
    | put k v => simp only [step]; exact ih (.put 0 k v h) hn
    | del k => simp only [step]; exact ih (.delete 0 k h) hn
    | get k => exact ih h hn
    | merge sel order => exact hn.elim

theorem validFrom_of_noMerge (cfg : Cfg) (ops : List Op) : ∀ (s : St), NoMerge ops → ValidFrom cfg s ops := by
  induction ops with
  | nil => exact fun _ _ => trivial
  | cons op ops ih =>
    intro s hn
    cases op with
    | put k v => exact ⟨trivial, ih _ hn⟩
    | del k => exact ⟨trivial, ih _ hn⟩
    | get k => exact ⟨trivial, ih _ hn⟩
    | merge sel order => exact hn.elim

end Store
