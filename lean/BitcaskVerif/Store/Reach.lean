/-
  States reachable from a fresh store by sets, deletes, merge passes (any selection of existing
  files, any KeyDir iteration order) and close/reopen cycles; the recovery invariant for them.

  The reachability predicates of the store proofs.  All start from `fresh`; "valid merge" means
  the selection consists of ids up to the active id and the order covers the KeyDir (the
  conditions of `ValidFrom`); `opOk` (Store/CutHistory.lean) asks in addition that the selection
  is ascending and hazard-free (`NoHazard`).

    predicate      defined in               operations                               failures
    `ReachPD cfg`  Store/ReachPD.lean       put, delete, reopen                      none
    `Reach cfg`    this file                put, delete, valid merge, reopen         none
    `AReachPD`     Store/ReachAcc.lean      put, delete; `cfg` may change per step   none
    `AReach`       Store/ReachAcc.lean      as `Reach`; `cfg` may change per step    none
    `ReachC cfg`   Store/CutHistory.lean    merge-free `TOp`s                        kill at any cut
    `ReachM cfg`   Store/CutHistory.lean    `TOp`s with `opOk`                       kill at any cut of a
                                                                                     merge-free operation
    `ReachL cfg`   Store/LivesHistory.lean  `TOp`s with `opOk`                       kill at any cut of any
                                                                                     operation
    `ReachP cfg`   Store/LivesPowerOps.lean `TOp`s with `opOk`                       as `ReachL`, and power
                                               failure at any cut (`sync = always`, `PowerLoss3`)

  Every failure is followed by recovery (`openDisk`).  `Tr.Reach cfg` (Store/TraceRun.lean) is the
  set of states `runC cfg fresh ops` of the runs valid for the call-trace theorems.

  Inclusions:
    `ReachPD cfg ⊆ Reach cfg ⊆ AReach`   (`ReachPD.toReach`, `Reach.toAReach`),
    `AReachPD ⊆ AReach`                  (`AReachPD.reach`),
    `ReachPD cfg ⊆ ReachC cfg ⊆ ReachM cfg ⊆ ReachL cfg ⊆ ReachP cfg`
                 (`ReachPD.toReachC`, `ReachC.toReachM`, `ReachM.toReachL`, `ReachL.toReachP`).
  `Reach cfg` is not included in `ReachM cfg`: its merges need not be hazard-free.
-/
import BitcaskVerif.Store.ReachAcc

namespace Store

inductive Reach (cfg : Cfg) : St → Prop
  | fresh : Reach cfg fresh
  | put {s : St} (ts : Int) (k : Key) (v : Val) : Reach cfg s → Reach cfg (put cfg s ts k v).1
  | delete {s : St} (ts : Int) (k : Key) : Reach cfg s → Reach cfg (delete cfg s ts k).1
  | merge {s : St} (sel : List Nat) (order : List Key) : Reach cfg s →
      (∀ id, id ∈ sel → id ≤ s.active) → Covers order s → Reach cfg (mergeWith cfg s sel order).1
  | reopen {s : St} : Reach cfg s → Reach cfg (reopen s).1

theorem ReachPD.toReach {cfg : Cfg} {s : St} (h : ReachPD cfg s) : Reach cfg s := by
  induction h with
  | fresh => exact .fresh
  | put ts k v _ ih => exact .put ts k v ih
  | delete ts k _ ih => exact .delete ts k ih
  | reopen _ ih => exact .reopen ih

theorem Reach.toAReach {cfg : Cfg} {s : St} (h : Reach cfg s) : AReach s := by
  induction h with
  | fresh => exact .fresh
  | put ts k v _ ih => exact .put cfg _ ts k v ih
  | delete ts k _ ih => exact .del cfg _ ts k ih
  | merge sel order _ hsel hcov ih => exact .merge cfg _ sel order ih hsel hcov
  | reopen _ ih => exact .reopen _ ih

theorem reach_rinv {cfg : Cfg} {s : St} (h : Reach cfg s) : RInv s :=
  (areach_good h.toAReach).rinv

theorem reach_step {cfg : Cfg} {s : St} (h : Reach cfg s) (op : Op)
    (hv : match op with
          | .merge sel order => (∀ id, id ∈ sel → id ≤ s.active) ∧ Covers order s
          | _ => True) : Reach cfg (step cfg s op).1 := by
  cases op with
  | put k v => simp only [step]; exact .put 0 k v h
  | del k => simp only [step]; exact .delete 0 k h
  | get k => exact h
  | merge sel order => simp only [step]; exact .merge sel order h hv.1 hv.2

theorem reach_run (cfg : Cfg) (ops : List Op) : ∀ {s : St}, Reach cfg s → ValidFrom cfg s ops →
    Reach cfg (run cfg s ops).1 := by
  induction ops with
  | nil => exact fun h _ => h
  | cons op ops ih => exact fun h hv => run_cons_fst .. ▸ ih (reach_step h op hv.1) hv.2

/-- a decidable sufficient condition for `NoHazard`: every value record in an unselected file
    belongs to a key that is present in the index ("no deleted key has a value record in an
    unselected file") -/
def NoStaleValue (s : St) (sel : List Nat) : Prop :=
  ∀ e ∈ (allEvs s.disk.data).filter (fun e => decide (e.loc.fid ∉ sel)),
    e.tomb = false → (AL.get e.key s.keydir).isSome = true

instance (s : St) (sel : List Nat) : Decidable (NoStaleValue s sel) :=
  inferInstanceAs (Decidable (∀ e ∈ (allEvs s.disk.data).filter (fun e => decide (e.loc.fid ∉ sel)),
    e.tomb = false → (AL.get e.key s.keydir).isSome = true))

theorem noHazard_of_noStaleValue {s : St} {sel : List Nat} (h : NoStaleValue s sel) : NoHazard s sel :=
  fun _ hk => replay_none_of_values (P := fun k => (AL.get k s.keydir).isSome = true) h (by rw [hk]; nofun)

theorem noHazard_of_all {s : St} {sel : List Nat}
    (h : ∀ fid rs, (fid, rs) ∈ s.disk.data → fid ∉ sel → rs = []) : NoHazard s sel := by
  intro k _
  apply replay_none_of_all_tomb
  intro e he _
  obtain ⟨hm, hq⟩ := List.mem_filter.mp he
  obtain ⟨fid, rs, h1, h2⟩ := mem_allEvs hm
  have hf := evData_fid h2
  simp only [decide_eq_true_eq] at hq
  rw [hf] at hq
  rw [h fid rs h1 hq] at h2
  simp [evData] at h2

/-- The hazard in the wording of the design: for a key whose deciding (last) record is a tombstone
    in a selected file, every record of that key in an unselected file is a tombstone too. -/
def NoShadowedTombstoneDropped (s : St) (sel : List Nat) : Prop :=
  ∀ k e, lastFor k (allEvs s.disk.data) = some e → e.tomb = true → e.loc.fid ∈ sel →
    ∀ e' ∈ allEvs s.disk.data, e'.key = k → e'.loc.fid ∉ sel → e'.tomb = true

/-- In a state whose index is exactly what a scan recovers (`Full`: no earlier merge has already
    dropped a shadowing tombstone), the design's wording implies `NoHazard`. -/
theorem noHazard_of_shadow {s : St} {sel : List Nat} (hf : Full s)
    (h : NoShadowedTombstoneDropped s sel) : NoHazard s sel := by
  intro k hk
  have hr := hf k hk
  rw [replay_eq] at hr
  cases hl : lastFor k (allEvs s.disk.data) with
  | none =>
    apply replay_none_of_all_tomb
    intro e he hek
    exact absurd hek ((lastFor_none.mp hl) e (List.mem_filter.mp he).1)
  | some e =>
    have ht : e.tomb = true := by
      cases ht : e.tomb with
      | true => rfl
      | false => simp [hl, evVal, ht] at hr
    by_cases hs : e.loc.fid ∈ sel
    · apply replay_none_of_all_tomb
      intro e' he' hek
      obtain ⟨hm, hq⟩ := List.mem_filter.mp he'
      simp only [decide_eq_true_eq] at hq
      exact h k e hl ht hs e' hm hek hq
    · rw [replay_eq, lastFor_filter_keep _ hl (by simpa using hs)]
      simp [evVal, ht]

theorem merge_restart_present (cfg : Cfg) (s : St) (sel : List Nat) (order : List Key) (hr : RInv s)
    (hsel : ∀ id, id ∈ sel → id ≤ s.active) (hcov : Covers order s) (k : Key) (hk : s.abs k ≠ none) :
    (reopen (mergeWith cfg s sel order).1).1.abs k = s.abs k := by
  obtain ⟨hm, _, _⟩ := mergeWith_rinv cfg s sel order hr hsel hcov
  have habs := (mergeWith_inv_abs cfg s sel order hr.inv hsel hcov).2
  rw [reopen_abs_key hm k, habs]
  intro hnone
  exact absurd (by rw [← habs]; exact abs_none_of_none hnone) hk

theorem merge_restart_iff (cfg : Cfg) (s : St) (sel : List Nat) (order : List Key) (hr : RInv s)
    (hsel : ∀ id, id ∈ sel → id ≤ s.active) (hcov : Covers order s) :
    (reopen (mergeWith cfg s sel order).1).1.abs = s.abs ↔ NoHazard s sel := by
  obtain ⟨hm, _, c⟩ := mergeWith_rinv cfg s sel order hr hsel hcov
  have habs := (mergeWith_inv_abs cfg s sel order hr.inv hsel hcov).2
  constructor
  · intro he k hk
    obtain ⟨ro, _, hkd, _, _⟩ := reopen_rinv hm
    cases hg : replay ((allEvs s.disk.data).filter (fun e => decide (e.loc.fid ∉ sel))) k with
    | none => rfl
    | some loc =>
      exfalso
      have h1 : AL.get k (reopen (mergeWith cfg s sel order).1).1.keydir = some loc := by
        have := congrFun hkd k
        unfold kdF at this
        rw [this, c k hk, hg]
      obtain ⟨v, hv⟩ := get_of_locOk h1 (ro.inv.locs k loc h1)
      have h2 : (reopen (mergeWith cfg s sel order).1).1.abs k = some v := by
        unfold St.abs; rw [hv]
      rw [he, abs_none_of_none hk] at h2
      cases h2
  · intro hz
    rw [reopen_abs hm ((mergeWith_full_iff cfg s sel order hr hsel hcov).mpr hz)]
    exact habs

end Store
