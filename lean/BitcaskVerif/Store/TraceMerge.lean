/-
  The merge pass preserves the coupling invariant between the store state and the trace monitor
  (C14): a loop invariant for the copying loop, one for the removal of the inputs.
-/
import BitcaskVerif.Store.TraceLemmas

namespace Store.Tr

/-- the merge loop's initial state: the first output pair has been created.  This is `mergeStart`
    of `Store/MergeLemmas.lean` (`mergeInit_eq`); `c14_merge_output_bound` is stated with it. -/
def mergeInit (s : St) : MergeSt :=
  { s := { s with disk := rollDisk s.disk (s.active + 1) }, mid := s.active + 1, mpos := 0,
    calls := [Call.create ⟨.data, s.active + 1⟩, Call.create ⟨.hint, s.active + 1⟩] }

theorem mergeInit_eq (s : St) : mergeInit s = mergeStart s := rfl

/-- the calls of a merge pass, phase by phase -/
theorem _root_.Store.mergeWith_calls (cfg : Cfg) (s : St) (sel : List Nat) (order : List Key) :
    (mergeWith cfg s sel order).2 =
      (sel.foldl unlinkOne ((mergeLoop cfg s sel order).s,
        (mergeLoop cfg s sel order).calls ++
          [Call.fsync ⟨.data, (mergeLoop cfg s sel order).mid⟩,
           Call.fsync ⟨.hint, (mergeLoop cfg s sel order).mid⟩])).2 ++
      [Call.create ⟨.data, (mergeLoop cfg s sel order).mid + 1⟩] := rfl

/-- what the monitor knows while the merge that started at active id `A` writes output `mid` -/
structure MMonOk (A mid : Nat) (m : Mon) : Prop where
  midgt : A < mid
  bound : m.bound = mid + 1
  ownD : (⟨.data, mid⟩ : FName) ∈ m.created
  ownH : (⟨.hint, mid⟩ : FName) ∈ m.created
  unl : ∀ f, f ∈ m.unlinked → f.id ≤ A
  okF : m.okFresh = true
  okO : m.okOwn = true
  okT : m.okTop = true

/-- ... while it removes its inputs -/
structure UMonOk (A mid : Nat) (m : Mon) : Prop where
  midgt : A < mid
  bound : m.bound = mid + 1
  unl : ∀ f, f ∈ m.unlinked → f.id ≤ A
  okF : m.okFresh = true
  okO : m.okOwn = true
  okT : m.okTop = true

/-- creating the output pair `b`, at or above the bound -/
theorem MMonOk.of_create {A b : Nat} {m : Mon} (hb : m.bound ≤ b) (hA : A < b)
    (unl : ∀ f, f ∈ m.unlinked → f.id ≤ A) (okF : m.okFresh = true) (okO : m.okOwn = true)
    (okT : m.okTop = true) :
    MMonOk A b (m.calls [Call.create ⟨.data, b⟩, Call.create ⟨.hint, b⟩]) := by
  refine ⟨hA, ?_, List.mem_cons_of_mem _ List.mem_cons_self, List.mem_cons_self, unl,
    Mon.okFresh_create_hint (Mon.okFresh_create_data okF hb) rfl, okO, okT⟩
  show max (max m.bound (b + 1)) (b + 1) = b + 1
  rw [Nat.max_eq_right (Nat.le_succ_of_le hb), Nat.max_self]

/-- an append to either file of the current output pair -/
theorem MMonOk.append1 {A mid : Nat} {m : Mon} (h : MMonOk A mid m) (kd : Kind) (p : Payload) :
    MMonOk A mid (m.calls [Call.append ⟨kd, mid⟩ p]) :=
  have own : (⟨kd, mid⟩ : FName) ∈ m.created := by cases kd; exact h.ownD; exact h.ownH
  ⟨h.midgt, h.bound, h.ownD, h.ownH, h.unl, h.okF,
    Mon.okOwn_append p h.okO own fun hc => Nat.lt_irrefl _ (Nat.lt_of_le_of_lt (h.unl _ hc) h.midgt), h.okT⟩

theorem MMonOk.appendD {A mid : Nat} {m : Mon} (h : MMonOk A mid m) (p : Payload) :
    MMonOk A mid (m.calls [Call.append ⟨.data, mid⟩ p]) := h.append1 .data p

theorem MMonOk.appends {A mid : Nat} {m : Mon} (h : MMonOk A mid m) (p q : Payload) :
    MMonOk A mid (m.calls [Call.append ⟨.data, mid⟩ p, Call.append ⟨.hint, mid⟩ q]) :=
  (h.append1 .data p).append1 .hint q

theorem MMonOk.fsync1 {A mid : Nat} {m : Mon} (h : MMonOk A mid m) (f : FName) :
    MMonOk A mid (m.calls [Call.fsync f]) :=
  ⟨h.midgt, h.bound, h.ownD, h.ownH, h.unl, h.okF, h.okO, h.okT⟩

theorem MMonOk.fsyncs {A mid : Nat} {m : Mon} (h : MMonOk A mid m) (f g : FName) :
    MMonOk A mid (m.calls [Call.fsync f, Call.fsync g]) := (h.fsync1 f).fsync1 g

/-- the current output pair is synced and the next one created -/
theorem MMonOk.roll {A mid : Nat} {m : Mon} (h : MMonOk A mid m) :
    MMonOk A (mid + 1) (m.calls ([Call.fsync ⟨.data, mid⟩, Call.fsync ⟨.hint, mid⟩] ++
      [Call.create ⟨.data, mid + 1⟩, Call.create ⟨.hint, mid + 1⟩])) := by
  have h' := h.fsyncs ⟨.data, mid⟩ ⟨.hint, mid⟩
  rw [Mon.calls_append]
  exact .of_create (Nat.le_of_eq h'.bound) (Nat.lt_succ_of_lt h.midgt) h'.unl h'.okF h'.okO h'.okT

theorem MonOk.mergeOpen {a : Nat} {m : Mon} (h : MonOk a m) :
    MMonOk a (a + 1) (m.calls [Call.create ⟨.data, a + 1⟩, Call.create ⟨.hint, a + 1⟩]) :=
  .of_create (Nat.le_of_eq h.bound) (Nat.lt_succ_self _) (fun f hf => Nat.le_of_lt (h.unl f hf)) h.okF h.okO h.okT

theorem MMonOk.toU {A mid : Nat} {m : Mon} (h : MMonOk A mid m) : UMonOk A mid m :=
  ⟨h.midgt, h.bound, h.unl, h.okF, h.okO, h.okT⟩

theorem UMonOk.unlink {A mid : Nat} {m : Mon} (h : UMonOk A mid m) (f : FName) (hf : f.id ≤ A) :
    UMonOk A mid (m.step (.call (.unlink f))) := by
  refine ⟨h.midgt, h.bound, ?_, h.okF, h.okO, ?_⟩
  · intro g hg
    rcases List.mem_cons.mp hg with e | e
    · rw [e]; exact hf
    · exact h.unl g e
  · have := h.midgt
    simp only [Mon.step, h.okT, h.bound, Bool.true_and, decide_eq_true_eq]; omega

theorem UMonOk.close {A mid : Nat} {m : Mon} (h : UMonOk A mid m) :
    MonOk (mid + 1) (m.calls [Call.create ⟨.data, mid + 1⟩]) :=
  .of_create (Nat.le_of_eq h.bound)
    (fun f hf => Nat.lt_succ_of_le (Nat.le_trans (h.unl f hf) (Nat.le_of_lt h.midgt))) h.okF h.okO h.okT

/-- loop invariant: ids of the directory, and the monitor after the calls issued so far
    (`m0` is the monitor state when the merge started, `T` the crash tails) -/
structure MCoup (A : Nat) (T : List (Nat × Nat)) (m0 : Mon) (ms : MergeSt) : Prop where
  ids : ∀ id, id ∈ AL.keys ms.s.disk.data → id ≤ ms.mid
  hsub : ∀ id, id ∈ AL.keys ms.s.disk.hint → id ∈ AL.keys ms.s.disk.data
  midex : (AL.get ms.mid ms.s.disk.data).isSome
  tails : ms.s.disk.tails = T
  mon : MMonOk A ms.mid (m0.calls ms.calls)

theorem MCoup.top {A : Nat} {T : List (Nat × Nat)} {m0 : Mon} {ms : MergeSt} (h : MCoup A T m0 ms) :
    TopId ms.s.disk.data ms.mid := ⟨h.ids, h.midex⟩

theorem mergeInit_coup (s : St) (m0 : Mon) (h : Coup s m0) : MCoup s.active s.disk.tails m0 (mergeInit s) :=
  have t := h.inv.top.push (Nat.le_succ _) []
  ⟨t.le, hsub_set h.inv.hsub _ _ _, t.ex, rfl, h.mon.mergeOpen⟩

theorem mergeStep_coup (cfg : Cfg) (sel : List Nat) (A : Nat) (T : List (Nat × Nat)) (m0 : Mon)
    (ms : MergeSt) (k : Key) (h : MCoup A T m0 ms) : MCoup A T m0 (mergeStep cfg sel ms k) := by
  apply mergeStep_ind (MCoup A T m0) cfg sel ms k
  · exact h
  · exact ⟨h.ids, h.hsub, h.midex, h.tails, h.mon⟩
  · intro loc r _ _ _
    have t := h.top.set (Nat.le_refl _) (dataOf ms.s.disk ms.mid ++ [r])
    refine ⟨t.le, hsub_set h.hsub _ _ _, t.ex, h.tails, ?_⟩
    simp only [moveNoRoll, moveCalls, Mon.calls_append]
    exact h.mon.appends _ _
  · intro loc r _ _ _
    have t := (h.top.set (Nat.le_refl _) (dataOf ms.s.disk ms.mid ++ [r])).push (Nat.le_succ _) []
    refine ⟨t.le, hsub_set (hsub_set h.hsub _ _ _) _ _ _, t.ex, h.tails, ?_⟩
    simp only [moveRoll, moveCalls, Mon.calls_append]
    exact (h.mon.appends _ _).roll

structure UCoup (A mid : Nat) (T : List (Nat × Nat)) (m0 : Mon) (st : St × List Call) : Prop where
  ids : ∀ id, id ∈ AL.keys st.1.disk.data → id ≤ mid
  hsub : ∀ id, id ∈ AL.keys st.1.disk.hint → id ∈ AL.keys st.1.disk.data
  midex : (AL.get mid st.1.disk.data).isSome
  tails : st.1.disk.tails = T
  mon : UMonOk A mid (m0.calls st.2)

theorem unlinkOne_coup (A mid : Nat) (T : List (Nat × Nat)) (m0 : Mon) (st : St × List Call) (id : Nat)
    (hid : id ≤ A) (h : UCoup A mid T m0 st) : UCoup A mid T m0 (unlinkOne st id) := by
  obtain ⟨s, calls⟩ := st
  have t : TopId (AL.del id s.disk.data) mid :=
    TopId.del ⟨h.ids, h.midex⟩ (Nat.ne_of_gt (Nat.lt_of_le_of_lt hid h.mon.midgt))
  refine ⟨t.le, ?_, t.ex, h.tails, ?_⟩
  · intro i hi
    exact AL.mem_keys_del.mpr ((AL.mem_keys_del.mp hi).imp_right (h.hsub i))
  · simp only [unlinkOne, Mon.calls_append]
    have h1 : UMonOk A mid ((m0.calls calls).calls
        (if (AL.get id s.disk.hint).isSome = true then [Call.unlink ⟨.hint, id⟩] else [])) := by
      cases (AL.get id s.disk.hint).isSome
      · exact h.mon
      · exact h.mon.unlink ⟨.hint, id⟩ hid
    cases (AL.get id s.disk.data).isSome
    · exact h1
    · exact h1.unlink ⟨.data, id⟩ hid

theorem mergeLoop_coup (cfg : Cfg) (s : St) (sel : List Nat) (m0 : Mon) (h : Coup s m0) (ks : List Key) :
    MCoup s.active s.disk.tails m0 (mergeLoop cfg s sel ks) :=
  List.foldlRecOn ks _ (mergeInit_eq s ▸ mergeInit_coup s m0 h) fun ms h k _ => mergeStep_coup cfg sel _ _ m0 ms k h

/-- after the copy loop the last output pair is synced; then the inputs are removed -/
theorem MCoup.synced {A : Nat} {T : List (Nat × Nat)} {m0 : Mon} {ms : MergeSt} (h : MCoup A T m0 ms) :
    UCoup A ms.mid T m0 (ms.s, ms.calls ++ [Call.fsync ⟨.data, ms.mid⟩, Call.fsync ⟨.hint, ms.mid⟩]) :=
  ⟨h.ids, h.hsub, h.midex, h.tails, by rw [Mon.calls_append]; exact (h.mon.fsyncs _ _).toU⟩

theorem unlinkFold_coup (A mid : Nat) (T : List (Nat × Nat)) (m0 : Mon) (done : List Nat)
    (hd : ∀ id, id ∈ done → id ≤ A) (st : St × List Call) (h : UCoup A mid T m0 st) :
    UCoup A mid T m0 (done.foldl unlinkOne st) :=
  List.foldlRecOn done _ h fun st h id hid => unlinkOne_coup A mid T m0 st id (hd id hid) h

theorem mergeWith_coup (cfg : Cfg) (s : St) (sel : List Nat) (order : List Key) (m0 : Mon)
    (h : Coup s m0) (hsel : ∀ id, id ∈ sel → id ≤ s.active) :
    Coup (mergeWith cfg s sel order).1 (m0.calls (mergeWith cfg s sel order).2) := by
  have hU := unlinkFold_coup _ _ _ m0 sel hsel _ (mergeLoop_coup cfg s sel m0 h order).synced
  have t := TopId.push ⟨hU.ids, hU.midex⟩ (Nat.le_succ _) ([] : List Rec)
  rw [mergeWith_fst, mergeWith_calls, Mon.calls_append]
  refine ⟨⟨t.le, hsub_setData hU.hsub _ _, t.ex, ?_, ?_⟩, hU.mon.close⟩
  · intro id hid
    have hid' : id ∈ AL.keys s.disk.tails := by rw [← hU.tails]; exact hid
    exact Nat.lt_succ_of_lt (Nat.lt_trans (h.inv.tails id hid') hU.mon.midgt)
  · intro id hid
    exact Nat.lt_succ_of_le (hU.ids id (hU.hsub id hid))

end Store.Tr