/-
  No data file exceeds the configured maximum by more than one entry (C14): every data file in
  the directory, without its last record, is at most `maxFile` bytes long.  For merge outputs this
  uses the store invariant `Inv` (the copied record has the indexed length), so the run-level
  theorem is stated for the C01 histories (no reopen); the step lemmas hold from any state.
-/
import BitcaskVerif.Store.TraceSize

namespace Store.Tr
/-- every file, without its last record, fits into the maximum -/
def AllSz (cfg : Cfg) (data : List (Nat × List Rec)) : Prop :=
  ∀ id rs, AL.get id data = some rs → fileSize rs.dropLast ≤ cfg.maxFile

theorem allSz_set {cfg : Cfg} {data : List (Nat × List Rec)} (h : AllSz cfg data) (id : Nat) (rs : List Rec)
    (hrs : fileSize rs.dropLast ≤ cfg.maxFile) : AllSz cfg (AL.set id rs data) := by
  intro i xs hi
  rw [AL.get_set] at hi
  by_cases e : i = id
  · simp only [e, ↓reduceIte, Option.some.injEq] at hi; rw [← hi]; exact hrs
  · simp only [e, ↓reduceIte] at hi; exact h i xs hi

theorem allSz_set_nil {cfg : Cfg} {data : List (Nat × List Rec)} (h : AllSz cfg data) (id : Nat) :
    AllSz cfg (AL.set id [] data) := allSz_set h id [] (by simp)

theorem allSz_append {cfg : Cfg} {data : List (Nat × List Rec)} (h : AllSz cfg data) (id : Nat)
    (old : List Rec) (r : Rec) (hold : fileSize old ≤ cfg.maxFile) : AllSz cfg (AL.set id (old ++ [r]) data) :=
  allSz_set h id _ (by rw [List.dropLast_concat]; exact hold)

theorem allSz_del {cfg : Cfg} {data : List (Nat × List Rec)} (h : AllSz cfg data) (id : Nat) :
    AllSz cfg (AL.del id data) := by
  intro i xs hi
  rw [AL.get_del] at hi
  by_cases e : i = id
  · simp [e] at hi
  · simp only [e, ↓reduceIte] at hi; exact h i xs hi

theorem write_allSz (cfg : Cfg) (s : St) (r : Rec) (hs : SzInv cfg s) (h : AllSz cfg s.disk.data) :
    AllSz cfg (write cfg s r).1.disk.data := by
  have hold : fileSize (dataOf s.disk s.active) ≤ cfg.maxFile := by rw [← hs.eq]; exact hs.le
  by_cases hroll : s.written + r.len > cfg.maxFile
  · rw [write_roll cfg s r hroll]
    exact allSz_set_nil (allSz_append h _ _ _ hold) _
  · rw [write_noroll cfg s r hroll]
    exact allSz_append h _ _ _ hold

theorem mergeStep_allSz (cfg : Cfg) (sel : List Nat) (A : Nat) (abs0 : Map) (m : MergeSt) (k : Key)
    (hm : MInv A abs0 m) (hp : m.mpos ≤ cfg.maxFile) (h : AllSz cfg m.s.disk.data) :
    AllSz cfg (mergeStep cfg sel m k).s.disk.data := by
  have hold : fileSize (dataOf m.s.disk m.mid) ≤ cfg.maxFile := by rw [← hm.pos]; exact hp
  apply mergeStep_ind (fun x => AllSz cfg x.s.disk.data) cfg sel m k
  · exact h
  · exact h
  · intro loc r _ _ _
    simp only [moveNoRoll, moveSt, moveDisk]
    exact allSz_append h _ _ _ hold
  · intro loc r _ _ _
    simp only [moveRoll, moveSt, moveDisk, rollDisk]
    exact allSz_set_nil (allSz_append h _ _ _ hold) _

theorem mergeWith_allSz (cfg : Cfg) (s : St) (sel : List Nat) (order : List Key) (h : Inv s)
    (hsel : ∀ id, id ∈ sel → id ≤ s.active) (ha : AllSz cfg s.disk.data) :
    AllSz cfg (mergeWith cfg s sel order).1.disk.data := by
  -- the loop needs `MInv` (the copied record has the indexed length) to know the output's size
  have hL := List.foldlRecOn (motive := fun (m : MergeSt) =>
      MInv s.active s.abs m ∧ m.mpos ≤ cfg.maxFile ∧ AllSz cfg m.s.disk.data)
    order (mergeStep cfg sel) (b := mergeStart s) ⟨mergeStart_minv h _, Nat.zero_le _, allSz_set_nil ha _⟩
    fun m h k _ => ⟨(mergeStep_spec cfg sel _ _ hsel m k h.1).1, mergeStep_mpos_le cfg sel m k h.2.1,
      mergeStep_allSz cfg sel _ _ m k h.1 h.2.1 h.2.2⟩
  rw [mergeWith_fst]
  exact allSz_set_nil (List.foldlRecOn (motive := fun (st : St × List Call) => AllSz cfg st.1.disk.data) sel _
    hL.2.2 fun _ h id _ => allSz_del h id) _

theorem reopen_allSz (cfg : Cfg) (s : St) (ha : AllSz cfg s.disk.data) : AllSz cfg (reopen s).1.disk.data := by
  rw [reopen_disk]; exact allSz_set_nil ha _

/-- one operation keeps "no file exceeds the maximum by more than one entry" (a merge needs the
    store invariant at its start) -/
theorem stepC_allSz (cfg : Cfg) (s : St) (op : TOp) (hs : SzInv cfg s) (ha : AllSz cfg s.disk.data)
    (hv : match op with
          | .merge sel _ => Inv s ∧ ∀ id, id ∈ sel → id ≤ s.active
          | _ => True) :
    AllSz cfg (stepC cfg s op).1.disk.data := by
  cases op with
  | put ts k v => rw [stepC, put_disk]; exact write_allSz cfg s _ hs ha
  | del ts k => simp only [stepC]; rw [delete_disk]; exact write_allSz cfg s _ hs ha
  | get k => exact ha
  | merge sel order => exact mergeWith_allSz cfg s sel order hv.1 hv.2 ha
  | reopen => exact reopen_allSz cfg s ha

theorem step_allSz (cfg : Cfg) (s : St) (op : Op) (h : Inv s) (hs : SzInv cfg s) (ha : AllSz cfg s.disk.data)
    (hv : match op with
          | .merge sel order => (∀ id, id ∈ sel → id ≤ s.active) ∧ Covers order s
          | _ => True) :
    SzInv cfg (step cfg s op).1 ∧ AllSz cfg (step cfg s op).1.disk.data := by
  rw [← stepC_ofOp]
  refine ⟨stepC_sz cfg s _ hs, stepC_allSz cfg s _ hs ha ?_⟩
  cases op with
  | merge sel order => exact ⟨h, hv.1⟩
  | _ => trivial

theorem run_allSz (cfg : Cfg) (ops : List Op) : ∀ (s : St), Inv s → SzInv cfg s → AllSz cfg s.disk.data →
    ValidFrom cfg s ops → AllSz cfg (run cfg s ops).1.disk.data := by
  induction ops with
  | nil => intro s _ _ ha _; exact ha
  | cons op ops ih =>
    intro s h hs ha hv
    obtain ⟨i1, _, _⟩ := step_refines cfg s op h hv.1
    obtain ⟨j1, j2⟩ := step_allSz cfg s op h hs ha hv.1
    simp only [run]
    exact ih _ i1 j1 j2 hv.2

theorem fresh_allSz (cfg : Cfg) : AllSz cfg fresh.disk.data := by
  intro id rs h
  simp only [fresh, AL.get] at h
  split at h
  · cases h; simp
  · cases h

end Store.Tr