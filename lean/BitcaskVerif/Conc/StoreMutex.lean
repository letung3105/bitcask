/-
  C04 — mutual exclusion: the writer mutex is held exactly by the thread that is inside
  `put` / `delete` / `merge`, and the merge locals are in use only while such a thread is merging.
-/
import BitcaskVerif.Conc.StoreBasics

namespace CStore

structure MutexInv (s : Sys) : Prop where
  crit : ∀ (t : Tid) (st : TState), s.threads[t]? = some st → st.inCrit = true → s.mutex = some t
  holder : ∀ t, s.mutex = some t →
    ∃ st, s.threads[t]? = some st ∧ (st.inCrit = true ∨ st.isFailed = true)
  mergeOn : s.mg.on = true →
    ∃ t st, s.mutex = some t ∧ s.threads[t]? = some st ∧ (st = .merging ∨ st.isFailed = true)
  mergeOff : ∀ (t : Tid), s.threads[t]? = some .merging → s.mg.on = true

/-- `absurd` for a Boolean: it discharges the clauses `s.mg.on = true → …` in a state whose merge is off -/
theorem off_on {a : Bool} {P : Prop} (hoff : a = false) (hon : a = true) : P :=
  Bool.noConfusion (hoff.symm.trans hon)

theorem TState.not_crit_of_failed {st : TState} (h : st.isFailed = true) : st.inCrit = false := by
  cases st <;> first | rfl | cases h

theorem MutexInv.unique {s : Sys} (h : MutexInv s) {t t' : Tid} {st st' : TState}
    (h1 : s.threads[t]? = some st) (h2 : s.threads[t']? = some st')
    (c1 : st.inCrit = true) (c2 : st'.inCrit = true) : t = t' := by
  have a := h.crit t st h1 c1
  have b := h.crit t' st' h2 c2
  rw [a] at b; cases b; rfl

theorem MutexInv.same_state {s : Sys} (h : MutexInv s) {t t' : Tid} {st st' : TState}
    (h1 : s.threads[t]? = some st) (h2 : s.threads[t']? = some st')
    (c1 : st.inCrit = true) (c2 : st'.inCrit = true) : st = st' := by
  cases h.unique h1 h2 c1 c2
  rw [h1] at h2; cases h2; rfl

theorem MutexInv.off_of_free {s : Sys} (h : MutexInv s) (hfree : s.mutex = none) : s.mg.on = false := by
  cases hon : s.mg.on with
  | false => rfl
  | true => obtain ⟨_, _, hmu, _⟩ := h.mergeOn hon; rw [hfree] at hmu; cases hmu

theorem MutexInv.no_merge {s : Sys} (h : MutexInv s) {t : Tid} {st : TState}
    (h1 : s.threads[t]? = some st) (c1 : st.inCrit = true) (hm : st ≠ .merging) :
    s.mg.on = false := by
  cases hon : s.mg.on with
  | false => rfl
  | true =>
    obtain ⟨t', st', hmu, hth, hst⟩ := h.mergeOn hon
    have a := h.crit t st h1 c1
    rw [a] at hmu; cases hmu
    rw [h1] at hth; cases hth
    rcases hst with hst | hst
    · exact absurd hst hm
    · rw [TState.not_crit_of_failed hst] at c1; cases c1

theorem Local.crit {c : Cfg} {s : Sys} {st st' : TState} (hl : Local c s st st') :
    (st'.inCrit = st.inCrit ∨ st'.isFailed = true) ∧ (st' = .merging → st = .merging) ∧
    (st = .merging → st'.isFailed = true) ∧ st.isFailed = false := by
  cases hl with
  | chunkNoFile => exact ⟨.inr rfl, TState.noConfusion, TState.noConfusion, rfl⟩
  | copyNoFile => exact ⟨.inr rfl, TState.noConfusion, fun _ => rfl, rfl⟩
  | _ => exact ⟨.inl rfl, TState.noConfusion, TState.noConfusion, rfl⟩

theorem MutexInv.set {s s' : Sys} (h : MutexInv s) {t : Tid} {st st' : TState}
    (hth : s.threads[t]? = some st) (hthreads : s'.threads = s.threads.set t st')
    (hm : s'.mutex = s.mutex) (hon : s'.mg.on = s.mg.on) (hnf : st.isFailed = false)
    (hc : st'.inCrit = st.inCrit ∨ st'.isFailed = true)
    (hmg : st' = .merging → st = .merging)
    (hmg2 : st = .merging → st' = .merging ∨ st'.isFailed = true) : MutexInv s' := by
  constructor
  · intro t' x hx hcx
    rw [hthreads] at hx; rw [hm]
    rcases get_set_thread hx with ⟨rfl, rfl⟩ | ⟨_, hx'⟩
    · rcases hc with hc | hc
      · exact h.crit _ _ hth (hc ▸ hcx)
      · rw [TState.not_crit_of_failed hc] at hcx; cases hcx
    · exact h.crit _ _ hx' hcx
  · intro t' hmu
    rw [hm] at hmu
    obtain ⟨x, hx, hxc⟩ := h.holder t' hmu
    rw [hthreads]
    by_cases htt : t' = t
    · subst htt
      rw [hth] at hx; cases hx
      refine ⟨st', get_set_self hth, ?_⟩
      rcases hc with hc | hc
      · rcases hxc with hxc | hxc
        · exact .inl (hc ▸ hxc)
        · rw [hnf] at hxc; cases hxc
      · exact .inr hc
    · exact ⟨x, by rw [get_set_ne _ htt]; exact hx, hxc⟩
  · intro hon'
    rw [hon] at hon'
    obtain ⟨t', x, hmu, hx, hxm⟩ := h.mergeOn hon'
    rw [hthreads, hm]
    by_cases htt : t' = t
    · subst htt
      rw [hth] at hx; cases hx
      refine ⟨t', st', hmu, get_set_self hth, ?_⟩
      rcases hxm with hxm | hxm
      · exact hmg2 hxm
      · rw [hnf] at hxm; cases hxm
    · exact ⟨t', x, hmu, by rw [get_set_ne _ htt]; exact hx, hxm⟩
  · intro t' hx
    rw [hthreads] at hx; rw [hon]
    rcases get_set_thread hx with ⟨rfl, hst⟩ | ⟨_, hx'⟩
    · exact h.mergeOff _ (hmg hst.symm ▸ hth)
    · exact h.mergeOff _ hx'

theorem MutexInv.sole {s s' : Sys} {t : Tid} {st st' : TState} (hth : s.threads[t]? = some st)
    (hothers : ∀ (t' : Tid) x, t' ≠ t → s.threads[t']? = some x → x.inCrit = false)
    (hthreads : s'.threads = s.threads.set t st')
    (hm : s'.mutex = if st'.inCrit then some t else none)
    (hon : s'.mg.on = true ↔ st' = .merging) : MutexInv s' := by
  have hself : s'.threads[t]? = some st' := by rw [hthreads]; exact get_set_self hth
  have hcrit : ∀ (t' : Tid) x, s'.threads[t']? = some x → x.inCrit = true → t' = t ∧ x = st' := by
    intro t' x hx hcx
    rw [hthreads] at hx
    rcases get_set_thread hx with e | ⟨hne, hx'⟩
    · exact e
    · rw [hothers t' x hne hx'] at hcx; cases hcx
  refine ⟨?_, ?_, ?_, ?_⟩
  · intro t' x hx hcx
    obtain ⟨rfl, rfl⟩ := hcrit t' x hx hcx
    rw [hm, if_pos hcx]
  · intro t' hmu
    rw [hm] at hmu
    split at hmu
    next hc => cases hmu; exact ⟨st', hself, .inl hc⟩
    · cases hmu
  · intro hon'
    have hst := hon.mp hon'
    exact ⟨t, st', by rw [hm, hst]; rfl, hself, .inl hst⟩
  · intro t' hx
    exact hon.mpr (hcrit t' _ hx rfl).2.symm

theorem MutexInv.others_of_free {s : Sys} (h : MutexInv s) (hfree : s.mutex = none) {t : Tid}
    (t' : Tid) (x : TState) (_ : t' ≠ t) (hx : s.threads[t']? = some x) : x.inCrit = false :=
  Bool.eq_false_iff.mpr fun hc => nomatch (h.crit t' x hx hc).symm.trans hfree

theorem MutexInv.others_of_crit {s : Sys} (h : MutexInv s) {t : Tid} {st : TState}
    (hth : s.threads[t]? = some st) (hc : st.inCrit = true)
    (t' : Tid) (x : TState) (hne : t' ≠ t) (hx : s.threads[t']? = some x) : x.inCrit = false :=
  Bool.eq_false_iff.mpr fun hcx => hne (h.unique hx hth hcx hc)

theorem MutexInv.init (cap n : Nat) : MutexInv (init cap n) := by
  constructor
  · intro t st h hc; rw [init_idle h] at hc; cases hc
  · intro t h; cases h
  · intro h; cases h
  · intro t h; cases init_idle h

theorem MutexInv.step {c : Cfg} {s s' : Sys} {t : Tid} (h : MutexInv s) (hs : Step c s t s') :
    MutexInv s' := by
  cases hs with
  | thr st st' hh hth hl =>
    exact h.set hth rfl rfl rfl hl.crit.2.2.2 hl.crit.1 hl.crit.2.1 (fun e => .inr (hl.crit.2.2.1 e))
  | spin => exact h
  | lock r hth hm =>
    exact .sole hth (h.others_of_free hm) rfl rfl ⟨off_on (h.off_of_free hm), TState.noConfusion⟩
  | mergeLock sel sel' hth hm hsel =>
    exact .sole hth (h.others_of_free hm) rfl rfl ⟨fun _ => rfl, fun _ => rfl⟩
  | unlock st res hth hst =>
    have hc : st.inCrit = true := by rcases hst with rfl | ⟨rfl, _⟩ <;> rfl
    have hnm : st ≠ .merging := by rcases hst with rfl | ⟨rfl, _⟩ <;> exact TState.noConfusion
    exact .sole hth (h.others_of_crit hth hc) rfl rfl
      ⟨off_on (h.no_merge hth hc hnm), TState.noConfusion⟩
  | newActive hth hin hsh htd =>
    exact .sole hth (h.others_of_crit hth rfl) rfl (h.crit _ _ hth rfl)
      ⟨Bool.noConfusion, TState.noConfusion⟩
  | copyFail _ _ _ _ _ _ hth => exact h.set hth rfl rfl rfl rfl (.inr rfl) TState.noConfusion (fun _ => .inr rfl)
  | chunkDone _ _ _ hth | accountRoll _ _ hth | accountStay _ _ hth | publishPut _ _ _ hth
  | publishDel _ _ hth | checkout _ _ _ hth | checkin _ _ hth =>
    exact h.set hth rfl rfl rfl rfl (.inl rfl) TState.noConfusion TState.noConfusion
  | chunkPart | enter | copyOk | repointRoll | repoint | leave | unlink => exact ⟨h.1, h.2, h.3, h.4⟩

end CStore
