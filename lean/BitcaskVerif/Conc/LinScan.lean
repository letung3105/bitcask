/-
  The linearization-point meta-theorem on traces: `Scan sp h s th → TraceLinearizable sp h`.
  Proof: the operations in the order of their linearization-point events are the witness. While
  scanning, an operation record keeps the time of its linearization point in the `resp` field; the
  real response times are collected in `rs` (keyed by that time) and filled in at the end.
-/
import BitcaskVerif.Conc.LinTrace

namespace Lin

variable {σ Op Res : Type}

/-
  The invariant of the scan.
  * `legal`, `sorted`, `invNodup`: `L` lists the operations that have passed their linearization
    point, in the order of those points (`r.resp` is the time of `r`'s point); run one after the
    other from `sp.init` they give the recorded results and end in `s`.
  * `bounds`, `invAt`: the invocation event of `r` stands at `r.inv`, before its point, and the
    point lies inside the trace.
  * `rs` takes the time of a linearization point to the time of the response that followed it:
    `rs r.resp = none` means that `r` has not returned yet. `statusSome`: the response of a returned
    operation stands at `rs r.resp`, after the point, carries the recorded result, and the thread
    called nothing in between. `statusNone`: an operation that has not returned is the one its
    thread is in (`th`), and the thread has called nothing since the invocation.
  * `called`, `lined`: what `th` says of a thread is there: the invocation in the trace, the
    linearized operation in `L` with no response in `rs`.
  * `cover`: every response event of the trace is the response of a record of `L`. `invCover`:
    every invocation event belongs to a record of `L` or to a thread that is still `called`.
    `rsBound`: `rs` is `none` from the length of the trace on, so the next point's entry is free.
-/
structure Good (sp : Spec σ Op Res) (h : List (Ev Op Res)) (s : σ) (th : Nat → TSt Op Res)
    (L : List (OpRec Op Res)) (rs : Nat → Option Nat) : Prop where
  legal : LegalFrom sp sp.init L s
  sorted : L.Pairwise fun a b => a.resp < b.resp
  bounds : ∀ r ∈ L, r.inv < r.resp ∧ r.resp < h.length
  invAt : ∀ r ∈ L, EvAt h r.inv (.inv r.tid r.op)
  statusSome : ∀ r ∈ L, ∀ j, rs r.resp = some j →
    r.resp < j ∧ EvAt h j (.resp r.tid r.res) ∧ Quiet h r.tid r.inv j
  statusNone : ∀ r ∈ L, rs r.resp = none →
    th r.tid = .lined r.op r.res r.inv r.resp ∧ Quiet h r.tid r.inv h.length
  cover : ∀ j t res, EvAt h j (.resp t res) → ∃ r ∈ L, rs r.resp = some j
  called : ∀ t op i, th t = .called op i → EvAt h i (.inv t op) ∧ Quiet h t i h.length
  lined : ∀ t op res i lp, th t = .lined op res i lp → (⟨t, op, res, i, lp⟩ : OpRec Op Res) ∈ L ∧ rs lp = none
  invNodup : L.Pairwise fun a b => a.inv ≠ b.inv
  rsBound : ∀ x j, rs x = some j → x < h.length
  invCover : ∀ i t op, EvAt h i (.inv t op) → (∃ r ∈ L, r.inv = i) ∨ th t = .called op i

theorem eq_of_sorted {L : List (OpRec Op Res)} (hs : L.Pairwise fun a b => a.resp < b.resp)
    {a b : OpRec Op Res} (ha : a ∈ L) (hb : b ∈ L) (e : a.resp = b.resp) : a = b := by
  induction L with
  | nil => cases ha
  | cons x xs ih =>
    rw [List.pairwise_cons] at hs
    rcases List.mem_cons.mp ha with rfl | ha' <;> rcases List.mem_cons.mp hb with rfl | hb'
    · rfl
    · have := hs.1 b hb'; omega
    · have := hs.1 a ha'; omega
    · exact ih hs.2 ha' hb'

theorem Good.nil (sp : Spec σ Op Res) : Good sp [] sp.init (fun _ => .idle) [] (fun _ => none) :=
  ⟨rfl, .nil, nofun, nofun, nofun, nofun, nofun, nofun, nofun, .nil, nofun, nofun⟩

theorem Good.cons_old {sp : Spec σ Op Res} {h : List (Ev Op Res)} {s : σ} {th : Nat → TSt Op Res}
    {L : List (OpRec Op Res)} {rs : Nat → Option Nat} (g : Good sp h s th L rs) (x : Ev Op Res) :
    (∀ r ∈ L, r.inv < r.resp ∧ r.resp < (x :: h).length) ∧
    (∀ r ∈ L, EvAt (x :: h) r.inv (.inv r.tid r.op)) ∧
    (∀ r ∈ L, ∀ j, rs r.resp = some j →
      r.resp < j ∧ EvAt (x :: h) j (.resp r.tid r.res) ∧ Quiet (x :: h) r.tid r.inv j) ∧
    (∀ y j, rs y = some j → y < (x :: h).length) := by
  refine ⟨fun r hr => ?_, fun r hr => (g.invAt r hr).cons _, fun r hr j hj => ?_, fun y j hy => ?_⟩
  · have := g.bounds r hr; simp only [List.length_cons]; omega
  · obtain ⟨a, b, d⟩ := g.statusSome r hr j hj
    exact ⟨a, b.cons _, d.cons_of_le _ (Nat.le_of_lt b.lt)⟩
  · have := g.rsBound y j hy; simp only [List.length_cons]; omega

theorem Good.inv {sp : Spec σ Op Res} {h : List (Ev Op Res)} {s : σ} {th : Nat → TSt Op Res}
    {L : List (OpRec Op Res)} {rs : Nat → Option Nat} (g : Good sp h s th L rs) (t : Nat) (op : Op)
    (hidle : th t = .idle) :
    Good sp (.inv t op :: h) s (upd th t (.called op h.length)) L rs := by
  obtain ⟨hbounds, hinvAt, hsome, hrs⟩ := g.cons_old (.inv t op)
  refine ⟨g.legal, g.sorted, hbounds, hinvAt, hsome, ?_, ?_, ?_, ?_, g.invNodup, hrs, ?_⟩
  · intro r hr hn
    obtain ⟨a, b⟩ := g.statusNone r hr hn
    have hne : r.tid ≠ t := by intro e; rw [e, hidle] at a; cases a
    exact ⟨by rw [upd_ne _ _ hne]; exact a, b.snoc (fun _ e => hne e.symm)⟩
  · intro j t' res he
    rcases he.cons_inv with ⟨_, b⟩ | ⟨_, b⟩
    · cases b
    · exact g.cover j t' res b
  · intro t' op' i ht
    rcases upd_cases ht with ⟨rfl, hx⟩ | ⟨htt, ht⟩
    · cases hx
      refine ⟨EvAt.head _ _, ?_⟩
      intro m e h1 h2; simp only [List.length_cons] at h2; omega
    · obtain ⟨a, b⟩ := g.called t' op' i ht
      exact ⟨a.cons _, b.snoc (fun _ e => htt e.symm)⟩
  · intro t' op' res i lp ht
    rcases upd_cases ht with ⟨_, hx⟩ | ⟨_, ht⟩
    · cases hx
    · exact g.lined t' op' res i lp ht
  · intro i' t' op' he
    rcases he.cons_inv with ⟨a, b⟩ | ⟨_, b⟩
    · cases b; right; rw [upd_same, a]
    · rcases g.invCover i' t' op' b with hl | hr
      · exact .inl hl
      · right
        have hne : t' ≠ t := by intro e; rw [e, hidle] at hr; cases hr
        rw [upd_ne _ _ hne]; exact hr

theorem Good.lin {sp : Spec σ Op Res} {h : List (Ev Op Res)} {s : σ} {th : Nat → TSt Op Res}
    {L : List (OpRec Op Res)} {rs : Nat → Option Nat} (g : Good sp h s th L rs) (t : Nat) (op : Op)
    (i : Nat) (hcalled : th t = .called op i) :
    Good sp (.lin t (sp.apply s op).2 :: h) (sp.apply s op).1
      (upd th t (.lined op (sp.apply s op).2 i h.length))
      (L ++ [⟨t, op, (sp.apply s op).2, i, h.length⟩]) rs := by
  obtain ⟨hinv, hquiet⟩ := g.called t op i hcalled
  obtain ⟨hbounds, hinvAt, hsome, hrs⟩ := g.cons_old (.lin t (sp.apply s op).2)
  have hrsn : rs h.length = none :=
    Option.eq_none_iff_forall_ne_some.mpr fun j hr => Nat.lt_irrefl _ (g.rsBound _ _ hr)
  have happ : ∀ {P : OpRec Op Res → Prop} {o : OpRec Op Res}, (∀ r ∈ L, P r) → P o →
      ∀ r ∈ L ++ [o], P r :=
    fun hL ho => List.forall_mem_append.mpr ⟨hL, List.forall_mem_singleton.mpr ho⟩
  refine ⟨legalFrom_append (o := ⟨t, op, (sp.apply s op).2, i, h.length⟩) g.legal rfl, ?_,
    happ hbounds ⟨hinv.lt, Nat.lt_succ_self _⟩, happ hinvAt (hinv.cons _),
    happ hsome (fun j hj => by rw [hrsn] at hj; cases hj), happ ?_ ?_, ?_, ?_, ?_, ?_, hrs, ?_⟩
  · rw [List.pairwise_append]
    refine ⟨g.sorted, List.pairwise_singleton _ _, ?_⟩
    intro a ha b hb
    cases List.mem_singleton.mp hb
    exact (g.bounds a ha).2
  · intro r hr hn
    obtain ⟨a, b⟩ := g.statusNone r hr hn
    have hne : r.tid ≠ t := by intro e; rw [e, hcalled] at a; cases a
    exact ⟨by rw [upd_ne _ _ hne]; exact a, b.snoc (fun e => by cases e)⟩
  · exact fun _ => ⟨upd_same _ _ _, hquiet.snoc (fun e => by cases e)⟩
  · intro j t' res he
    rcases he.cons_inv with ⟨_, b⟩ | ⟨_, b⟩
    · cases b
    · obtain ⟨r, hr, hj⟩ := g.cover j t' res b
      exact ⟨r, List.mem_append_left _ hr, hj⟩
  · intro t' op' i' ht
    rcases upd_cases ht with ⟨_, hx⟩ | ⟨_, ht⟩
    · cases hx
    · obtain ⟨a, b⟩ := g.called t' op' i' ht
      exact ⟨a.cons _, b.snoc (fun e => by cases e)⟩
  · intro t' op' res i' lp ht
    rcases upd_cases ht with ⟨rfl, hx⟩ | ⟨_, ht⟩
    · cases hx
      exact ⟨List.mem_append_right _ (List.mem_singleton.mpr rfl), hrsn⟩
    · obtain ⟨a, b⟩ := g.lined t' op' res i' lp ht
      exact ⟨List.mem_append_left _ a, b⟩
  · rw [List.pairwise_append]
    refine ⟨g.invNodup, List.pairwise_singleton _ _, ?_⟩
    intro a ha b hb e
    cases List.mem_singleton.mp hb
    -- an older record with the same invocation would be an earlier operation of `t`, which
    -- has responded (not quiet since) or is linearized (`t` is only called)
    have e' : a.inv = i := e
    have hat := g.invAt a ha
    rw [e'] at hat
    have htid : a.tid = t := by
      have := hat.functional hinv
      cases this; rfl
    cases hr : rs a.resp with
    | some j =>
      obtain ⟨x, y, _⟩ := g.statusSome a ha j hr
      have hb := (g.bounds a ha).1
      exact hquiet j _ (by omega) y.lt y rfl htid
    | none =>
      obtain ⟨x, _⟩ := g.statusNone a ha hr
      rw [htid, hcalled] at x; cases x
  · intro i' t' op' he
    rcases he.cons_inv with ⟨_, b⟩ | ⟨_, b⟩
    · cases b
    · rcases g.invCover i' t' op' b with ⟨r, hr, e⟩ | hr
      · exact .inl ⟨r, List.mem_append_left _ hr, e⟩
      · by_cases htt : t' = t
        · subst htt
          rw [hcalled] at hr; cases hr
          exact .inl ⟨_, List.mem_append_right _ (List.mem_singleton.mpr rfl), rfl⟩
        · right; rw [upd_ne _ _ htt]; exact hr

theorem Good.resp {sp : Spec σ Op Res} {h : List (Ev Op Res)} {s : σ} {th : Nat → TSt Op Res}
    {L : List (OpRec Op Res)} {rs : Nat → Option Nat} (g : Good sp h s th L rs) (t : Nat) (op : Op)
    (res : Res) (i lp : Nat) (hlined : th t = .lined op res i lp) :
    Good sp (.resp t res :: h) s (upd th t .idle) L (upd rs lp (some h.length)) := by
  obtain ⟨hmem, hrsn⟩ := g.lined t op res i lp hlined
  obtain ⟨hb1, hb2⟩ := g.bounds _ hmem
  obtain ⟨hbounds, hinvAt, hsome, hrs⟩ := g.cons_old (.resp t res)
  simp only at hb1 hb2
  refine ⟨g.legal, g.sorted, hbounds, hinvAt, ?_, ?_, ?_, ?_, ?_, g.invNodup, ?_, ?_⟩
  · intro r hr j hj
    rcases upd_cases hj with ⟨hlp, hx⟩ | ⟨_, hj⟩
    · cases eq_of_sorted g.sorted hr hmem hlp
      cases hx
      obtain ⟨_, hq⟩ := g.statusNone _ hmem hrsn
      exact ⟨hb2, EvAt.head _ _, hq.cons_of_le _ (Nat.le_refl _)⟩
    · exact hsome r hr j hj
  · intro r hr hn
    rcases upd_cases hn with ⟨_, hx⟩ | ⟨hlp, hn⟩
    · cases hx
    · obtain ⟨a, b⟩ := g.statusNone r hr hn
      have hne : r.tid ≠ t := by
        intro e; rw [e, hlined] at a
        cases a; exact hlp rfl
      exact ⟨by rw [upd_ne _ _ hne]; exact a, b.snoc (fun _ e => hne e.symm)⟩
  · intro j t' res' he
    rcases he.cons_inv with ⟨a, b⟩ | ⟨_, b⟩
    · cases b
      exact ⟨_, hmem, by simp only [upd_same, a]⟩
    · obtain ⟨r, hr, hj⟩ := g.cover j t' res' b
      refine ⟨r, hr, ?_⟩
      have hlp : r.resp ≠ lp := by intro e; rw [e, hrsn] at hj; cases hj
      rw [upd_ne _ _ hlp]; exact hj
  · intro t' op' i' ht
    rcases upd_cases ht with ⟨_, hx⟩ | ⟨htt, ht⟩
    · cases hx
    · obtain ⟨a, b⟩ := g.called t' op' i' ht
      exact ⟨a.cons _, b.snoc (fun _ e => htt e.symm)⟩
  · intro t' op' res' i' lp' ht
    rcases upd_cases ht with ⟨_, hx⟩ | ⟨htt, ht⟩
    · cases hx
    · obtain ⟨a, b⟩ := g.lined t' op' res' i' lp' ht
      refine ⟨a, ?_⟩
      have hlp : lp' ≠ lp := by
        intro e
        have := eq_of_sorted g.sorted a hmem e
        cases this; exact htt rfl
      rw [upd_ne _ _ hlp]; exact b
  · intro x j hx
    rcases upd_cases hx with ⟨rfl, _⟩ | ⟨_, hx⟩
    · simp only [List.length_cons]; omega
    · exact hrs x j hx
  · intro i' t' op' he
    rcases he.cons_inv with ⟨_, b⟩ | ⟨_, b⟩
    · cases b
    · rcases g.invCover i' t' op' b with hl | hr
      · exact .inl hl
      · right
        have hne : t' ≠ t := by intro e; rw [e, hlined] at hr; cases hr
        rw [upd_ne _ _ hne]; exact hr

theorem Scan.good {sp : Spec σ Op Res} {h : List (Ev Op Res)} {s : σ} {th : Nat → TSt Op Res}
    (hs : Scan sp h s th) : ∃ L rs, Good sp h s th L rs := by
  induction hs with
  | nil => exact ⟨_, _, Good.nil sp⟩
  | inv t op _ hidle ih => obtain ⟨L, rs, g⟩ := ih; exact ⟨_, _, g.inv t op hidle⟩
  | lin t op i _ hc ih => obtain ⟨L, rs, g⟩ := ih; exact ⟨_, _, g.lin t op i hc⟩
  | resp t op res i lp _ hl ih => obtain ⟨L, rs, g⟩ := ih; exact ⟨_, _, g.resp t op res i lp hl⟩

theorem Scan.linearizable {sp : Spec σ Op Res} {h : List (Ev Op Res)} {s : σ}
    {th : Nat → TSt Op Res} (hs : Scan sp h s th) : TraceLinearizable sp h := by
  obtain ⟨L, rs, g⟩ := hs.good
  let f : OpRec Op Res → OpRec Op Res := fun r => { r with resp := (rs r.resp).getD h.length }
  refine ⟨L.map f, ?_, ?_, ?_,
    ⟨s, legalFrom_map f id (fun _ _ => ⟨rfl, rfl⟩) ((List.map_id L).symm ▸ g.legal)⟩, ?_⟩
  · intro o ho
    obtain ⟨r, hr, rfl⟩ := List.mem_map.mp ho
    cases hj : rs r.resp with
    | some j =>
      obtain ⟨a, b, d⟩ := g.statusSome r hr j hj
      have hb := (g.bounds r hr).1
      left
      refine ⟨g.invAt r hr, ?_, ?_, ?_⟩ <;> simp only [f, hj, Option.getD_some]
      · exact b
      · omega
      · exact d
    | none =>
      obtain ⟨_, b⟩ := g.statusNone r hr hj
      right
      refine ⟨g.invAt r hr, ?_, b⟩
      simp only [f, hj, Option.getD_none]
  · intro j t res he
    obtain ⟨r, hr, hj⟩ := g.cover j t res he
    exact ⟨f r, List.mem_map_of_mem hr, by simp only [f, hj, Option.getD_some]⟩
  · rw [List.pairwise_map]; exact g.invNodup
  · refine respects_of_points f (·.resp) (fun r hr => ⟨Nat.le_of_lt (g.bounds r hr).1, ?_⟩)
      (g.sorted.imp Nat.le_of_lt)
    cases hj : rs r.resp with
    | some j => simp only [f, hj, Option.getD_some]; exact Nat.le_of_lt (g.statusSome r hr j hj).1
    | none => simp only [f, hj, Option.getD_none]; exact Nat.le_of_lt (g.bounds r hr).2

theorem Scan.quiescent {sp : Spec σ Op Res} {h : List (Ev Op Res)} {s : σ}
    {th : Nat → TSt Op Res} (hs : Scan sp h s th) (hidle : ∀ t, th t = .idle) : Quiescent h := by
  obtain ⟨L, rs, g⟩ := hs.good
  intro i t op he
  rcases g.invCover i t op he with ⟨r, hr, e⟩ | hc
  · have hat := g.invAt r hr
    rw [e] at hat
    have htid : r.tid = t := by have := hat.functional he; injection this
    cases hj : rs r.resp with
    | none =>
      have := (g.statusNone r hr hj).1
      rw [hidle] at this; cases this
    | some j =>
      obtain ⟨a, b, _⟩ := g.statusSome r hr j hj
      have := (g.bounds r hr).1
      exact ⟨j, r.res, by omega, htid ▸ b⟩
  · rw [hidle] at hc; cases hc

end Lin
