/-
  C04 — the record in progress: only the active file can hold an incomplete record, and only
  while a writer is between its first and its last chunk; the incomplete part is shorter than
  the record. (Needed for progress: the writer's next chunk is always possible.)
-/
import BitcaskVerif.Conc.StoreSafe

namespace CStore

variable {c : Cfg} {s s' : Sys} {t : Tid}

def PartInv (s : Sys) : Prop :=
  ∀ fid f, s.file fid = some f →
    f.part = 0 ∨ (fid = s.active ∧ ∃ (t : Nat) (r : Rec), s.threads[t]? = some (.wWriting r) ∧ f.part < r.size)

theorem PartInv.init (cap n : Nat) : PartInv (init cap n) := by
  intro fid f hf
  have hf' : AL.get fid [((0 : Nat), ({} : File))] = some f := hf
  simp only [AL.get] at hf'
  split at hf'
  · cases hf'; exact .inl rfl
  · cases hf'

theorem PartInv.set_other {st st' : TState} (h : PartInv s) (hth : s.threads[t]? = some st)
    (hthreads : s'.threads = s.threads.set t st') (hfiles : s'.files = s.files)
    (hactive : s'.active = s.active) (hst : ∀ r, st ≠ .wWriting r) : PartInv s' := by
  intro fid f hf
  unfold Sys.file at hf
  rw [hfiles] at hf
  rcases h fid f hf with h0 | ⟨ha, t0, r, ht0, hlt⟩
  · exact .inl h0
  · right
    refine ⟨by rw [hactive]; exact ha, t0, r, ?_, hlt⟩
    rw [hthreads, get_set_ne]
    · exact ht0
    · intro e; subst e; rw [hth] at ht0; cases ht0; exact hst r rfl

theorem PartInv.zero_of_ne {fid : Nat} {f : File} (h : PartInv s) (hne : fid ≠ s.active)
    (hf : s.file fid = some f) : f.part = 0 :=
  (h fid f hf).resolve_right fun ha => hne ha.1

theorem MutexInv.no_writer {st : TState} (hm : MutexInv s) (hth : s.threads[t]? = some st)
    (hc : st.inCrit = true) (hst : ∀ r, st ≠ .wWriting r) (t0 : Nat) (r : Rec) :
    s.threads[t0]? ≠ some (.wWriting r) :=
  fun ht0 => hst r (hm.same_state ht0 hth rfl hc).symm

theorem get_unlinkFile_part {files : List (Nat × File)} {f0 fid : Nat} {f' : File}
    (h : AL.get fid (unlinkFile files f0) = some f') :
    ∃ f, AL.get fid files = some f ∧ f.part = f'.part := by
  rw [get_unlinkFile] at h
  split at h
  next e =>
    cases hx : AL.get f0 files with
    | none => rw [hx] at h; cases h
    | some x => rw [hx] at h; cases h; exact ⟨x, e ▸ hx, rfl⟩
  · exact ⟨f', h, rfl⟩

theorem PartInv.step (h : PartInv s) (hm : MutexInv s) (hs : Step c s t s') : PartInv s' := by
  -- while nobody is writing chunks: every file of `s'` is new and empty or has the `part` of a file of `s`
  have hzero : (∀ (t : Nat) r, s.threads[t]? ≠ some (.wWriting r)) →
      (∀ fid f', s'.file fid = some f' → f'.part = 0 ∨ ∃ f, s.file fid = some f ∧ f.part = f'.part) →
      PartInv s' := by
    intro hnw hfiles fid f' hf'
    rcases hfiles fid f' hf' with h0 | ⟨f, hf, hp⟩
    · exact .inl h0
    · exact .inl (hp ▸ (h fid f hf).resolve_right fun ⟨_, t0, r, ht0, _⟩ => hnw t0 r ht0)
  have hcreate : ∀ {fid : Nat}, (∀ (t : Nat) r, s.threads[t]? ≠ some (.wWriting r)) →
      s'.files = AL.set fid {} s.files → PartInv s' := by
    intro fid hnw hfiles
    refine hzero hnw fun fid' f' hf' => ?_
    rw [file_set hfiles] at hf'
    split at hf'
    · cases hf'; exact .inl rfl
    · exact .inr ⟨f', hf', rfl⟩
  cases hs with
  | thr st st' hh hth hl he =>
    by_cases hw : ∃ r, st = .wWriting r
    · obtain ⟨r, rfl⟩ := hw
      cases hl with
      | chunkNoFile r hf =>
        -- there is no active file
        intro fid f hf'
        have hf' : s.file fid = some f := hf'
        exact .inl ((h fid f hf').resolve_right fun ha => by rw [ha.1, hf] at hf'; cases hf')
    · exact h.set_other hth rfl rfl rfl (fun r e => hw ⟨r, e⟩)
  | spin => exact h
  | mergeLock sel sel' hth hmu hsel =>
    exact hcreate (fun t0 _ ht0 => nomatch (hm.crit t0 _ ht0 rfl).symm.trans hmu) rfl
  | chunkDone r n f hth hf hn hd =>
    intro fid f' hf'
    rcases AL.get_set_eq_some hf' with ⟨_, rfl⟩ | ⟨hne, hold⟩
    · exact .inl rfl
    · exact .inl (h.zero_of_ne hne hold)
  | chunkPart r n f hth hf hn hd =>
    intro fid f' hf'
    rcases AL.get_set_eq_some hf' with ⟨e, rfl⟩ | ⟨hne, hold⟩
    · exact .inr ⟨e, t, r, hth, hd⟩
    · exact .inl (h.zero_of_ne hne hold)
  | accountRoll _ _ hth | repointRoll _ _ hth | newActive hth =>
    exact hcreate (hm.no_writer hth rfl fun _ => TState.noConfusion) rfl
  | copyOk k loc f o wc r hth hin hp hsh hi hsel hf ho hr =>
    refine hzero (hm.no_writer hth rfl fun _ => TState.noConfusion) fun fid f' hf' => ?_
    rcases AL.get_set_eq_some hf' with ⟨e, rfl⟩ | ⟨_, hold⟩
    · exact .inr ⟨o, e ▸ ho, rfl⟩
    · exact .inr ⟨f', hold, rfl⟩
  | unlink f rest hth hin hsh htd =>
    exact hzero (hm.no_writer hth rfl fun _ => TState.noConfusion) fun _ _ hf' => .inr (get_unlinkFile_part hf')
  | unlock st res hth hst =>
    exact h.set_other hth rfl rfl rfl (by intro r e; rcases hst with rfl | ⟨rfl, _⟩ <;> cases e)
  | lock _ hth | accountStay _ _ hth | publishPut _ _ _ hth | publishDel _ _ hth | checkout _ _ _ hth
  | checkin _ _ hth | copyFail _ _ _ _ _ _ hth => exact h.set_other hth rfl rfl rfl fun _ => TState.noConfusion
  | enter hth | repoint _ _ hth | leave hth =>
    exact h.set_other hth (set_same hth).symm rfl rfl fun _ => TState.noConfusion

theorem PartInv.reachable {n : Nat} (h : Reachable c n s) : PartInv s :=
  h.induct (PartInv.init _ _) fun hr hi hs => hi.step (Inv.reachable hr).mutex hs

end CStore
