/-
  `step_sound`: every successful branch of the executable `step` is a constructor of `Step`;
  `Reachable.induct`: the invariant rule, with `Step` as the transition relation.
-/
import BitcaskVerif.Conc.StoreStep

namespace CStore

variable {c : Cfg} {s s' : Sys} {t : Tid}

/-- the fall-through branch of a `match a, b with | some x, some y => _ | _, _ => _` -/
theorem none_or_none {α β : Type} {a : Option α} {b : Option β}
    (h : ∀ x y, a = some x → b = some y → False) : a = none ∨ b = none := by
  cases a with
  | none => exact .inl rfl
  | some x =>
    cases b with
    | none => exact .inr rfl
    | some y => exact (h x y rfl rfl).elim

theorem stChunk_sound {r : Rec} {n : Nat}
    (hth : s.threads[t]? = some (.wWriting r)) (h : stChunk s t r n = some s') : Step c s t s' := by
  unfold stChunk at h
  split at h
  next hf => cases h; exact .thr _ _ _ hth (.chunkNoFile r hf) rfl
  next f hf =>
    obtain ⟨hc, h⟩ := Option.ite_none_right_eq_some.mp h
    split at h
    next hd => cases h; exact .chunkDone r n f hth hf hc.1 hd
    next hd => cases h; exact .chunkPart r n f hth hf hc.1 (by omega)

theorem stEnsure_sound {k : Key} {rd : Reader} {loc : Loc} {gv : Option Val} {ev : List Fid}
    (hth : s.threads[t]? = some (.gRead .looked k rd loc gv)) :
    Step c s t (stEnsure s t k rd loc gv ev) := by
  unfold stEnsure
  simp only
  split
  next m hc => exact .thr _ _ s.hist hth (.ensureCached k rd loc gv ev m hc) rfl
  next hc =>
    split
    next hf => exact .thr _ _ s.hist hth (.ensureNoFile k rd loc gv ev hc hf) rfl
    next f hf =>
      split
      next hl => exact .thr _ _ s.hist hth (.ensureOpen k rd loc gv ev f hc hf hl) rfl
      next hl =>
        exact .thr _ _ s.hist hth (.ensureUnlinked k rd loc gv ev f hc hf (Bool.not_eq_true _ ▸ hl)) rfl

theorem stRemap_sound {k : Key} {rd : Reader} {loc : Loc} {gv : Option Val}
    (hth : s.threads[t]? = some (.gRead .ensured k rd loc gv)) :
    Step c s t (stRemap c s t k rd loc gv) := by
  unfold stRemap
  split
  next m f hc hf =>
    split
    next ht => exact .thr _ _ s.hist hth (.remapFire k rd loc gv m f hc hf ht) rfl
    next ht => exact .thr _ _ s.hist hth (.remapKeep k rd loc gv m f hc hf (Bool.not_eq_true _ ▸ ht)) rfl
  next hno => exact .thr _ _ s.hist hth (.remapNoFile k rd loc gv (none_or_none hno)) rfl

theorem stSlice_sound {k : Key} {rd : Reader} {loc : Loc} {gv : Option Val}
    (hth : s.threads[t]? = some (.gRead .remapped k rd loc gv)) :
    Step c s t (stSlice s t k rd loc) := by
  unfold stSlice
  split
  next m f hc hf =>
    split
    next r hs => exact .thr _ _ s.hist hth (.sliceOk k rd loc gv m f r hc hf hs) rfl
    next e hs => exact .thr _ _ s.hist hth (.sliceErr k rd loc gv m f e hc hf hs) rfl
  next hno => exact .thr _ _ s.hist hth (.sliceNoFile k rd loc gv (none_or_none hno)) rfl

theorem stCopy_sound {k : Key} (hth : s.threads[t]? = some .merging)
    (h : stCopy c s t k = some s') : Step c s t s' := by
  obtain ⟨hc, h⟩ := Option.ite_none_right_eq_some.mp h
  split at h
  · cases h
  next loc hi =>
    obtain ⟨hsel, h⟩ := Option.ite_none_right_eq_some.mp h
    split at h
    next f o hf ho =>
      split at h
      next wc r hr => cases h; exact .copyOk k loc f o wc r hth hc.1 hc.2.1 hc.2.2 hi hsel hf ho hr
      next wc e hr => cases h; exact .copyFail k loc f o wc e hth hc.1 hc.2.1 hc.2.2 hi hsel hf ho hr
    next hno =>
      cases h
      exact .thr _ _ s.hist hth (.copyNoFile k loc hc.1 hc.2.1 hi (none_or_none hno)) rfl

theorem step_sound {c : Cfg} {s s' : Sys} {e : Event} (h : step c s e = some s') :
    Step c s e.1 s' := by
  obtain ⟨t, a⟩ := e
  unfold step at h
  split at h
  · cases h
  next st hth =>
    -- one case per line of `step`, in its order
    split at h
    · cases h; exact .thr _ _ _ hth (.invGet _) rfl
    · cases h; exact .thr _ _ _ hth (.invW _) rfl
    · cases h; exact .thr _ _ _ hth (.invW _) rfl
    · cases h; exact .thr _ _ _ hth (.invMerge _) rfl
    · obtain ⟨hm, h⟩ := Option.ite_none_right_eq_some.mp h
      cases h; exact .lock _ hth hm
    · exact stChunk_sound hth h
    · cases h
      unfold stAccount
      split
      next hw => exact .accountRoll _ _ hth hw
      next hw => exact .accountStay _ _ hth hw
    · obtain ⟨hg, h⟩ := Option.ite_none_right_eq_some.mp h
      split at h
      next v hv => cases h; exact .publishPut _ _ v hth hg hv
      next hv => cases h; exact .publishDel _ _ hth hg hv
    · cases h; exact .unlock _ _ hth (.inl rfl)
    · cases h; exact .thr _ _ _ hth (.resp _) rfl
    · unfold stCheckout at h
      split at h
      · cases h
      next rd rest hp => cases h; exact .checkout _ rd rest hth hp
    · unfold stSpin at h
      split at h
      next hp => cases h; exact .spin _ hth hp
      · cases h
    · obtain ⟨hw, h⟩ := Option.ite_none_right_eq_some.mp h
      split at h
      next hi => cases h; exact .thr _ _ _ hth (.lookupMiss _ _ hw hi) rfl
      next loc hi => cases h; exact .thr _ _ _ hth (.lookupHit _ _ loc hw hi) rfl
    · cases h; exact stEnsure_sound hth
    · cases h; exact stRemap_sound hth
    · cases h; exact stSlice_sound hth
    · cases h; exact .thr _ _ s.hist hth (.release _ _ _) rfl
    · cases h; exact .checkin _ _ hth
    · obtain ⟨hm, h⟩ := Option.ite_none_right_eq_some.mp h
      cases h
      exact .mergeLock _ _ hth hm (fun f hf => of_decide_eq_true (List.mem_filter.mp hf).2) rfl
    · obtain ⟨hc, h⟩ := Option.ite_none_right_eq_some.mp h
      cases h; exact .enter hth hc.1 hc.2.1 hc.2.2
    · exact stCopy_sound hth h
    · unfold stRepoint at h
      split at h
      · cases h
      next k nl hp =>
        split at h
        next hw => cases h; exact .repointRoll k nl hth hp hw
        next hw => cases h; exact .repoint k nl hth hp hw
    · obtain ⟨hc, h⟩ := Option.ite_none_right_eq_some.mp h
      cases h; exact .leave hth hc.1 hc.2.1 hc.2.2
    · obtain ⟨hc, h⟩ := Option.ite_none_right_eq_some.mp h
      split at h
      · cases h
      next f rest htd => cases h; exact .unlink f rest hth hc.1 hc.2 htd
    · obtain ⟨hc, h⟩ := Option.ite_none_right_eq_some.mp h
      cases h; exact .newActive hth hc.1 hc.2.1 hc.2.2
    · cases h; exact .unlock _ _ hth (.inr ⟨rfl, rfl⟩)
    · cases h

theorem Reachable.snoc {n : Nat} {e : Event} (h : Reachable c n s) (hs : step c s e = some s') :
    Reachable c n s' := by
  obtain ⟨es, hr⟩ := h
  refine ⟨es ++ [e], ?_⟩
  generalize init c.cap n = s0 at hr
  induction es generalizing s0 with
  | nil => cases hr; simp only [List.nil_append, run, hs]
  | cons e' es ih =>
    simp only [List.cons_append, run] at hr ⊢
    split at hr
    next s1 h1 => exact ih s1 hr
    · cases hr

theorem Reachable.induct {n : Nat} {P : Sys → Prop} (h0 : P (init c.cap n))
    (hstep : ∀ {s t s'}, Reachable c n s → P s → Step c s t s' → P s') (h : Reachable c n s) :
    P s := by
  obtain ⟨es, hr⟩ := h
  have hr0 : Reachable c n (init c.cap n) := ⟨[], rfl⟩
  generalize init c.cap n = s0 at h0 hr hr0
  induction es generalizing s0 with
  | nil => cases hr; exact h0
  | cons e es ih =>
    simp only [run] at hr
    split at hr
    next s1 h1 => exact ih s1 (hstep hr0 h0 (step_sound h1)) hr (hr0.snoc h1)
    · cases hr

end CStore
