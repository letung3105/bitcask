/-
  C04 — preservation of the safety invariant by the thread-local transitions (`Local`):
  lookup, ensure, remap test, slice, release, invocation, response.
-/
import BitcaskVerif.Conc.StoreInv

namespace CStore

theorem sliceAt_eq_ok {f : File} {k : Key} {loc : Loc} {m : Nat} {r : Rec} :
    sliceAt f k loc m = .ok r ↔
      loc.pos + loc.len ≤ m ∧ recAt f.recs loc.pos = some r ∧ r.size = loc.len ∧ r.key = k := by
  unfold sliceAt
  constructor
  · intro h
    split at h
    next hm =>
      split at h
      next r' hr =>
        split at h
        next hc => cases h; exact ⟨hm, hr, hc⟩
        · cases h
      · cases h
    · cases h
  · rintro ⟨hm, hr, hc⟩
    rw [if_pos hm, hr]
    exact if_pos hc

theorem remapTest_false {pos len m : Nat} (h : remapTest true pos len m = false) : pos + len ≤ m :=
  Nat.le_of_not_lt (of_decide_eq_false h)

theorem wlockFree_ne {s : Sys} {sh : Nat} (h : wlockFree s sh = true) (hon : s.mg.on = true)
    (hin : s.mg.inShard = true) : sh ≠ s.mg.shard := by
  unfold wlockFree at h
  simp [hon, hin] at h
  exact fun e => h e.symm

theorem Local.guard {c : Cfg} {s : Sys} {st st' : TState} (hl : Local c s st st') :
    st'.guard c = st.guard c ∨ st'.guard c = none ∨
      ∃ k, st'.guard c = some (c.shardOf k) ∧ wlockFree s (c.shardOf k) = true := by
  cases hl with
  | lookupHit k rd loc hw hi => exact .inr (.inr ⟨k, rfl, hw⟩)
  | ensureNoFile | ensureUnlinked | remapNoFile | sliceErr | sliceNoFile | release =>
    exact .inr (.inl rfl)
  | _ => exact .inl rfl

theorem SafeInv.guard_record {c : Cfg} {s : Sys} (h : SafeInv c s) {t : Tid} {pc : RPc} {k : Key}
    {rd : Reader} {loc : Loc} {gv : Option Val}
    (hth : s.threads[t]? = some (.gRead pc k rd loc gv)) :
    ∃ f r, s.file loc.fid = some f ∧ f.linked = true ∧ recAt f.recs loc.pos = some r ∧
      r.size = loc.len ∧ r.key = k ∧ r.val = gv ∧ loc.pos + loc.len ≤ f.size := by
  obtain ⟨hi, hgv, _⟩ := h.guard t pc k rd loc gv hth
  obtain ⟨r, v, ⟨f, hf, hl, hr, hs⟩, hk, hv, hm⟩ := h.index k loc hi
  refine ⟨f, r, hf, hl, hr, hs, hk, by rw [hgv, hm, hv], ?_⟩
  have := recAt_bound hr
  unfold File.size; omega

theorem Local.newGuard {c : Cfg} {s : Sys} {t : Tid} {st st' : TState} (h : SafeInv c s)
    (hth : s.threads[t]? = some st) (hl : Local c s st st') :
    ∀ pc k rd loc gv, st' = .gRead pc k rd loc gv → GuardFacts c s pc k rd loc gv := by
  intro pc k' rd' loc' gv' hst
  cases hl with
  | lookupHit k rd loc hw hi => cases hst; exact ⟨hi, rfl, fun hne => absurd rfl hne⟩
  | ensureCached k rd loc gv ev m hc =>
    cases hst
    obtain ⟨h1, h2, _⟩ := h.guard t _ _ _ _ _ hth
    exact ⟨h1, h2, fun _ => ⟨m, hc, fun hp => by cases hp⟩⟩
  | ensureOpen k rd loc gv ev f hc hf hlk =>
    cases hst
    obtain ⟨h1, h2, _⟩ := h.guard t _ _ _ _ _ hth
    exact ⟨h1, h2, fun _ => ⟨f.size, AL.get_set_same _ _ _, fun hp => by cases hp⟩⟩
  | remapFire k rd loc gv m f hc hf ht =>
    cases hst
    obtain ⟨h1, h2, _⟩ := h.guard t _ _ _ _ _ hth
    obtain ⟨f', r, hf', _, _, _, _, _, hb⟩ := h.guard_record hth
    rw [hf] at hf'; cases hf'
    exact ⟨h1, h2, fun _ => ⟨f.size, AL.get_set_same _ _ _, fun _ _ => hb⟩⟩
  | remapKeep k rd loc gv m f hc hf ht =>
    cases hst
    obtain ⟨h1, h2, _⟩ := h.guard t _ _ _ _ _ hth
    refine ⟨h1, h2, fun _ => ⟨m, hc, fun _ hfx => ?_⟩⟩
    rw [hfx] at ht
    exact remapTest_false ht
  | _ => cases hst

theorem Local.noFail {c : Cfg} {s : Sys} {t : Tid} {st st' : TState} (hm : MutexInv s)
    (h : SafeInv c s) (hfx : c.fixed = true) (hth : s.threads[t]? = some st)
    (hl : Local c s st st') : st'.isFailed = false := by
  cases hl <;> try rfl
  case ensureNoFile k rd loc gv ev hc hf =>
    obtain ⟨f', r, hf', _⟩ := h.guard_record hth
    rw [hf] at hf'; cases hf'
  case ensureUnlinked k rd loc gv ev f hc hf hlk =>
    obtain ⟨f', r, hf', hl', _⟩ := h.guard_record hth
    rw [hf] at hf'; cases hf'
    rw [hlk] at hl'; cases hl'
  case remapNoFile k rd loc gv hno | sliceNoFile k rd loc gv hno =>
    obtain ⟨f', r, hf', _⟩ := h.guard_record hth
    obtain ⟨m, hc, _⟩ := (h.guard t _ _ _ _ _ hth).2.2 nofun
    rcases hno with hno | hno
    · rw [hno] at hc; cases hc
    · rw [hno] at hf'; cases hf'
  case sliceErr k rd loc gv m f e hc hf hs =>
    obtain ⟨f', r, hf', _, hr, hsz, hk, _, _⟩ := h.guard_record hth
    obtain ⟨m', hc', hb⟩ := (h.guard t _ _ _ _ _ hth).2.2 nofun
    rw [hf] at hf'; cases hf'
    rw [hc] at hc'; cases hc'
    rw [sliceAt_eq_ok.mpr ⟨hb rfl hfx, hr, hsz, hk⟩] at hs
    cases hs
  case chunkNoFile r hf =>
    have hoff := hm.no_merge hth rfl TState.noConfusion
    obtain ⟨f, hf', _⟩ := h.activeOk hoff
    rw [hf] at hf'; cases hf'
  case copyNoFile k loc hin hp hi hno =>
    have hon := hm.mergeOff t hth
    obtain ⟨r, v, ⟨f, hf, _⟩, _⟩ := h.index k loc hi
    obtain ⟨o, ho, _⟩ := h.mgOut hon
    rcases hno with hno | hno
    · rw [hno] at hf; cases hf
    · rw [hno] at ho; cases ho

theorem SafeInv.thr {c : Cfg} {s : Sys} {t : Tid} {st st' : TState} (hh : List HEv)
    (hm : MutexInv s) (h : SafeInv c s) (hth : s.threads[t]? = some st) (hl : Local c s st st') :
    SafeInv c { s with threads := s.threads.set t st', hist := hh } := by
  refine h.set hth rfl rfl rfl rfl rfl rfl ?_ (Local.newGuard h hth hl) ?_
    (fun hfx => hl.noFail hm h hfx hth)
  · intro r loc hx
    cases hl <;> rcases hx with hx | hx <;> cases hx
  · intro hon hin
    rcases hl.guard with hg | hg | ⟨k, hg, hw⟩ <;> rw [hg]
    · exact guardFree_iff.mp (h.wlock hon hin) _ _ hth
    · nofun
    · exact fun e => wlockFree_ne hw hon hin (Option.some.inj e)

end CStore
