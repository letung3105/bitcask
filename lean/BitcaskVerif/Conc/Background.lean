/-
  C18 — the background tasks of `src/storage/bitcask.rs` (`merge_on_interval`, `sync_on_interval`):
  a timer loop that wakes after a delay drawn from `[interval·(1−jitter), interval·(1+jitter)]`
  (merge) or exactly `interval` (sync), then checks the trigger / syncs.
  Time is in abstract ticks (`Nat`); the model fixes only what the code fixes: every delay is
  within `[lo, hi]`. Core Lean only.
-/

namespace Background

/-- wake-up times of a timer loop started at `t0` whose successive delays are `ds` -/
def wakes : Nat → List Nat → List Nat
  | _, [] => []
  | t, d :: ds => (t + d) :: wakes (t + d) ds

theorem mem_wakes_gt {t : Nat} {ds : List Nat} (hpos : ∀ d, d ∈ ds → 0 < d) :
    ∀ w, w ∈ wakes t ds → t < w := by
  induction ds generalizing t with
  | nil => intro w hw; cases hw
  | cons d ds ih =>
    intro w hw
    have hd := hpos d List.mem_cons_self
    rcases List.mem_cons.mp hw with rfl | hw
    · exact Nat.lt_add_of_pos_right hd
    · exact Nat.lt_of_le_of_lt (Nat.le_add_right t d) (ih (fun x hx => hpos x (List.mem_cons_of_mem _ hx)) w hw)

def lastWake : Nat → List Nat → Nat
  | t, [] => t
  | t, d :: ds => lastWake (t + d) ds

/-- the merge task's delay bounds for `interval` ms and jitter `jn/jd ∈ [0,1]`, in units of
    `1/jd` ms (so that the bounds are exact integers): `interval·(jd ∓ jn)` -/
def mergeLo (interval jn jd : Nat) : Nat := interval * (jd - jn)
def mergeHi (interval jn jd : Nat) : Nat := interval * (jd + jn)

end Background
