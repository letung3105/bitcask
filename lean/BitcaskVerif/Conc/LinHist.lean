/-
  The history of a trace is unique up to order; linearizability does not depend on the order in
  which a history lists its operations.
-/
import BitcaskVerif.Conc.LinScan

namespace Lin

variable {σ Op Res : Type}

theorem IsOp.eq_of_resp {h : List (Ev Op Res)} {o o' : OpRec Op Res} (h1 : IsOp h o)
    (h2 : IsOp h o') (e : o.resp = o'.resp) : o = o' := by
  obtain ⟨a1, b1, c1, d1⟩ := h1
  obtain ⟨a2, b2, c2, d2⟩ := h2
  rw [e] at b1
  have hr := b1.functional b2
  have htid : o.tid = o'.tid := by injection hr
  have hres : o.res = o'.res := by injection hr
  have hinv : o.inv = o'.inv := by
    rcases Nat.lt_trichotomy o.inv o'.inv with hlt | heq | hgt
    · exact absurd htid.symm (d1 o'.inv _ hlt (by omega) a2 rfl)
    · exact heq
    · exact absurd htid (d2 o.inv _ hgt (by omega) a1 rfl)
  rw [hinv] at a1
  have hi := a1.functional a2
  have hop : o.op = o'.op := by injection hi
  cases o; cases o'
  cases htid; cases hres; cases hinv; cases hop; cases e; rfl

theorem HistoryOf.nodup {h : List (Ev Op Res)} {ops : List (OpRec Op Res)} (ho : HistoryOf h ops) :
    ops.Nodup := by
  unfold List.Nodup
  refine ho.2.2.imp ?_
  intro a b hab e
  exact hab (by rw [e])

theorem HistoryOf.perm {h : List (Ev Op Res)} {ops ops' : List (OpRec Op Res)}
    (h1 : HistoryOf h ops) (h2 : HistoryOf h ops') : ops.Perm ops' := by
  rw [List.perm_ext_iff_of_nodup h1.nodup h2.nodup]
  intro o
  constructor
  · intro ho
    have hop := h1.1 o ho
    obtain ⟨o', ho', e⟩ := h2.2.1 _ _ _ hop.2.1
    rw [hop.eq_of_resp (h2.1 o' ho') e.symm]; exact ho'
  · intro ho
    have hop := h2.1 o ho
    obtain ⟨o', ho', e⟩ := h1.2.1 _ _ _ hop.2.1
    rw [hop.eq_of_resp (h1.1 o' ho') e.symm]; exact ho'

theorem Linearizable.perm {sp : Spec σ Op Res} {h h' : List (OpRec Op Res)}
    (hl : Linearizable sp h) (hp : h.Perm h') : Linearizable sp h' := by
  obtain ⟨l, a, b, c⟩ := hl
  exact ⟨l, a.trans hp, b, c⟩

theorem TraceLinearizable.history {sp : Spec σ Op Res} {h : List (Ev Op Res)}
    {ops : List (OpRec Op Res)} (hl : TraceLinearizable sp h) (hq : Quiescent h)
    (ho : HistoryOf h ops) : Linearizable sp ops := by
  obtain ⟨ops', ho', hl'⟩ := hl.complete hq
  exact hl'.perm (ho'.perm ho)

end Lin
