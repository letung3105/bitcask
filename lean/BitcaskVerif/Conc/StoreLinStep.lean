/-
  C04 — the linearizability simulation is preserved by every step; consequences for reachable
  states.
-/
import BitcaskVerif.Conc.StoreLin

namespace CStore

open Lin (Scan TSt)

variable {c : Cfg} {s s' : Sys} {t : Tid} {m : AMap} {th : Nat → TSt Op Res}

theorem LinInv.thr {st st' : TState} (h : LinInv s m th) (hsafe : SafeInv c s)
    (hth : s.threads[t]? = some st) (hl : Local c s st st') :
    ∃ m' th', LinInv { s with threads := s.threads.set t st', hist := histAfter t st st' s.hist } m' th' := by
  cases hl with
  | invGet k => exact h.invoke (op := .get k) hth rfl rfl rfl rfl
  | invW r => exact h.invoke (op := recOp r) hth rfl rfl rfl rfl
  | invMerge sel => exact h.invoke (op := .merge sel) hth rfl rfl rfl rfl
  | resp res => exact h.respond hth rfl rfl rfl
  | lookupMiss k rd hw hi =>
    refine h.linearize (op := .get k) (res := .found none) hth rfl rfl rfl ?_ h.amap rfl
    show Res.found (m k) = .found none
    rw [h.amap, hsafe.amapDom k hi]
  | lookupHit k rd loc hw hi =>
    refine h.linearize (op := .get k) (res := .found (AL.get k s.amap)) hth rfl rfl rfl ?_ h.amap rfl
    show Res.found (m k) = .found (AL.get k s.amap)
    rw [h.amap]
  | sliceOk k rd loc gv mm f r hc hf hs =>
    -- the record sliced is the one the index entry promised at the lookup
    have hv : r.val = gv := by
      obtain ⟨f', r', hf', _, hr', _, _, hv', _⟩ := hsafe.guard_record hth
      rw [hf] at hf'; cases hf'
      rw [(sliceAt_eq_ok.mp hs).2.1] at hr'; cases hr'
      exact hv'
    exact ⟨m, th, h.set hth rfl rfl rfl (Rel.keep rfl rfl (congrArg (some ∘ Res.found) hv)
      ⟨TState.noConfusion, TState.noConfusion⟩)⟩
  | ensureCached | ensureOpen | remapFire | remapKeep | release =>
    exact ⟨m, th, h.set hth rfl rfl rfl (Rel.keep rfl rfl rfl ⟨TState.noConfusion, TState.noConfusion⟩)⟩
  | ensureNoFile | ensureUnlinked | remapNoFile | sliceErr | sliceNoFile | chunkNoFile | copyNoFile =>
    exact ⟨m, th, h.set hth rfl rfl rfl (fun ts _ => Rel.failed _ _ ts)⟩

theorem LinInv.step (h : LinInv s m th) (hsafe : SafeInv c s) (hs : Step c s t s') :
    ∃ m' th', LinInv s' m' th' := by
  cases hs with
  | thr st st' hh hth hl he => subst he; exact h.thr hsafe hth hl
  | spin => exact ⟨m, th, h⟩
  | mergeLock sel sel' hth hmu hsel =>
    exact h.linearize (op := .merge sel) (res := .unit) hth rfl rfl rfl rfl h.amap rfl
  | publishPut r loc v hth hg hv =>
    have hop : recOp r = .put r.key v r.extra := by unfold recOp; rw [hv]
    refine h.linearize (op := .put r.key v r.extra) (res := .unit) hth
      (congrArg some hop) rfl rfl rfl ?_ rfl
    intro k
    show (if k = r.key then some v else m k) = AL.get k (AL.set r.key v s.amap)
    rw [AL.get_set, h.amap]
  | publishDel r loc hth hg hv =>
    have hop : recOp r = .del r.key r.extra := by unfold recOp; rw [hv]
    have hsome : (m r.key).isSome = (AL.get r.key s.index).isSome := by
      rw [h.amap]
      cases hi : AL.get r.key s.index with
      | none => rw [hsafe.amapDom _ hi]; rfl
      | some l =>
        obtain ⟨_, v, _, _, _, hm⟩ := hsafe.index _ _ hi
        rw [hm]; rfl
    refine h.linearize (op := .del r.key r.extra) (res := .deleted (AL.get r.key s.index).isSome) hth
      (congrArg some hop) rfl rfl ?_ ?_ rfl
    · show Res.deleted (m r.key).isSome = _
      rw [hsome]
    · intro k
      show (if k = r.key then none else m k) = AL.get k (AL.del r.key s.amap)
      rw [AL.get_del, h.amap]
  | unlock st res hth hst =>
    rcases hst with rfl | ⟨rfl, rfl⟩ <;>
      exact ⟨m, th, h.set hth rfl rfl rfl (Rel.keep rfl rfl rfl ⟨TState.noConfusion, TState.noConfusion⟩)⟩
  | copyFail _ _ _ _ _ _ hth => exact ⟨m, th, h.set hth rfl rfl rfl (fun ts _ => Rel.failed _ _ ts)⟩
  | lock _ hth | chunkDone _ _ _ hth | accountRoll _ _ hth | accountStay _ _ hth | checkout _ _ _ hth
  | checkin _ _ hth | newActive hth =>
    exact ⟨m, th, h.set hth rfl rfl rfl (Rel.keep rfl rfl rfl ⟨TState.noConfusion, TState.noConfusion⟩)⟩
  | chunkPart _ _ _ hth | enter hth | copyOk _ _ _ _ _ _ hth | repointRoll _ _ hth | repoint _ _ hth
  | leave hth | unlink _ _ hth => exact ⟨m, th, h.set hth (set_same hth).symm rfl rfl fun _ x => x⟩

structure InvL (c : Cfg) (s : Sys) : Prop where
  inv : Inv c s
  lin : ∃ m th, LinInv s m th

theorem InvL.reachable {n : Nat} (h : Reachable c n s) : InvL c s := by
  refine ⟨Inv.reachable h, h.induct (P := fun s => ∃ m th, LinInv s m th) ⟨_, _, LinInv.init _ _⟩ ?_⟩
  intro s t s' hr ⟨m, th, hl⟩ hs
  exact hl.step (Inv.reachable hr).safe hs

theorem hist_linearizable {n : Nat} (h : Reachable c n s) :
    Lin.TraceLinearizable mapSpec s.hist := by
  obtain ⟨m, th, hl⟩ := (InvL.reachable h).lin
  exact hl.scan.linearizable

theorem hist_quiescent {n : Nat} (h : Reachable c n s)
    (hidle : ∀ (t : Nat) (st : TState), s.threads[t]? = some st → st = .idle) :
    Lin.Quiescent s.hist := by
  obtain ⟨m, th, hl⟩ := (InvL.reachable h).lin
  apply hl.scan.quiescent
  intro t
  cases hx : s.threads[t]? with
  | none => exact hl.out t hx
  | some st =>
    have := hl.rel t st hx
    rw [hidle t st hx] at this
    exact Rel.of_idle this

end CStore
