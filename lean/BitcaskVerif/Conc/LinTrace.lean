/-
  Linearizability of event traces (core Lean only).

  A trace is the list of invocation, linearization-point and response events of an execution,
  newest first; the time of an event is its number counted from the oldest event (0).
  `TraceLinearizable` is linearizability of the invocation / response events of the trace
  (linearization-point events are invisible to it). `Scan` says that every operation of the trace
  has a linearization-point event between its invocation and its response at which the
  specification, stepped in the order of these events, yields exactly the operation's result.
  The meta-theorem `Scan.linearizable` (in `Conc/LinScan.lean`): the latter implies the former.
-/
import BitcaskVerif.Conc.Lin

namespace Lin

inductive Ev (Op Res : Type) where
  | inv (t : Nat) (op : Op)
  | lin (t : Nat) (res : Res)
  | resp (t : Nat) (res : Res)
deriving DecidableEq, Repr

variable {σ Op Res : Type}

def Ev.tid : Ev Op Res → Nat
  | .inv t _ => t
  | .lin t _ => t
  | .resp t _ => t

def Ev.isCall : Ev Op Res → Bool
  | .lin _ _ => false
  | _ => true

/-- event number `i` (0 = oldest) of the newest-first trace `h` is `e` -/
def EvAt : List (Ev Op Res) → Nat → Ev Op Res → Prop
  | [], _, _ => False
  | x :: older, i, e => (i = older.length ∧ x = e) ∨ EvAt older i e

theorem EvAt.lt {h : List (Ev Op Res)} {i : Nat} {e : Ev Op Res} (hh : EvAt h i e) : i < h.length := by
  induction h with
  | nil => cases hh
  | cons x xs ih =>
    rcases hh with ⟨rfl, _⟩ | hh
    · simp
    · have := ih hh; simp only [List.length_cons]; omega

theorem EvAt.cons {h : List (Ev Op Res)} {i : Nat} {e : Ev Op Res} (x : Ev Op Res) (hh : EvAt h i e) :
    EvAt (x :: h) i e := .inr hh

theorem EvAt.head (x : Ev Op Res) (h : List (Ev Op Res)) : EvAt (x :: h) h.length x := .inl ⟨rfl, rfl⟩

theorem EvAt.cons_inv {h : List (Ev Op Res)} {i : Nat} {e x : Ev Op Res} (hh : EvAt (x :: h) i e) :
    (i = h.length ∧ x = e) ∨ (i < h.length ∧ EvAt h i e) := by
  rcases hh with hh | hh
  · exact .inl hh
  · exact .inr ⟨hh.lt, hh⟩

theorem EvAt.functional {h : List (Ev Op Res)} {i : Nat} {e e' : Ev Op Res} (h1 : EvAt h i e)
    (h2 : EvAt h i e') : e = e' := by
  induction h with
  | nil => cases h1
  | cons x xs ih =>
    rcases h1.cons_inv with ⟨a, b⟩ | ⟨a, b⟩ <;> rcases h2.cons_inv with ⟨a', b'⟩ | ⟨a', b'⟩
    · rw [← b, ← b']
    · omega
    · omega
    · exact ih b b'

theorem evAt_iff_reverse {h : List (Ev Op Res)} {i : Nat} {e : Ev Op Res} :
    EvAt h i e ↔ h.reverse[i]? = some e := by
  induction h with
  | nil => exact ⟨False.elim, nofun⟩
  | cons x xs ih =>
    rw [EvAt, ih, List.reverse_cons, List.getElem?_append, List.getElem?_singleton,
      List.length_reverse]
    by_cases hi : i < xs.length
    · rw [if_pos hi]
      exact ⟨fun h => h.elim (fun a => absurd a.1 (Nat.ne_of_lt hi)) id, .inr⟩
    · rw [if_neg hi, List.getElem?_eq_none (by rw [List.length_reverse]; omega)]
      constructor
      · rintro (⟨rfl, rfl⟩ | h)
        · rw [Nat.sub_self, if_pos rfl]
        · cases h
      · intro h
        split at h
        · cases h; exact .inl ⟨by omega, rfl⟩
        · cases h

def Quiet (h : List (Ev Op Res)) (t i j : Nat) : Prop :=
  ∀ m e, i < m → m < j → EvAt h m e → e.isCall = true → e.tid ≠ t

theorem Quiet.cons_of_le {h : List (Ev Op Res)} {t i j : Nat} (x : Ev Op Res) (hq : Quiet h t i j)
    (hj : j ≤ h.length) : Quiet (x :: h) t i j := by
  intro m e h1 h2 he hc
  rcases he.cons_inv with ⟨a, _⟩ | ⟨_, b⟩
  · omega
  · exact hq m e h1 h2 b hc

theorem Quiet.snoc {h : List (Ev Op Res)} {t i : Nat} {x : Ev Op Res} (hq : Quiet h t i h.length)
    (hx : x.isCall = true → x.tid ≠ t) : Quiet (x :: h) t i (h.length + 1) := by
  intro m e h1 h2 he hc
  rcases he.cons_inv with ⟨_, b⟩ | ⟨a, b⟩
  · subst b; exact hx hc
  · exact hq m e h1 a b hc

def IsOp (h : List (Ev Op Res)) (o : OpRec Op Res) : Prop :=
  EvAt h o.inv (.inv o.tid o.op) ∧ EvAt h o.resp (.resp o.tid o.res) ∧ o.inv < o.resp ∧
    Quiet h o.tid o.inv o.resp

/-- an operation that was invoked and has not responded yet, completed with some result and the
    response time "now" -/
def IsPending (h : List (Ev Op Res)) (o : OpRec Op Res) : Prop :=
  EvAt h o.inv (.inv o.tid o.op) ∧ o.resp = h.length ∧ Quiet h o.tid o.inv h.length

/-- linearizability of the invocations and responses of a trace: the completed operations (all of
    them, each once) together with some of the pending ones, suitably completed, can be put into
    a legal sequential order that respects real time -/
def TraceLinearizable (sp : Spec σ Op Res) (h : List (Ev Op Res)) : Prop :=
  ∃ L : List (OpRec Op Res),
    (∀ o ∈ L, IsOp h o ∨ IsPending h o) ∧
    (∀ j t res, EvAt h j (.resp t res) → ∃ o ∈ L, o.resp = j) ∧
    L.Pairwise (fun a b => a.inv ≠ b.inv) ∧ Legal sp L ∧ Respects L

/-- `ops` is the history of the trace: exactly its completed operations, each once -/
def HistoryOf (h : List (Ev Op Res)) (ops : List (OpRec Op Res)) : Prop :=
  (∀ o ∈ ops, IsOp h o) ∧ (∀ j t res, EvAt h j (.resp t res) → ∃ o ∈ ops, o.resp = j) ∧
    ops.Pairwise (fun a b => a.inv ≠ b.inv)

def Quiescent (h : List (Ev Op Res)) : Prop :=
  ∀ i t op, EvAt h i (.inv t op) → ∃ j res, i < j ∧ EvAt h j (.resp t res)

theorem TraceLinearizable.complete {sp : Spec σ Op Res} {h : List (Ev Op Res)}
    (hl : TraceLinearizable sp h) (hq : Quiescent h) :
    ∃ ops, HistoryOf h ops ∧ Linearizable sp ops := by
  obtain ⟨L, h1, h2, h3, h4, h5⟩ := hl
  refine ⟨L, ⟨?_, h2, h3⟩, ⟨L, List.Perm.refl _, h4, h5⟩⟩
  intro o ho
  rcases h1 o ho with hop | ⟨hinv, _, hquiet⟩
  · exact hop
  · exfalso
    obtain ⟨j, res, hij, hj⟩ := hq _ _ _ hinv
    exact hquiet j _ hij hj.lt hj rfl rfl

inductive TSt (Op Res : Type) where
  | idle
  | called (op : Op) (i : Nat)
  | lined (op : Op) (res : Res) (i lp : Nat)

def upd {α : Type} (f : Nat → α) (t : Nat) (x : α) : Nat → α := fun t' => if t' = t then x else f t'

theorem upd_same {α : Type} (f : Nat → α) (t : Nat) (x : α) : upd f t x t = x := by simp [upd]

theorem upd_ne {α : Type} (f : Nat → α) {t t' : Nat} (x : α) (h : t' ≠ t) : upd f t x t' = f t' := by
  simp [upd, h]

theorem upd_cases {α : Type} {f : Nat → α} {t t' : Nat} {x y : α} (h : upd f t x t' = y) :
    (t' = t ∧ x = y) ∨ (t' ≠ t ∧ f t' = y) := by
  by_cases e : t' = t
  · rw [e, upd_same] at h; exact .inl ⟨e, h⟩
  · rw [upd_ne _ _ e] at h; exact .inr ⟨e, h⟩

/-- `Scan sp h s th`: the trace `h` is well formed (per thread: invocation, linearization point,
    response, …), the specification stepped at the linearization points in their order is in
    state `s` and has produced at each point exactly the result the operation then returns;
    `th` tells where each thread is (with the times of its invocation and linearization point) -/
inductive Scan (sp : Spec σ Op Res) : List (Ev Op Res) → σ → (Nat → TSt Op Res) → Prop where
  | nil : Scan sp [] sp.init (fun _ => .idle)
  | inv {h : List (Ev Op Res)} {s : σ} {th : Nat → TSt Op Res} (t : Nat) (op : Op) :
      Scan sp h s th → th t = .idle →
      Scan sp (.inv t op :: h) s (upd th t (.called op h.length))
  | lin {h : List (Ev Op Res)} {s : σ} {th : Nat → TSt Op Res} (t : Nat) (op : Op) (i : Nat) :
      Scan sp h s th → th t = .called op i →
      Scan sp (.lin t (sp.apply s op).2 :: h) (sp.apply s op).1
        (upd th t (.lined op (sp.apply s op).2 i h.length))
  | resp {h : List (Ev Op Res)} {s : σ} {th : Nat → TSt Op Res} (t : Nat) (op : Op) (res : Res)
      (i lp : Nat) :
      Scan sp h s th → th t = .lined op res i lp →
      Scan sp (.resp t res :: h) s (upd th t .idle)

end Lin
