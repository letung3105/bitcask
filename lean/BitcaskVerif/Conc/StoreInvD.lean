/-
  C04 — preservation of the safety invariant by the merge steps: lock + create output, copy,
  re-point (+ roll the output over), leave shard, unlink, new active file. The unlink case is where
  "every shard was visited before the first unlink" is used.
-/
import BitcaskVerif.Conc.StoreInvB

namespace CStore

variable {c : Cfg} {s s' : Sys} {t : Tid}

theorem readThrough_ok_inv {f : File} {cache wc : List (Fid × Nat)} {k : Key} {loc : Loc} {r : Rec}
    (h : readThrough c f cache k loc = (wc, .ok r)) :
    recAt f.recs loc.pos = some r ∧ r.size = loc.len ∧ r.key = k := by
  unfold readThrough at h
  split at h
  · split at h
    · exact (sliceAt_eq_ok.mp (Prod.mk.inj h).2).2
    · cases (Prod.mk.inj h).2
  · exact (sliceAt_eq_ok.mp (Prod.mk.inj h).2).2

theorem readThrough_fixed {f : File} {cache : List (Fid × Nat)} {k : Key} {loc : Loc} {r : Rec}
    (hfx : c.fixed = true) (hl : f.linked = true) (hr : recAt f.recs loc.pos = some r)
    (hs : r.size = loc.len) (hk : r.key = k) : (readThrough c f cache k loc).2 = .ok r := by
  have hb : loc.pos + loc.len ≤ f.size := by
    have := recAt_bound hr; unfold File.size; omega
  unfold readThrough
  split
  · rw [if_pos hl]; exact sliceAt_eq_ok.mpr ⟨hb, hr, hs, hk⟩
  next m hm =>
    refine sliceAt_eq_ok.mpr ⟨?_, hr, hs, hk⟩
    split
    · exact hb
    next ht => rw [hfx] at ht; exact remapTest_false (Bool.not_eq_true _ ▸ ht)

theorem shardClean_iff :
    shardClean c s = true ↔ ∀ k loc, AL.get k s.index = some loc →
      c.shardOf k ≠ s.mg.shard ∨ loc.fid ∉ s.mg.sel := by
  unfold shardClean
  rw [List.all_eq_true]
  constructor
  · intro h k loc hi
    obtain ⟨⟨k', l'⟩, hmem, hk'⟩ := List.mem_map.mp (AL.mem_keys_of_get hi)
    cases hk'
    have := h _ hmem
    simp only [hi] at this
    exact of_decide_eq_true this
  · intro h ⟨k, l⟩ _
    simp only
    split
    next loc hi => exact decide_eq_true (h k loc hi)
    · rfl

theorem SafeInv.mergeLock {sel : List Fid} (hm : MutexInv s) (h : SafeInv c s)
    (hmu : s.mutex = none)
    (hsel : ∀ f ∈ sel, f ≤ s.active) (hh : List HEv) :
    SafeInv c { s with
      mutex := some t
      files := AL.set (s.active + 1) {} s.files
      mg := { on := true, sel := sel, out := s.active + 1, shard := 0, inShard := false,
              pending := none, todo := sel }
      threads := s.threads.set t .merging
      hist := hh } := by
  have hoff := hm.off_of_free hmu
  have hnone : s.file (s.active + 1) = none := h.fresh_off hoff _ (Nat.lt_succ_self _)
  exact .mk_on rfl (fresh_set (h.fresh_off hoff) (Nat.le_refl _) (Nat.le_succ _))
    (h.core.grow (FilesGrow.create hnone rfl) rfl rfl rfl
      (fun _ _ hx => hx.elim TState.noConfusion TState.noConfusion)
      (fun _ _ _ _ _ => TState.noConfusion) (fun _ => rfl))
    ⟨hsel, Nat.lt_succ_self _, fun _ x => x⟩ ⟨_, AL.get_set_same _ _ _, rfl⟩
    (fun _ _ hp => nomatch hp) (fun _ _ _ _ => Nat.zero_le _) Bool.noConfusion

theorem SafeInv.copyOk {k : Key} {loc : Loc} {f o : File} {wc : List (Fid × Nat)} {r : Rec}
    (hm : MutexInv s) (h : SafeInv c s) (hth : s.threads[t]? = some .merging)
    (hin : s.mg.inShard = true) (hsh : c.shardOf k = s.mg.shard)
    (hi : AL.get k s.index = some loc) (hf : s.file loc.fid = some f)
    (ho : s.file s.mg.out = some o) (hr : readThrough c f s.wcache k loc = (wc, .ok r)) :
    SafeInv c { s with
      wcache := wc
      files := AL.set s.mg.out { o with recs := o.recs ++ [r] } s.files
      mg := { s.mg with pending := some (k, ⟨s.mg.out, csize o.recs, r.size⟩) } } := by
  have hon := hm.mergeOff t hth
  have holinked : o.linked = true := by
    obtain ⟨o', ho', hl⟩ := h.mgOut hon
    rw [ho] at ho'; cases ho'; exact hl
  refine .mk_on hon (fresh_set (h.fresh_on hon) (Nat.le_refl _) (Nat.le_refl _))
    (h.core.grow (FilesGrow.append (ys := [r]) ho (by rfl) (by rfl) rfl) (set_same hth).symm rfl rfl
      (fun _ _ hx => hx.elim TState.noConfusion TState.noConfusion)
      (fun _ _ _ _ _ => TState.noConfusion) (fun _ => rfl))
    (h.mgSel hon) ⟨_, AL.get_set_same _ _ _, holinked⟩ ?_ (h.visited hon) (h.wlock hon)
  intro k' nl hp
  have hp' : some (k, (⟨s.mg.out, csize o.recs, r.size⟩ : Loc)) = some (k', nl) := hp
  cases hp'
  obtain ⟨hrec, hsz, hkey⟩ := readThrough_ok_inv hr
  obtain ⟨r', v, ⟨f', hf', _, hr', _⟩, _, hv, hamap⟩ := h.index k loc hi
  rw [hf] at hf'; cases hf'
  rw [hrec] at hr'; cases hr'
  exact ⟨hin, hsh, rfl, r, v, ⟨_, AL.get_set_same _ _ _, holinked, recAt_end _ _, rfl⟩, hkey, hv, hamap⟩

theorem SafeInv.copyFail {k : Key} {loc : Loc} {f : File} {wc : List (Fid × Nat)} {e : Fail}
    (h : SafeInv c s) (hth : s.threads[t]? = some .merging)
    (hi : AL.get k s.index = some loc) (hf : s.file loc.fid = some f)
    (hr : readThrough c f s.wcache k loc = (wc, .error e)) :
    SafeInv c { s with wcache := wc, threads := s.threads.set t (.failed e none) } := by
  refine h.set hth rfl rfl rfl rfl rfl rfl (fun _ _ hx => hx.elim TState.noConfusion TState.noConfusion) (fun _ _ _ _ _ => TState.noConfusion)
    (fun _ _ => nofun) ?_
  intro hfx
  exfalso
  obtain ⟨r', v, ⟨f', hf', hl, hr', hs⟩, hk, _, _⟩ := h.index k loc hi
  rw [hf] at hf'; cases hf'
  have := readThrough_fixed (cache := s.wcache) hfx hl hr' hs hk
  rw [hr] at this; cases this

/-- re-pointing the copied entry, the output file staying (`out' = out`, `s'.files = s.files`) or
    rolling over (`out' = out + 1`, a new empty file) -/
theorem SafeInv.repointTo {k : Key} {nl : Loc} {out' : Fid} (hm : MutexInv s) (h : SafeInv c s)
    (hth : s.threads[t]? = some .merging) (hp : s.mg.pending = some (k, nl))
    (hindex : s'.index = AL.set k nl s.index) (hamap : s'.amap = s.amap)
    (hthreads : s'.threads = s.threads) (hactive : s'.active = s.active)
    (hmg : s'.mg = { s.mg with pending := none, out := out' }) (hout : s.mg.out ≤ out')
    (hgrow : FilesGrow s s') (hfresh : ∀ f, out' < f → s'.file f = none)
    (hnew : ∃ o, s'.file out' = some o ∧ o.linked = true) : SafeInv c s' := by
  have hon := hm.mergeOff t hth
  obtain ⟨hin, hsh, hfid, hpts⟩ := h.mgPending hon k nl hp
  obtain ⟨hsel, hlt, htodo⟩ := h.mgSel hon
  have hset : s'.threads = s.threads.set t .merging := hthreads.trans (set_same hth).symm
  refine .mk_on (by rw [hmg]; exact hon) (by rw [hmg]; exact hfresh)
    ⟨?_, ?_, h.writer.set hset (fun _ _ x => x.grow hgrow) (fun _ _ hx => hx.elim TState.noConfusion TState.noConfusion),
      h.guard.set hset ?_ (fun _ _ _ _ _ => TState.noConfusion), fun hfx t' st hx => h.noFail hfx t' st (hthreads ▸ hx)⟩
    (by rw [hmg, hactive]; exact ⟨hsel, Nat.lt_of_lt_of_le hlt hout, htodo⟩)
    (by rw [hmg]; exact hnew) (by rw [hmg]; exact fun _ _ hp' => nomatch hp') ?_ ?_
  · intro k' loc' hi
    rw [hindex] at hi
    rcases AL.get_set_eq_some hi with ⟨rfl, rfl⟩ | ⟨_, hi'⟩
    · exact hpts.grow hgrow hamap
    · exact (h.index k' loc' hi').grow hgrow hamap
  · intro k' hi
    rw [hindex] at hi
    rw [hamap]; exact h.amapDom k' (AL.get_set_eq_none hi).2
  · -- a thread that holds a read guard reads a key of another shard than the one the merge is in
    intro t' pc k' rd loc gv _ hx
    rw [hindex, hamap]
    refine ⟨AL.get_set_other (fun e => ?_) _ _, rfl⟩
    exact guardFree_iff.mp (h.wlock hon hin) _ _ hx (by rw [e, ← hsh]; rfl)
  · intro k' loc' hi hs
    rw [hindex] at hi
    rw [hmg] at hs ⊢
    rcases AL.get_set_eq_some hi with ⟨rfl, rfl⟩ | ⟨_, hi'⟩
    · have := hsel _ hs; omega
    · exact h.visited hon k' loc' hi' hs
  · intro hin'; rw [hmg] at hin' ⊢
    unfold guardFree; rw [hthreads]; exact h.wlock hon hin'

theorem SafeInv.repoint {k : Key} {nl : Loc} (hm : MutexInv s) (h : SafeInv c s)
    (hth : s.threads[t]? = some .merging) (hp : s.mg.pending = some (k, nl)) :
    SafeInv c { s with index := AL.set k nl s.index, mg := { s.mg with pending := none } } :=
  h.repointTo hm hth hp rfl rfl rfl rfl rfl (Nat.le_refl _) (FilesGrow.same rfl)
    (h.fresh_on (hm.mergeOff t hth)) (h.mgOut (hm.mergeOff t hth))

theorem SafeInv.repointRoll {k : Key} {nl : Loc} (hm : MutexInv s) (h : SafeInv c s)
    (hth : s.threads[t]? = some .merging) (hp : s.mg.pending = some (k, nl)) :
    SafeInv c { s with
      index := AL.set k nl s.index
      files := AL.set (s.mg.out + 1) {} s.files
      mg := { s.mg with pending := none, out := s.mg.out + 1 } } :=
  have hfresh := h.fresh_on (hm.mergeOff t hth)
  h.repointTo hm hth hp rfl rfl rfl rfl rfl (Nat.le_succ _)
    (FilesGrow.create (hfresh _ (Nat.lt_succ_self _)) rfl)
    (fresh_set hfresh (Nat.le_refl _) (Nat.le_succ _)) ⟨_, AL.get_set_same _ _ _, rfl⟩

theorem SafeInv.leave (hm : MutexInv s) (h : SafeInv c s) (hth : s.threads[t]? = some .merging)
    (hp : s.mg.pending = none) (hc : shardClean c s = true) :
    SafeInv c { s with mg := { s.mg with inShard := false, shard := s.mg.shard + 1 } } := by
  have hon := hm.mergeOff t hth
  refine ⟨h.fresh, h.activeOk, h.index, h.amapDom, h.writer, h.guard, h.mgSel, h.mgOut, ?_, ?_,
    fun _ => Bool.noConfusion, h.noFail⟩
  · intro _ k nl hp'
    have : s.mg.pending = some (k, nl) := hp'
    rw [hp] at this; cases this
  · intro _ k loc hi hs
    have h1 := h.visited hon k loc hi hs
    rcases shardClean_iff.mp hc k loc hi with h2 | h2
    · exact Nat.lt_of_le_of_ne h1 (Ne.symm h2)
    · exact absurd hs h2

theorem SafeInv.unlink {f : Fid} {rest : List Fid} (hm : MutexInv s) (h : SafeInv c s)
    (hth : s.threads[t]? = some .merging) (hin : s.mg.inShard = false) (hsh : c.nsh < s.mg.shard)
    (htd : s.mg.todo = f :: rest) :
    SafeInv c { s with files := unlinkFile s.files f, mg := { s.mg with todo := rest } } := by
  have hon := hm.mergeOff t hth
  obtain ⟨hsel, hlt, htodo⟩ := h.mgSel hon
  have hfsel : f ∈ s.mg.sel := htodo f (by rw [htd]; exact List.mem_cons_self)
  -- every shard was visited: no index entry points into a selected file any more
  have hidx : ∀ k loc, AL.get k s.index = some loc → loc.fid ≠ f := by
    intro k loc hi e
    have := h.visited hon k loc hi (e ▸ hfsel)
    have := shardOf_le c k
    omega
  have hfle := hsel f hfsel
  refine .mk_on hon
    (fun fid (hfid : s.mg.out < fid) => (file_unlink_ne (by omega)).trans (h.fresh_on hon fid hfid))
    ⟨?_, h.amapDom, ?_, h.guard, h.noFail⟩
    ⟨hsel, hlt, fun x hx => htodo x (by rw [htd]; exact List.mem_cons_of_mem _ hx)⟩ ?_ ?_
    (h.visited hon) (h.wlock hon)
  · intro k loc hi
    obtain ⟨r, v, a, b⟩ := h.index k loc hi
    exact ⟨r, v, a.unlink rfl (hidx k loc hi), b⟩
  · -- the merging thread holds the mutex: nobody is between append and publish
    intro t' r loc hx
    have hx' : s.threads[t']? = some (.wAppended r loc) ∨ s.threads[t']? = some (.wAccounted r loc) := hx
    rcases hx' with hx' | hx'
    · cases hm.same_state hx' hth rfl rfl
    · cases hm.same_state hx' hth rfl rfl
  · obtain ⟨o, ho, hl⟩ := h.mgOut hon
    exact ⟨o, (file_unlink_ne (show s.mg.out ≠ f by omega)).trans ho, hl⟩
  · intro k nl hp
    obtain ⟨a, _⟩ := h.mgPending hon k nl hp
    rw [hin] at a; cases a

theorem SafeInv.newActive (hm : MutexInv s) (h : SafeInv c s)
    (hth : s.threads[t]? = some .merging) :
    SafeInv c { s with
      files := AL.set (s.mg.out + 1) {} s.files
      active := s.mg.out + 1
      written := 0
      mg := { s.mg with on := false }
      threads := s.threads.set t .mDone } := by
  have hfresh := h.fresh_on (hm.mergeOff t hth)
  have hnone : s.file (s.mg.out + 1) = none := hfresh _ (Nat.lt_succ_self _)
  exact .mk_off rfl (fresh_set hfresh (Nat.le_refl _) (Nat.le_succ _)) ⟨_, AL.get_set_same _ _ _, rfl⟩
    (h.core.grow (FilesGrow.create hnone rfl) rfl rfl rfl
      (fun _ _ hx => hx.elim TState.noConfusion TState.noConfusion)
      (fun _ _ _ _ _ => TState.noConfusion) (fun _ => rfl))

end CStore
