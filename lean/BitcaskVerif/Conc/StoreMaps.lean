/-
  C04 — every cached mapping (of a pooled reader, of a reader in use, of the writer's own cache)
  is no longer than its file: files only grow, an unlinked file keeps its bytes. Together with
  `c04_safe` (every slice lies inside the mapping) this says that a slice always reads bytes that
  exist, and — complete records being immutable — the bytes of the record the index promised.
-/
import BitcaskVerif.Conc.StoreSafe

namespace CStore

variable {c : Cfg} {s s' : Sys} {t : Tid}

def CacheOK (s : Sys) (cache : List (Nat × Nat)) : Prop :=
  ∀ fid m, AL.get fid cache = some m → ∃ f, s.file fid = some f ∧ m ≤ f.size

def TState.reader : TState → Option Reader
  | .gHave _ rd | .gRead _ _ rd _ _ | .gSliced _ rd _ | .gCheckin rd _ => some rd
  | .failed _ lost => lost
  | _ => none

structure MapInv (s : Sys) : Prop where
  pool : ∀ rd ∈ s.pool, CacheOK s rd.cache
  wcache : CacheOK s s.wcache
  held : ∀ (t : Nat) (st : TState) (rd : Reader), s.threads[t]? = some st → st.reader = some rd →
    CacheOK s rd.cache

def SizeGrow (s s' : Sys) : Prop :=
  ∀ fid f, s.file fid = some f → ∃ f', s'.file fid = some f' ∧ f.size ≤ f'.size

theorem CacheOK.grow {cache : List (Nat × Nat)} (hg : SizeGrow s s') (h : CacheOK s cache) :
    CacheOK s' cache := by
  intro fid m hm
  obtain ⟨f, hf, hle⟩ := h fid m hm
  obtain ⟨f', hf', hle'⟩ := hg fid f hf
  exact ⟨f', hf', by omega⟩

theorem SizeGrow.same (h : s'.files = s.files) : SizeGrow s s' := by
  intro fid f hf
  exact ⟨f, by unfold Sys.file at *; rw [h]; exact hf, Nat.le_refl _⟩

theorem SizeGrow.create {fid : Nat} {x : File} (hnone : s.file fid = none)
    (h : s'.files = AL.set fid x s.files) : SizeGrow s s' := by
  intro fid' f hf
  rw [file_set h, if_neg fun e => by rw [e, hnone] at hf; cases hf]
  exact ⟨f, hf, Nat.le_refl _⟩

theorem SizeGrow.update {fid : Nat} {f0 x : File} (hf0 : s.file fid = some f0)
    (hx : f0.size ≤ x.size) (h : s'.files = AL.set fid x s.files) : SizeGrow s s' := by
  intro fid' f hf
  rw [file_set h]
  split
  next e => rw [e, hf0] at hf; cases hf; exact ⟨x, rfl, hx⟩
  · exact ⟨f, hf, Nat.le_refl _⟩

theorem SizeGrow.unlink {f0 : Nat} (h : s'.files = unlinkFile s.files f0) : SizeGrow s s' := by
  intro fid f hf
  unfold Sys.file at *
  rw [h, get_unlinkFile]
  split
  next e => rw [← e, hf]; exact ⟨_, rfl, Nat.le_refl _⟩
  · exact ⟨f, hf, Nat.le_refl _⟩

theorem step_sizeGrow (hm : MutexInv s) (h : SafeInv c s) (hs : Step c s t s') : SizeGrow s s' := by
  cases hs with
  | mergeLock sel sel' hth hmu hsel =>
    exact SizeGrow.create (h.fresh_off (hm.off_of_free hmu) _ (Nat.lt_succ_self _)) rfl
  | accountRoll r loc hth hw =>
    exact SizeGrow.create (h.fresh_off (hm.no_merge hth rfl TState.noConfusion) _ (Nat.lt_succ_self _)) rfl
  | repointRoll _ _ hth | newActive hth =>
    exact SizeGrow.create (h.fresh_on (hm.mergeOff t hth) _ (Nat.lt_succ_self _)) rfl
  | chunkDone r n f hth hf hn hd =>
    refine SizeGrow.update hf ?_ rfl
    simp only [File.size, csize_append, csize]; omega
  | chunkPart r n f hth hf hn hd => exact SizeGrow.update hf (Nat.add_le_add_left (Nat.le_add_right _ _) _) rfl
  | copyOk k loc f o wc r hth hin hp hsh hi hsel hf ho hr =>
    refine SizeGrow.update ho ?_ rfl
    simp only [File.size, csize_append]; omega
  | unlink f rest hth hin hsh htd => exact SizeGrow.unlink rfl
  | _ => exact SizeGrow.same rfl

theorem cacheDrop_get {cache : List (Nat × Nat)} {ev : List Nat} {fid m : Nat}
    (h : AL.get fid (cacheDrop cache ev) = some m) : AL.get fid cache = some m := by
  unfold cacheDrop at h
  induction ev generalizing cache with
  | nil => exact h
  | cons e es ih =>
    simp only [List.foldl_cons] at h
    have := ih h
    rw [AL.get_del] at this
    split at this
    · cases this
    · exact this

theorem CacheOK.drop {cache : List (Nat × Nat)} (ev : List Nat) (h : CacheOK s cache) :
    CacheOK s (cacheDrop cache ev) :=
  fun fid m hm => h fid m (cacheDrop_get hm)

theorem CacheOK.set {cache : List (Nat × Nat)} {fid m : Nat} {f : File} (h : CacheOK s cache)
    (hf : s.file fid = some f) (hm : m ≤ f.size) : CacheOK s (AL.set fid m cache) := by
  intro fid' m' hg
  rcases AL.get_set_eq_some hg with ⟨rfl, rfl⟩ | ⟨_, hg'⟩
  · exact ⟨f, hf, hm⟩
  · exact h fid' m' hg'

theorem readThrough_cache {f : File} {cache wc : List (Nat × Nat)} {k : Nat} {loc : Loc}
    {res : Except Fail Rec} (h : CacheOK s cache) (hf : s.file loc.fid = some f)
    (hr : readThrough c f cache k loc = (wc, res)) : CacheOK s wc := by
  unfold readThrough at hr
  split at hr
  · split at hr <;> cases hr
    · exact h.set hf (Nat.le_refl _)
    · exact h
  next m hm =>
    cases hr
    obtain ⟨f', hf', hle⟩ := h _ _ hm
    rw [hf] at hf'; cases hf'
    apply h.set hf
    split
    · exact Nat.le_refl _
    · exact hle

theorem MapInv.set {st st' : TState} (h : MapInv s) (hg : SizeGrow s s')
    (hth : s.threads[t]? = some st) (hthreads : s'.threads = s.threads.set t st')
    (hpool : ∀ rd ∈ s'.pool, rd ∈ s.pool ∨ st.reader = some rd)
    (hw : CacheOK s' s'.wcache)
    (hnew : ∀ rd', st'.reader = some rd' → CacheOK s' rd'.cache) : MapInv s' := by
  refine ⟨?_, hw, ?_⟩
  · intro rd hrd
    rcases hpool rd hrd with h1 | h1
    · exact (h.pool rd h1).grow hg
    · exact (h.held t st rd hth h1).grow hg
  · intro t' x rd hx hr
    rw [hthreads] at hx
    rcases get_set_thread hx with ⟨_, rfl⟩ | ⟨_, hx'⟩
    · exact hnew rd hr
    · exact (h.held t' x rd hx' hr).grow hg

theorem MapInv.set_none {st st' : TState} (h : MapInv s) (hg : SizeGrow s s')
    (hth : s.threads[t]? = some st) (hthreads : s'.threads = s.threads.set t st')
    (hpool : s'.pool = s.pool) (hw : CacheOK s' s'.wcache) (hnone : st'.reader = none) :
    MapInv s' :=
  h.set hg hth hthreads (fun rd hrd => .inl (hpool ▸ hrd)) hw
    (by intro rd' hr; rw [hnone] at hr; cases hr)

theorem Local.reader {st st' : TState} (h : MapInv s) (hth : s.threads[t]? = some st)
    (hl : Local c s st st') : ∀ rd', st'.reader = some rd' → CacheOK s rd'.cache := by
  intro rd' hr
  cases hl with
  | ensureCached k rd loc gv ev m hc =>
    cases hr; exact (h.held t _ rd hth rfl).drop ev
  | ensureOpen k rd loc gv ev f hc hf hlk =>
    cases hr; exact ((h.held t _ rd hth rfl).drop ev).set hf (Nat.le_refl _)
  | remapFire k rd loc gv m f hc hf ht =>
    cases hr; exact (h.held t _ rd hth rfl).set hf (Nat.le_refl _)
  | invGet | invW | invMerge | resp | chunkNoFile | copyNoFile => cases hr
  | _ => cases hr; exact h.held t _ _ hth rfl

theorem MapInv.step (hm : MutexInv s) (hsafe : SafeInv c s) (h : MapInv s) (hs : Step c s t s') :
    MapInv s' := by
  have hg := step_sizeGrow hm hsafe hs
  cases hs with
  | thr st st' hh hth hl he =>
    exact h.set hg hth rfl (fun rd hrd => .inl hrd) h.wcache (Local.reader (s := s) h hth hl)
  | spin => exact h
  | checkout k rd rest hth hp =>
    refine h.set hg hth rfl ?_ h.wcache ?_
    · intro rd' hrd; left; rw [hp]; exact List.mem_cons_of_mem _ hrd
    · intro rd' hr; cases hr; exact h.pool rd (by rw [hp]; exact List.mem_cons_self)
  | checkin rd v hth =>
    refine h.set hg hth rfl ?_ h.wcache (by intro rd' hr; cases hr)
    intro rd' hrd
    rcases List.mem_append.mp hrd with h1 | h1
    · exact .inl h1
    · cases List.mem_singleton.mp h1; exact .inr rfl
  | copyOk k loc f o wc r hth hin hp hsh hi hsel hf ho hr =>
    exact h.set_none hg hth (set_same hth).symm rfl ((readThrough_cache h.wcache hf hr).grow hg) rfl
  | copyFail k loc f o wc e hth hin hp hsh hi hsel hf ho hr =>
    exact h.set_none hg hth rfl rfl ((readThrough_cache h.wcache hf hr).grow hg) rfl
  | lock _ hth | mergeLock _ _ hth | chunkDone _ _ _ hth | accountRoll _ _ hth | accountStay _ _ hth
  | publishPut _ _ _ hth | publishDel _ _ hth | unlock _ _ hth | newActive hth =>
    exact h.set_none hg hth rfl rfl (h.wcache.grow hg) rfl
  | chunkPart _ _ _ hth | enter hth | repointRoll _ _ hth | repoint _ _ hth | leave hth
  | unlink _ _ hth => exact h.set_none hg hth (set_same hth).symm rfl (h.wcache.grow hg) rfl

theorem MapInv.init (cap n : Nat) : MapInv (init cap n) := by
  refine ⟨?_, ?_, ?_⟩
  · intro rd hrd
    simp only [CStore.init, List.mem_map] at hrd
    obtain ⟨i, _, rfl⟩ := hrd
    intro fid m hm; cases hm
  · intro fid m hm; cases hm
  · intro t st rd hx hr
    rw [init_idle hx] at hr; cases hr

theorem MapInv.reachable {n : Nat} (h : Reachable c n s) : MapInv s :=
  h.induct (MapInv.init _ _) fun hr hi hs =>
    hi.step (Inv.reachable hr).mutex (Inv.reachable hr).safe hs

end CStore
