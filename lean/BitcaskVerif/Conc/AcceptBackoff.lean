/-
  `Listener::accept` (`src/net/server.rs:166-185`): the retry loop around accept(2).  Each call of the
  function starts with `backoff = min_backoff_ms`; a failing accept(2) ends the loop (and with it the
  listener, hence the server) when `backoff > max_backoff_ms`, otherwise the task sleeps `backoff` ms,
  doubles it (`backoff <<= 1` on a `u64`: the top bit is shifted out silently) and tries again.
  Core Lean only (the driver executes `loop`).
-/

namespace AcceptBackoff

inductive Outcome where
  | accepted   -- accept(2) returned a connection
  | gaveUp     -- the error is returned: `listen` ends, `Server::run` returns
  | waiting    -- the outcomes ran out: the task is blocked in accept(2)
deriving DecidableEq, Repr

/-- `u64` shift left by one -/
def shl1 (b : Nat) : Nat := (b * 2) % 2 ^ 64

/-- the loop from the value `b` of `backoff`, against the outcomes of the accept(2) calls
    (`true` = a connection). Result: how it ends, accept(2) calls made, milliseconds slept. -/
def loop (max : Nat) : Nat → List Bool → Outcome × Nat × Nat
  | _, [] => (.waiting, 0, 0)
  | _, true :: _ => (.accepted, 1, 0)
  | b, false :: rest =>
    if b > max then (.gaveUp, 1, 0)
    else
      let r := loop max (shl1 b) rest
      (r.1, r.2.1 + 1, r.2.2 + b)

/-- one call of `Listener::accept` -/
def accept (min max : Nat) (outs : List Bool) : Outcome × Nat × Nat := loop max min outs

theorem shl1_eq {b : Nat} (h : b * 2 < 2 ^ 64) : shl1 b = b * 2 := Nat.mod_eq_of_lt h

theorem loop_nil (max b : Nat) : loop max b [] = (.waiting, 0, 0) := rfl

theorem loop_true (max b : Nat) (rest : List Bool) : loop max b (true :: rest) = (.accepted, 1, 0) := rfl

theorem loop_false_gt {max b : Nat} (h : max < b) (rest : List Bool) :
    loop max b (false :: rest) = (.gaveUp, 1, 0) :=
  if_pos h

theorem loop_false_le {max b : Nat} {rest : List Bool} {o : Outcome} {n ms : Nat} (h : b ≤ max)
    (hr : loop max (shl1 b) rest = (o, n, ms)) : loop max b (false :: rest) = (o, n + 1, ms + b) :=
  (if_neg (Nat.not_lt.mpr h)).trans (by rw [hr])

theorem slept_succ (b k : Nat) : b * (2 ^ k - 1) + b * 2 ^ k = b * (2 ^ (k + 1) - 1) := by
  rw [← Nat.mul_add, Nat.pow_succ, Nat.mul_two, Nat.sub_add_comm (Nat.two_pow_pos k)]

theorem loop_fails {max b k : Nat} {rest : List Bool} {o : Outcome} {n ms : Nat}
    (hw : b * 2 ^ k < 2 ^ 64) (hm : ∀ j, j < k → b * 2 ^ j ≤ max)
    (hr : loop max (b * 2 ^ k) rest = (o, n, ms)) :
    loop max b (List.replicate k false ++ rest) = (o, k + n, b * (2 ^ k - 1) + ms) := by
  induction k generalizing rest o n ms with
  | zero => simpa using hr
  | succ k ih =>
    -- the last of the `k + 1` failures is met at back-off `b·2^k`
    rw [Nat.pow_succ, ← Nat.mul_assoc] at hw hr
    rw [← shl1_eq hw] at hr
    rw [List.replicate_succ', List.append_assoc, List.singleton_append,
      ih (Nat.lt_of_le_of_lt (Nat.le_mul_of_pos_right _ Nat.two_pos) hw) (fun j hj => hm j (Nat.lt_succ_of_lt hj))
        (loop_false_le (hm k (Nat.lt_succ_self k)) hr), Prod.mk.injEq, Prod.mk.injEq]
    -- one more call, and the sleep at back-off `b·2^k` on top of `b·(2^k − 1)`
    have := slept_succ b k
    exact ⟨rfl, by omega, by omega⟩

/-- the back-off only grows: where the last of `k` failures found it at or below the maximum, so did all -/
theorem le_max_of_last {b max k : Nat} (hm : k = 0 ∨ b * 2 ^ (k - 1) ≤ max) (j : Nat) (hj : j < k) :
    b * 2 ^ j ≤ max := by
  rcases hm with rfl | hm
  · exact absurd hj (Nat.not_lt_zero j)
  · exact Nat.le_trans
      (Nat.mul_le_mul_left b (Nat.pow_le_pow_right Nat.two_pos (Nat.le_sub_one_of_lt hj))) hm

end AcceptBackoff
