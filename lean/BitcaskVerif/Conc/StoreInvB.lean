/-
  C04 — preservation of the safety invariant by the steps of `put` / `delete`
  (chunk, roll-over, publish, unlock) and by the pool steps.
  `publish` is the linearization point of `put` / `delete`: no `get` holds a read guard on the
  key's shard, so no reader's remembered location is invalidated.
-/
import BitcaskVerif.Conc.StoreInvA

namespace CStore

variable {c : Cfg} {s s' : Sys} {t : Tid}

theorem SafeInv.unlock {st : TState} {res : Res} (h : SafeInv c s) (hth : s.threads[t]? = some st) :
    SafeInv c { s with mutex := none, threads := s.threads.set t (.respond res) } :=
  h.set_plain hth rfl rfl rfl rfl rfl rfl (fun _ _ => ⟨nofun, nofun⟩) (fun _ _ _ _ _ => nofun) rfl rfl

theorem SafeInv.checkout {k : Key} {rd : Reader} {rest : List Reader} (h : SafeInv c s)
    (hth : s.threads[t]? = some (.gInv k)) :
    SafeInv c { s with pool := rest, threads := s.threads.set t (.gHave k rd) } :=
  h.set_plain hth rfl rfl rfl rfl rfl rfl (fun _ _ => ⟨nofun, nofun⟩) (fun _ _ _ _ _ => nofun) rfl rfl

theorem SafeInv.checkin {rd : Reader} {v : Option Val} (h : SafeInv c s)
    (hth : s.threads[t]? = some (.gCheckin rd v)) :
    SafeInv c { s with pool := s.pool ++ [rd], threads := s.threads.set t (.respond (.found v)) } :=
  h.set_plain hth rfl rfl rfl rfl rfl rfl (fun _ _ => ⟨nofun, nofun⟩) (fun _ _ _ _ _ => nofun) rfl rfl

theorem SafeInv.active_linked {st : TState} {f : File} (hm : MutexInv s) (h : SafeInv c s)
    (hth : s.threads[t]? = some st) (hc : st.inCrit = true) (hst : st ≠ .merging)
    (hf : s.file s.active = some f) : f.linked = true := by
  obtain ⟨f', hf', hl⟩ := h.activeOk (hm.no_merge hth hc hst)
  rw [hf] at hf'; cases hf'; exact hl

theorem SafeInv.chunkDone {r : Rec} {f : File} (hm : MutexInv s) (h : SafeInv c s)
    (hth : s.threads[t]? = some (.wWriting r)) (hf : s.file s.active = some f) :
    SafeInv c { s with
      files := AL.set s.active { f with recs := f.recs ++ [r], part := 0 } s.files
      threads := s.threads.set t (.wAppended r ⟨s.active, csize f.recs, r.size⟩) } := by
  have hoff := hm.no_merge hth rfl TState.noConfusion
  have hlinked := h.active_linked hm hth rfl TState.noConfusion hf
  refine .mk_off hoff (fresh_set (h.fresh_off hoff) (Nat.le_refl _) (Nat.le_refl _))
    ⟨_, AL.get_set_same _ _ _, hlinked⟩
    (h.core.grow (FilesGrow.append (ys := [r]) hf (by rfl) (by rfl) rfl) rfl rfl rfl ?_
      (fun _ _ _ _ _ => TState.noConfusion) (fun _ => rfl))
  intro r' loc' hx
  rcases hx with hx | hx <;> cases hx
  exact ⟨_, AL.get_set_same _ _ _, hlinked, recAt_end _ _, rfl⟩

theorem SafeInv.chunkPart {r : Rec} {f : File} {n : Nat} (hm : MutexInv s) (h : SafeInv c s)
    (hth : s.threads[t]? = some (.wWriting r)) (hf : s.file s.active = some f) :
    SafeInv c { s with files := AL.set s.active { f with part := f.part + n } s.files } := by
  have hoff := hm.no_merge hth rfl TState.noConfusion
  exact .mk_off hoff (fresh_set (h.fresh_off hoff) (Nat.le_refl _) (Nat.le_refl _))
    ⟨_, AL.get_set_same _ _ _, h.active_linked (f := f) hm hth rfl TState.noConfusion hf⟩
    (h.core.grow (FilesGrow.append (ys := []) hf (by exact (List.append_nil _).symm) (by rfl) rfl)
      (set_same hth).symm rfl rfl (fun _ _ hx => hx.elim TState.noConfusion TState.noConfusion)
      (fun _ _ _ _ _ => TState.noConfusion) (fun _ => rfl))

theorem SafeInv.accountRoll {r : Rec} {loc : Loc} (hm : MutexInv s) (h : SafeInv c s)
    (hth : s.threads[t]? = some (.wAppended r loc)) :
    SafeInv c { s with
      files := AL.set (s.active + 1) {} s.files
      active := s.active + 1
      written := 0
      threads := s.threads.set t (.wAccounted r loc) } := by
  have hoff := hm.no_merge hth rfl TState.noConfusion
  have hnone : s.file (s.active + 1) = none := h.fresh_off hoff _ (Nat.lt_succ_self _)
  refine .mk_off hoff (fresh_set (h.fresh_off hoff) (Nat.le_refl _) (Nat.le_succ _))
    ⟨_, AL.get_set_same _ _ _, rfl⟩
    (h.core.grow (FilesGrow.create hnone rfl) rfl rfl rfl ?_
      (fun _ _ _ _ _ => TState.noConfusion) (fun _ => rfl))
  intro r' loc' hx
  rcases hx with hx | hx <;> cases hx
  exact (h.writer t r loc (.inl hth)).grow (FilesGrow.create hnone rfl)

theorem SafeInv.publish {r : Rec} {loc : Loc} {index' : List (Key × Loc)} {amap' : List (Key × Val)}
    (hm : MutexInv s) (h : SafeInv c s) (hth : s.threads[t]? = some (.wAccounted r loc))
    (hg : guardFree c s (c.shardOf r.key) = true)
    (hother : ∀ k, k ≠ r.key →
      AL.get k index' = AL.get k s.index ∧ AL.get k amap' = AL.get k s.amap)
    (hkey : (AL.get r.key index' = some loc ∧ ∃ v, r.val = some v ∧ AL.get r.key amap' = some v) ∨
      (AL.get r.key index' = none ∧ AL.get r.key amap' = none)) (res : Res) (hh : List HEv) :
    SafeInv c { s with
      index := index'
      amap := amap'
      threads := s.threads.set t (.wPublished res)
      hist := hh } := by
  have hoff := hm.no_merge hth rfl TState.noConfusion
  refine .mk_off hoff (h.fresh_off hoff) (h.activeOk hoff) ⟨?_, ?_,
    h.writer.set rfl (fun _ _ x => x) (fun _ _ hx => hx.elim TState.noConfusion TState.noConfusion),
    h.guard.set rfl ?_ fun _ _ _ _ _ => TState.noConfusion, fun hfx => (h.noFail hfx).set rfl rfl⟩
  · intro k loc' hi
    have hi' : AL.get k index' = some loc' := hi
    by_cases hk : k = r.key
    · subst hk
      rcases hkey with ⟨hl, v, hv, ha⟩ | ⟨hl, _⟩
      · rw [hl] at hi'; cases hi'
        exact ⟨r, v, h.writer t r _ (.inr hth), rfl, hv, ha⟩
      · rw [hl] at hi'; cases hi'
    · rw [(hother k hk).1] at hi'
      obtain ⟨r', v', hr, d, e, g⟩ := h.index k loc' hi'
      exact ⟨r', v', hr, d, e, (hother k hk).2.trans g⟩
  · intro k hi
    have hi' : AL.get k index' = none := hi
    by_cases hk : k = r.key
    · subst hk
      rcases hkey with ⟨hl, _⟩ | ⟨_, ha⟩
      · rw [hl] at hi'; cases hi'
      · exact ha
    · rw [(hother k hk).1] at hi'
      exact (hother k hk).2.trans (h.amapDom k hi')
  · -- a thread that holds a read guard reads a key of another shard
    intro t' pc k rd loc' gv _ hx
    exact hother k fun e => guardFree_iff.mp hg _ _ hx (e ▸ rfl)

end CStore
