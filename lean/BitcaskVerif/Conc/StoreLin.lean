/-
  C04 — linearizability of the concurrent store: the simulation of the map specification by the
  ghost history. Linearization points: the index publish for `put` / `delete`, the index lookup
  for `get`, the lock acquisition for `merge` (which does not change the map).
-/
import BitcaskVerif.Conc.StoreSafe
import BitcaskVerif.Conc.LinScan

namespace CStore

open Lin (Scan TSt upd upd_same upd_ne)

abbrev AMap := Nat → Option Nat

/-- the sequential specification of the store: `get` reads, `put` overwrites, `del` removes and
    tells whether the key was present, `merge` does nothing visible -/
def mapSpec : Lin.Spec AMap Op Res where
  init := fun _ => none
  apply m op :=
    match op with
    | .get k => (m, .found (m k))
    | .put k v _ => (fun k' => if k' = k then some v else m k', .unit)
    | .del k _ => (fun k' => if k' = k then none else m k', .deleted (m k).isSome)
    | .merge _ => (m, .unit)

/-- the operation a thread has invoked and not yet linearized -/
def TState.pendingOp : TState → Option Op
  | .gInv k | .gHave k _ => some (.get k)
  | .wInv r | .wWriting r | .wAppended r _ | .wAccounted r _ => some (recOp r)
  | .mInv sel => some (.merge sel)
  | _ => none

/-- the result a thread will return, once its operation is linearized -/
def TState.result : TState → Option Res
  | .gRead _ _ _ _ gv => some (.found gv)
  | .gSliced _ _ v | .gCheckin _ v => some (.found v)
  | .wPublished res | .respond res => some res
  | .merging | .mDone => some .unit
  | _ => none

def Rel (st : TState) (ts : TSt Op Res) : Prop :=
  st.isFailed = true ∨
  match ts with
  | .idle => st = .idle
  | .called op _ => st.pendingOp = some op
  | .lined _ res _ _ => st.result = some res

structure LinInv (s : Sys) (m : AMap) (th : Nat → TSt Op Res) : Prop where
  scan : Scan mapSpec s.hist m th
  amap : ∀ k, m k = AL.get k s.amap
  rel : ∀ (t : Nat) st, s.threads[t]? = some st → Rel st (th t)
  out : ∀ (t : Nat), s.threads[t]? = none → th t = .idle

theorem LinInv.init (cap n : Nat) : LinInv (init cap n) (fun _ => none) (fun _ => .idle) := by
  refine ⟨Scan.nil, fun _ => rfl, ?_, fun _ _ => rfl⟩
  intro t st hx
  rw [init_idle hx]; exact .inr rfl

theorem LinInv.set {s s' : Sys} {m : AMap} {th : Nat → TSt Op Res} {t : Nat} {st st' : TState}
    (h : LinInv s m th) (hth : s.threads[t]? = some st)
    (hthreads : s'.threads = s.threads.set t st') (hhist : s'.hist = s.hist)
    (hamap : s'.amap = s.amap) (hrel : ∀ ts, Rel st ts → Rel st' ts) : LinInv s' m th := by
  refine ⟨by rw [hhist]; exact h.scan, by intro k; rw [hamap]; exact h.amap k, ?_, ?_⟩
  · intro t' x hx
    rw [hthreads] at hx
    rcases get_set_thread hx with ⟨rfl, rfl⟩ | ⟨_, hx'⟩
    · exact hrel _ (h.rel _ _ hth)
    · exact h.rel _ _ hx'
  · intro t' hx
    rw [hthreads] at hx
    exact h.out t' (get_none_of_set hx)

theorem Rel.keep {st st' : TState} (hnf : st.isFailed = false)
    (hp : st'.pendingOp = st.pendingOp) (hr : st'.result = st.result) (hi : st' = .idle ↔ st = .idle) :
    ∀ ts, Rel st ts → Rel st' ts := by
  intro ts h
  rcases h with h | h
  · rw [hnf] at h; cases h
  · right
    cases ts with
    | idle => exact hi.mpr h
    | called op i => simp only at h ⊢; rw [hp]; exact h
    | lined op res i lp => simp only at h ⊢; rw [hr]; exact h

theorem Rel.failed (f : Fail) (lost : Option Reader) (ts : TSt Op Res) : Rel (.failed f lost) ts :=
  .inl rfl

theorem TState.not_failed_of_pending {st : TState} {op : Op} (hp : st.pendingOp = some op) :
    st.isFailed = false := by
  cases st <;> first | rfl | cases hp

theorem TState.result_none_of_pending {st : TState} {op : Op} (hp : st.pendingOp = some op) :
    st.result = none := by
  cases st <;> first | rfl | cases hp

theorem Rel.of_pending {st : TState} {op : Op} {ts : TSt Op Res} (hp : st.pendingOp = some op)
    (h : Rel st ts) : ∃ i, ts = .called op i := by
  rcases h with h | h
  · rw [TState.not_failed_of_pending hp] at h; cases h
  · cases ts with
    | idle => simp only at h; subst h; cases hp
    | called op' i => simp only at h; rw [hp] at h; cases h; exact ⟨i, rfl⟩
    | lined op' res i lp => simp only at h; rw [TState.result_none_of_pending hp] at h; cases h

theorem Rel.of_respond {res : Res} {ts : TSt Op Res} (h : Rel (.respond res) ts) :
    ∃ op i lp, ts = .lined op res i lp := by
  rcases h with h | h
  · cases h
  · cases ts with
    | idle => cases h
    | called op' i => cases h
    | lined op' res' i lp => cases h; exact ⟨op', i, lp, rfl⟩

theorem Rel.of_idle {ts : TSt Op Res} (h : Rel .idle ts) : ts = .idle := by
  rcases h with h | h
  · cases h
  · cases ts with
    | idle => rfl
    | called op' i => cases h
    | lined op' res' i lp => cases h

theorem LinInv.upd {s s' : Sys} {m m' : AMap} {th : Nat → TSt Op Res} {t : Nat} {st st' : TState}
    {x : TSt Op Res} (h : LinInv s m th) (hth : s.threads[t]? = some st)
    (hthreads : s'.threads = s.threads.set t st') (hscan : Scan mapSpec s'.hist m' (upd th t x))
    (hamap : ∀ k, m' k = AL.get k s'.amap) (hrel : Rel st' x) : LinInv s' m' (upd th t x) := by
  refine ⟨hscan, hamap, ?_, ?_⟩
  · intro t' y hy
    rw [hthreads] at hy
    rcases get_set_thread hy with ⟨rfl, rfl⟩ | ⟨hne, hy'⟩
    · rw [upd_same]; exact hrel
    · rw [upd_ne _ _ hne]; exact h.rel _ _ hy'
  · intro t' hy
    rw [hthreads] at hy
    have hy' := get_none_of_set hy
    rw [upd_ne _ _ fun e => by rw [e, hth] at hy'; cases hy']; exact h.out t' hy'

theorem LinInv.invoke {s s' : Sys} {m : AMap} {th : Nat → TSt Op Res} {t : Nat} {st' : TState}
    {op : Op} (h : LinInv s m th) (hth : s.threads[t]? = some .idle)
    (hthreads : s'.threads = s.threads.set t st') (hhist : s'.hist = .inv t op :: s.hist)
    (hamap : s'.amap = s.amap) (hp : st'.pendingOp = some op) : ∃ m' th', LinInv s' m' th' :=
  ⟨m, _, h.upd hth hthreads (hhist ▸ Scan.inv t op h.scan (Rel.of_idle (h.rel _ _ hth)))
    (fun k => hamap ▸ h.amap k) (.inr hp)⟩

theorem LinInv.linearize {s s' : Sys} {m : AMap} {th : Nat → TSt Op Res} {t : Nat}
    {st st' : TState} {op : Op} {res : Res} (h : LinInv s m th) (hth : s.threads[t]? = some st)
    (hp : st.pendingOp = some op)
    (hthreads : s'.threads = s.threads.set t st') (hhist : s'.hist = .lin t res :: s.hist)
    (hres : (mapSpec.apply m op).2 = res)
    (hamap : ∀ k, (mapSpec.apply m op).1 k = AL.get k s'.amap)
    (hr : st'.result = some res) : ∃ m' th', LinInv s' m' th' := by
  obtain ⟨i, hc⟩ := Rel.of_pending hp (h.rel _ _ hth)
  subst hres
  exact ⟨_, _, h.upd hth hthreads (hhist ▸ Scan.lin t op i h.scan hc) hamap (.inr hr)⟩

theorem LinInv.respond {s s' : Sys} {m : AMap} {th : Nat → TSt Op Res} {t : Nat} {res : Res}
    (h : LinInv s m th) (hth : s.threads[t]? = some (.respond res))
    (hthreads : s'.threads = s.threads.set t .idle) (hhist : s'.hist = .resp t res :: s.hist)
    (hamap : s'.amap = s.amap) : ∃ m' th', LinInv s' m' th' := by
  obtain ⟨op, i, lp, hc⟩ := Rel.of_respond (h.rel _ _ hth)
  exact ⟨m, _, h.upd hth hthreads (hhist ▸ Scan.resp t op res i lp h.scan hc)
    (fun k => hamap ▸ h.amap k) (.inr rfl)⟩

end CStore
