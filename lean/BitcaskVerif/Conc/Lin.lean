/-
  Linearizability, kept as simple as possible (core Lean only).

  A (complete) history is a list of operation records: who, which operation, which result, the
  time of the invocation and the time of the response. It is linearizable w.r.t. a sequential
  specification if the operations can be put into one order that (a) is a legal sequential run of
  the specification producing exactly the recorded results and (b) respects real time: an
  operation that responded before another one was invoked comes first.

  Meta-theorems:
  * `of_linearization_points` — if every operation can be given a point in time between its
    invocation and its response such that the operations, taken in the order of these points,
    form a legal sequential run, the history is linearizable;
  * `widen` — making every operation's interval larger (request sent … reply received instead of
    store call … store return) preserves linearizability, and
  * `widen_po` — if moreover the operations of each client are sequential in the widened history,
    the linearization respects each client's own order as well.
-/

namespace Lin

structure Spec (σ Op Res : Type) where
  init : σ
  apply : σ → Op → σ × Res

structure OpRec (Op Res : Type) where
  tid : Nat
  op : Op
  res : Res
  /-- time of the invocation -/
  inv : Nat
  /-- time of the response -/
  resp : Nat

variable {σ Op Res : Type}

def LegalFrom (sp : Spec σ Op Res) : σ → List (OpRec Op Res) → σ → Prop
  | s, [], s' => s = s'
  | s, o :: l, s' => (sp.apply s o.op).2 = o.res ∧ LegalFrom sp (sp.apply s o.op).1 l s'

def Legal (sp : Spec σ Op Res) (l : List (OpRec Op Res)) : Prop := ∃ s', LegalFrom sp sp.init l s'

/-- real-time order: nobody is placed before an operation that had already responded when he was
    invoked -/
def Respects (l : List (OpRec Op Res)) : Prop := l.Pairwise fun a b => ¬ b.resp < a.inv

/-- each client's own order: of two operations of the same client the one placed first is the
    one that was over before the other began -/
def ProgramOrder (l : List (OpRec Op Res)) : Prop :=
  l.Pairwise fun a b => a.tid = b.tid → a.resp < b.inv

def Linearizable (sp : Spec σ Op Res) (h : List (OpRec Op Res)) : Prop :=
  ∃ l, l.Perm h ∧ Legal sp l ∧ Respects l

def LinearizablePO (sp : Spec σ Op Res) (h : List (OpRec Op Res)) : Prop :=
  ∃ l, l.Perm h ∧ Legal sp l ∧ Respects l ∧ ProgramOrder l

theorem legalFrom_append {sp : Spec σ Op Res} {s s' : σ} {l : List (OpRec Op Res)}
    {o : OpRec Op Res} (h : LegalFrom sp s l s') (ho : (sp.apply s' o.op).2 = o.res) :
    LegalFrom sp s (l ++ [o]) (sp.apply s' o.op).1 := by
  induction l generalizing s with
  | nil => cases h; exact ⟨ho, rfl⟩
  | cons x xs ih => exact ⟨h.1, ih h.2⟩

theorem respects_of_points {α : Type} {xs : List α} (o : α → OpRec Op Res) (lp : α → Nat)
    (hbetween : ∀ x ∈ xs, (o x).inv ≤ lp x ∧ lp x ≤ (o x).resp)
    (hsorted : xs.Pairwise fun a b => lp a ≤ lp b) : Respects (xs.map o) := by
  unfold Respects
  rw [List.pairwise_map]
  refine hsorted.imp_of_mem fun ha hb hab hlt => ?_
  have h1 := hbetween _ ha
  have h2 := hbetween _ hb
  omega

/-- **Linearization points.** `lp` assigns to every operation a time between its invocation and
    its response; `l` lists the operations in the order of these times and is a legal sequential
    run. Then the history is linearizable (and `l` is the witness). -/
theorem of_linearization_points {sp : Spec σ Op Res} {h l : List (OpRec Op Res)}
    (lp : OpRec Op Res → Nat) (hperm : l.Perm h)
    (hbetween : ∀ o ∈ h, o.inv ≤ lp o ∧ lp o ≤ o.resp)
    (hsorted : l.Pairwise fun a b => lp a ≤ lp b) (hlegal : Legal sp l) :
    Linearizable sp h :=
  ⟨l, hperm, hlegal,
    List.map_id l ▸ respects_of_points id lp (fun o ho => hbetween o (hperm.subset ho)) hsorted⟩

def Wider (n s : OpRec Op Res) : Prop :=
  n.tid = s.tid ∧ n.op = s.op ∧ n.res = s.res ∧ n.inv ≤ s.inv ∧ s.resp ≤ n.resp

theorem perm_map_inv {α β : Type} (f : α → β) {l m : List β} (h : l.Perm m) :
    ∀ xs : List α, m = xs.map f → ∃ ys : List α, ys.Perm xs ∧ ys.map f = l := by
  induction h with
  | nil => intro xs hx; exact ⟨[], by cases xs <;> simp_all, rfl⟩
  | cons a _ ih =>
    intro xs hx
    cases xs with
    | nil => cases hx
    | cons x xs' =>
      simp only [List.map_cons, List.cons.injEq] at hx
      obtain ⟨ys, hp, hm⟩ := ih xs' hx.2
      exact ⟨x :: ys, hp.cons x, by simp [hm, hx.1]⟩
  | swap a b l =>
    intro xs hx
    cases xs with
    | nil => cases hx
    | cons x xs' =>
      cases xs' with
      | nil => simp at hx
      | cons y xs'' =>
        simp only [List.map_cons, List.cons.injEq] at hx
        exact ⟨y :: x :: xs'', List.Perm.swap x y xs'', by simp [hx.1, hx.2.1, hx.2.2]⟩
  | trans _ _ ih1 ih2 =>
    intro xs hx
    obtain ⟨ys2, hp2, hm2⟩ := ih2 xs hx
    obtain ⟨ys1, hp1, hm1⟩ := ih1 ys2 hm2.symm
    exact ⟨ys1, hp1.trans hp2, hm1⟩

theorem legalFrom_map {α : Type} {sp : Spec σ Op Res} (f g : α → OpRec Op Res) {xs : List α}
    (hfg : ∀ x ∈ xs, (f x).op = (g x).op ∧ (f x).res = (g x).res) {s s' : σ}
    (h : LegalFrom sp s (xs.map g) s') : LegalFrom sp s (xs.map f) s' := by
  induction xs generalizing s with
  | nil => exact h
  | cons x xs ih =>
    obtain ⟨hop, hres⟩ := hfg x List.mem_cons_self
    simp only [List.map_cons, LegalFrom] at h ⊢
    rw [hop, hres]
    exact ⟨h.1, ih (fun y hy => hfg y (List.mem_cons_of_mem _ hy)) h.2⟩

/-- **Widening.** `ps` pairs every network-level operation (first component: request sent …
    reply received) with the store operation it contains (second component). If the store
    history is linearizable, so is the network history. -/
theorem widen {sp : Spec σ Op Res} (ps : List (OpRec Op Res × OpRec Op Res))
    (hw : ∀ p ∈ ps, Wider p.1 p.2) (h : Linearizable sp (ps.map Prod.snd)) :
    Linearizable sp (ps.map Prod.fst) := by
  obtain ⟨l, hperm, ⟨s', hlegal⟩, hresp⟩ := h
  obtain ⟨qs, hq, hm⟩ := perm_map_inv Prod.snd hperm ps rfl
  have hwq : ∀ p ∈ qs, Wider p.1 p.2 := fun p hp => hw p (hq.subset hp)
  refine ⟨qs.map Prod.fst, hq.map _, ⟨s', legalFrom_map _ _ (fun p hp => ⟨(hwq p hp).2.1, (hwq p hp).2.2.1⟩) (hm ▸ hlegal)⟩, ?_⟩
  unfold Respects at *
  rw [← hm] at hresp
  rw [List.pairwise_map] at hresp ⊢
  refine List.Pairwise.imp_of_mem ?_ hresp
  intro a b ha hb hab hlt
  obtain ⟨_, _, _, a1, a2⟩ := hwq a ha
  obtain ⟨_, _, _, b1, b2⟩ := hwq b hb
  omega

def SeqPerClient (h : List (OpRec Op Res)) : Prop :=
  h.Pairwise fun a b => a.tid = b.tid → a.resp < b.inv ∨ b.resp < a.inv

theorem programOrder_of_respects {h l : List (OpRec Op Res)} (hperm : l.Perm h)
    (hseq : SeqPerClient h) (hresp : Respects l) : ProgramOrder l := by
  have hseq' : SeqPerClient l := by
    unfold SeqPerClient at *
    refine (hperm.pairwise_iff ?_).mpr hseq
    intro a b hab e
    rcases hab e.symm with x | x
    · exact .inr x
    · exact .inl x
  unfold ProgramOrder Respects SeqPerClient at *
  refine (hresp.and hseq').imp ?_
  intro a b ⟨h1, h2⟩ e
  rcases h2 e with x | x
  · exact x
  · exact absurd x h1

theorem widen_po {sp : Spec σ Op Res} (ps : List (OpRec Op Res × OpRec Op Res))
    (hw : ∀ p ∈ ps, Wider p.1 p.2) (hseq : SeqPerClient (ps.map Prod.fst))
    (h : Linearizable sp (ps.map Prod.snd)) : LinearizablePO sp (ps.map Prod.fst) := by
  obtain ⟨l, hperm, hlegal, hresp⟩ := widen ps hw h
  exact ⟨l, hperm, hlegal, hresp, programOrder_of_respects hperm hseq hresp⟩

end Lin
