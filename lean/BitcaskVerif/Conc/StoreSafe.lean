/-
  C04 — the invariants hold in every reachable state: mutual exclusion, the safety invariant,
  pool accounting; consequences: no failure state with the repaired remap test.
-/
import BitcaskVerif.Conc.StoreInvD
import BitcaskVerif.Conc.StorePool

namespace CStore

variable {c : Cfg} {s s' : Sys} {t : Tid}

theorem SafeInv.step (hm : MutexInv s) (h : SafeInv c s) (hs : Step c s t s') : SafeInv c s' := by
  cases hs with
  | thr st st' hh hth hl => exact h.thr hh hm hth hl
  | spin => exact h
  | lock r hth hmu =>
    exact h.set_plain hth rfl rfl rfl rfl rfl rfl (fun _ _ => ⟨nofun, nofun⟩) (fun _ _ _ _ _ => nofun) rfl rfl
  | mergeLock sel sel' hth hmu hsel => exact h.mergeLock hm hmu hsel _
  | chunkDone r n f hth hf hn hd => exact h.chunkDone hm hth hf
  | chunkPart r n f hth hf hn hd => exact h.chunkPart hm hth hf
  | accountRoll r loc hth hw => exact h.accountRoll hm hth
  | accountStay r loc hth hw =>
    exact h.set hth rfl rfl rfl rfl rfl rfl
      (by intro r' loc' hx; rcases hx with hx | hx <;> cases hx; exact .inl rfl)
      (fun _ _ _ _ _ => TState.noConfusion) (fun _ _ => nofun) (fun _ => rfl)
  | publishPut r loc v hth hg hv =>
    exact h.publish hm hth hg (fun k hk => ⟨AL.get_set_other hk _ _, AL.get_set_other hk _ _⟩)
      (.inl ⟨AL.get_set_same _ _ _, v, hv, AL.get_set_same _ _ _⟩) _ _
  | publishDel r loc hth hg hv =>
    exact h.publish hm hth hg (fun k hk => ⟨AL.get_del_other hk _, AL.get_del_other hk _⟩)
      (.inr ⟨AL.get_del_same _ _, AL.get_del_same _ _⟩) _ _
  | unlock st res hth hst => exact h.unlock hth
  | checkout k rd rest hth hp => exact h.checkout hth
  | checkin rd v hth => exact h.checkin hth
  | enter hth hin hsh hg =>
    refine ⟨h.fresh, h.activeOk, h.index, h.amapDom, h.writer, h.guard, h.mgSel, h.mgOut, ?_,
      h.visited, fun _ _ => hg, h.noFail⟩
    intro hon k nl hp
    obtain ⟨_, b, d, e⟩ := h.mgPending hon k nl hp
    exact ⟨rfl, b, d, e⟩
  | copyOk k loc f o wc r hth hin hp hsh hi hsel hf ho hr => exact h.copyOk hm hth hin hsh hi hf ho hr
  | copyFail k loc f o wc e hth hin hp hsh hi hsel hf ho hr => exact h.copyFail hth hi hf hr
  | repointRoll k nl hth hp hw => exact h.repointRoll hm hth hp
  | repoint k nl hth hp hw => exact h.repoint hm hth hp
  | leave hth hin hp hc => exact h.leave hm hth hp hc
  | unlink f rest hth hin hsh htd => exact h.unlink hm hth hin hsh htd
  | newActive hth hin hsh htd => exact h.newActive hm hth

theorem SafeInv.init (c : Cfg) (cap n : Nat) : SafeInv c (init cap n) := by
  refine .mk_off rfl (fun _ hf => if_neg (Nat.ne_of_lt hf)) ⟨{}, rfl, rfl⟩
    ⟨(fun _ _ hi => nomatch hi), fun _ _ => rfl, ?_, ?_, ?_⟩
  · intro t r loc hx
    rcases hx with hx | hx <;> cases init_idle hx
  · intro t pc k rd loc gv hx; cases init_idle hx
  · intro _ t st hx; rw [init_idle hx]; rfl

structure Inv (c : Cfg) (s : Sys) : Prop where
  mutex : MutexInv s
  safe : SafeInv c s
  pool : PoolInv c.cap s

theorem Inv.reachable {n : Nat} (h : Reachable c n s) : Inv c s :=
  h.induct ⟨MutexInv.init _ _, SafeInv.init c _ _, PoolInv.init _ _⟩ fun _ hi hs =>
    ⟨hi.mutex.step hs, hi.safe.step hi.mutex hs, hi.pool.step hs⟩

theorem TState.failed_of_lost {st : TState} (h : st.lostReader = true) : st.isFailed = true := by
  cases st <;> first | cases h | rfl

/-- with the repaired remap test nothing is lost: the pool plus the readers in use make up the
    capacity -/
theorem pool_exact {n : Nat} (hfx : c.fixed = true) (h : Reachable c n s) :
    s.pool.length + held s = c.cap := by
  have hi := Inv.reachable h
  have hp := hi.pool
  have hl : lost s = 0 := by
    refine List.countP_eq_zero.mpr fun st hst hlost => ?_
    obtain ⟨i, hlt, rfl⟩ := List.getElem_of_mem hst
    have := hi.safe.noFail hfx i _ (List.getElem?_eq_getElem hlt)
    rw [TState.failed_of_lost hlost] at this; cases this
  unfold PoolInv at hp
  omega

end CStore
