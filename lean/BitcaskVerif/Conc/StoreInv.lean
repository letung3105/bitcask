/-
  C04 — the safety invariant of the concurrent store and the file-level facts it rests on:
  linked files only grow, a complete record never changes, fresh ids are unused.
-/
import BitcaskVerif.Conc.StoreMutex

namespace CStore

/-- `r` is a complete record at `loc` in a file that can be opened by name -/
def RecordAt (s : Sys) (loc : Loc) (r : Rec) : Prop :=
  ∃ f, s.file loc.fid = some f ∧ f.linked = true ∧ recAt f.recs loc.pos = some r ∧ r.size = loc.len

/-- the highest file id in use -/
def top (s : Sys) : Fid := if s.mg.on then s.mg.out else s.active

/-- what an index entry / a pending merge copy promises about key `k` -/
def Points (s : Sys) (k : Key) (loc : Loc) : Prop :=
  ∃ r v, RecordAt s loc r ∧ r.key = k ∧ r.val = some v ∧ AL.get k s.amap = some v

def WriterOK (s : Sys) : Prop :=
  ∀ (t : Tid) r loc, (s.threads[t]? = some (.wAppended r loc) ∨
      s.threads[t]? = some (.wAccounted r loc)) → RecordAt s loc r

/-- what a `get` that holds a read guard knows -/
def GuardFacts (c : Cfg) (s : Sys) (pc : RPc) (k : Key) (rd : Reader) (loc : Loc)
    (gv : Option Val) : Prop :=
  AL.get k s.index = some loc ∧ gv = AL.get k s.amap ∧
    (pc ≠ .looked → ∃ m, AL.get loc.fid rd.cache = some m ∧
      (pc = .remapped → c.fixed = true → loc.pos + loc.len ≤ m))

def GuardOK (c : Cfg) (s : Sys) : Prop :=
  ∀ (t : Tid) pc k rd loc gv, s.threads[t]? = some (.gRead pc k rd loc gv) →
    GuardFacts c s pc k rd loc gv

def NoFail (s : Sys) : Prop := ∀ (t : Tid) st, s.threads[t]? = some st → st.isFailed = false

structure SafeInv (c : Cfg) (s : Sys) : Prop where
  fresh : ∀ f, top s < f → s.file f = none
  activeOk : s.mg.on = false → ∃ f, s.file s.active = some f ∧ f.linked = true
  index : ∀ k loc, AL.get k s.index = some loc → Points s k loc
  amapDom : ∀ k, AL.get k s.index = none → AL.get k s.amap = none
  writer : WriterOK s
  guard : GuardOK c s
  mgSel : s.mg.on = true →
      (∀ f ∈ s.mg.sel, f ≤ s.active) ∧ s.active < s.mg.out ∧ (∀ f ∈ s.mg.todo, f ∈ s.mg.sel)
  mgOut : s.mg.on = true → ∃ o, s.file s.mg.out = some o ∧ o.linked = true
  mgPending : s.mg.on = true → ∀ k nl, s.mg.pending = some (k, nl) →
      s.mg.inShard = true ∧ c.shardOf k = s.mg.shard ∧ nl.fid = s.mg.out ∧ Points s k nl
  visited : s.mg.on = true → ∀ k loc, AL.get k s.index = some loc → loc.fid ∈ s.mg.sel →
      s.mg.shard ≤ c.shardOf k
  wlock : s.mg.on = true → s.mg.inShard = true → guardFree c s s.mg.shard = true
  noFail : c.fixed = true → NoFail s

/-- the part of the safety invariant that mentions neither file ids nor the merge locals -/
structure SafeInv.Core (c : Cfg) (s : Sys) : Prop where
  index : ∀ k loc, AL.get k s.index = some loc → Points s k loc
  amapDom : ∀ k, AL.get k s.index = none → AL.get k s.amap = none
  writer : WriterOK s
  guard : GuardOK c s
  noFail : c.fixed = true → NoFail s

theorem SafeInv.core {c : Cfg} {s : Sys} (h : SafeInv c s) : SafeInv.Core c s :=
  ⟨h.index, h.amapDom, h.writer, h.guard, h.noFail⟩

def FilesGrow (s s' : Sys) : Prop :=
  ∀ fid f, s.file fid = some f → f.linked = true →
    ∃ f' ys, s'.file fid = some f' ∧ f'.linked = true ∧ f'.recs = f.recs ++ ys

theorem RecordAt.grow {s s' : Sys} {loc : Loc} {r : Rec} (hg : FilesGrow s s')
    (h : RecordAt s loc r) : RecordAt s' loc r := by
  obtain ⟨f, hf, hl, hr, hs⟩ := h
  obtain ⟨f', ys, hf', hl', hrecs⟩ := hg _ _ hf hl
  exact ⟨f', hf', hl', by rw [hrecs]; exact recAt_append ys hr, hs⟩

theorem Points.grow {s s' : Sys} {k : Key} {loc : Loc} (hg : FilesGrow s s')
    (ha : s'.amap = s.amap) (h : Points s k loc) : Points s' k loc := by
  obtain ⟨r, v, hr, hk, hv, hm⟩ := h
  exact ⟨r, v, hr.grow hg, hk, hv, by rw [ha]; exact hm⟩

theorem FilesGrow.same {s s' : Sys} (h : s'.files = s.files) : FilesGrow s s' := by
  intro fid f hf hl
  exact ⟨f, [], by unfold Sys.file at *; rw [h]; exact hf, hl, (List.append_nil _).symm⟩

theorem file_set {s s' : Sys} {fid : Fid} {x : File} (h : s'.files = AL.set fid x s.files)
    (fid' : Fid) : s'.file fid' = if fid' = fid then some x else s.file fid' := by
  unfold Sys.file
  rw [h, AL.get_set]

theorem FilesGrow.create {s s' : Sys} {fid : Fid} {x : File} (hnone : s.file fid = none)
    (h : s'.files = AL.set fid x s.files) : FilesGrow s s' := by
  intro fid' f hf hl
  rw [file_set h, if_neg fun e => by rw [e, hnone] at hf; cases hf]
  exact ⟨f, [], hf, hl, (List.append_nil _).symm⟩

theorem FilesGrow.append {s s' : Sys} {fid : Fid} {f0 x : File} {ys : List Rec}
    (hf0 : s.file fid = some f0) (hx : x.recs = f0.recs ++ ys) (hxl : x.linked = f0.linked)
    (h : s'.files = AL.set fid x s.files) : FilesGrow s s' := by
  intro fid' f hf hl
  rw [file_set h]
  split
  next e => rw [e, hf0] at hf; cases hf; exact ⟨x, ys, rfl, hxl ▸ hl, hx⟩
  · exact ⟨f, [], hf, hl, (List.append_nil _).symm⟩

theorem fresh_set {files : List (Fid × File)} {n n' fid : Fid} {x : File}
    (h : ∀ f, n < f → AL.get f files = none) (hfid : fid ≤ n') (hn : n ≤ n') :
    ∀ f, n' < f → AL.get f (AL.set fid x files) = none := by
  intro f hf
  rw [AL.get_set_other (by omega)]
  exact h f (by omega)

theorem get_unlinkFile (files : List (Fid × File)) (f fid : Fid) :
    AL.get fid (unlinkFile files f) =
      if fid = f then (AL.get f files).map fun x => { x with linked := false }
      else AL.get fid files := by
  unfold unlinkFile
  split
  next x hx =>
    rw [AL.get_set, hx]
    rfl
  next hx =>
    split
    next e => rw [e, hx]; rfl
    · rfl

theorem file_unlink_ne {files : List (Fid × File)} {f fid : Fid} (h : fid ≠ f) :
    AL.get fid (unlinkFile files f) = AL.get fid files := by
  rw [get_unlinkFile, if_neg h]

theorem RecordAt.unlink {s s' : Sys} {loc : Loc} {r : Rec} {f : Fid}
    (hfiles : s'.files = unlinkFile s.files f) (hne : loc.fid ≠ f) (h : RecordAt s loc r) :
    RecordAt s' loc r := by
  obtain ⟨x, hx, hl, hr, hs⟩ := h
  refine ⟨x, ?_, hl, hr, hs⟩
  unfold Sys.file at *
  rw [hfiles, file_unlink_ne hne]; exact hx

theorem shardOf_le (c : Cfg) (k : Key) : c.shardOf k ≤ c.nsh :=
  Nat.le_of_lt_succ (Nat.mod_lt _ (Nat.succ_pos _))

theorem top_off {s : Sys} (hoff : s.mg.on = false) : top s = s.active := by unfold top; rw [hoff]; rfl

theorem top_on {s : Sys} (hon : s.mg.on = true) : top s = s.mg.out := by unfold top; rw [hon]; rfl

theorem SafeInv.fresh_off {c : Cfg} {s : Sys} (h : SafeInv c s) (hoff : s.mg.on = false) :
    ∀ f, s.active < f → AL.get f s.files = none :=
  top_off hoff ▸ h.fresh

theorem SafeInv.fresh_on {c : Cfg} {s : Sys} (h : SafeInv c s) (hon : s.mg.on = true) :
    ∀ f, s.mg.out < f → AL.get f s.files = none :=
  top_on hon ▸ h.fresh

theorem SafeInv.mk_off {c : Cfg} {s : Sys} (hoff : s.mg.on = false)
    (fresh : ∀ f, s.active < f → s.file f = none)
    (activeOk : ∃ f, s.file s.active = some f ∧ f.linked = true) (core : SafeInv.Core c s) :
    SafeInv c s :=
  ⟨(top_off hoff).symm ▸ fresh, fun _ => activeOk, core.index, core.amapDom, core.writer, core.guard,
    off_on hoff, off_on hoff, off_on hoff, off_on hoff, off_on hoff, core.noFail⟩

theorem SafeInv.mk_on {c : Cfg} {s : Sys} (hon : s.mg.on = true)
    (fresh : ∀ f, s.mg.out < f → s.file f = none) (core : SafeInv.Core c s)
    (mgSel : (∀ f ∈ s.mg.sel, f ≤ s.active) ∧ s.active < s.mg.out ∧ ∀ f ∈ s.mg.todo, f ∈ s.mg.sel)
    (mgOut : ∃ o, s.file s.mg.out = some o ∧ o.linked = true)
    (mgPending : ∀ k nl, s.mg.pending = some (k, nl) →
      s.mg.inShard = true ∧ c.shardOf k = s.mg.shard ∧ nl.fid = s.mg.out ∧ Points s k nl)
    (visited : ∀ k loc, AL.get k s.index = some loc → loc.fid ∈ s.mg.sel → s.mg.shard ≤ c.shardOf k)
    (wlock : s.mg.inShard = true → guardFree c s s.mg.shard = true) : SafeInv c s :=
  ⟨(top_on hon).symm ▸ fresh, fun hoff => off_on hoff hon, core.index, core.amapDom, core.writer,
    core.guard, fun _ => mgSel, fun _ => mgOut, fun _ => mgPending, fun _ => visited, fun _ => wlock,
    core.noFail⟩

theorem guardFree_iff {c : Cfg} {s : Sys} {sh : Nat} :
    guardFree c s sh = true ↔ ∀ (t : Tid) st, s.threads[t]? = some st → st.guard c ≠ some sh := by
  unfold guardFree
  rw [List.all_eq_true]
  constructor
  · intro h t st hth
    exact of_decide_eq_true (h st (List.mem_of_getElem? hth))
  · intro h st hst
    obtain ⟨i, hi, rfl⟩ := List.getElem_of_mem hst
    exact decide_eq_true (h i _ (List.getElem?_eq_getElem hi))

theorem guardFree_set {c : Cfg} {s s' : Sys} {sh : Nat} {t : Tid} {st' : TState}
    (h : guardFree c s sh = true) (hthreads : s'.threads = s.threads.set t st')
    (hg : st'.guard c ≠ some sh) : guardFree c s' sh = true := by
  rw [guardFree_iff] at h ⊢
  intro t' x hx
  rw [hthreads] at hx
  rcases get_set_thread hx with ⟨_, rfl⟩ | ⟨_, hx'⟩
  · exact hg
  · exact h t' x hx'

theorem WriterOK.set {s s' : Sys} {t : Tid} {st' : TState} (h : WriterOK s)
    (hthreads : s'.threads = s.threads.set t st')
    (hg : ∀ loc r, RecordAt s loc r → RecordAt s' loc r)
    (hnew : ∀ r loc, (st' = .wAppended r loc ∨ st' = .wAccounted r loc) → RecordAt s' loc r) :
    WriterOK s' := by
  intro t' r loc hx
  rw [hthreads] at hx
  rcases hx with hx | hx <;> rcases get_set_thread hx with ⟨_, hst⟩ | ⟨_, hx'⟩
  · exact hnew r loc (.inl hst.symm)
  · exact hg _ _ (h t' r loc (.inl hx'))
  · exact hnew r loc (.inr hst.symm)
  · exact hg _ _ (h t' r loc (.inr hx'))

theorem GuardOK.set {c : Cfg} {s s' : Sys} {t : Tid} {st' : TState} (h : GuardOK c s)
    (hthreads : s'.threads = s.threads.set t st')
    (hold : ∀ (t' : Tid) pc k rd loc gv, t' ≠ t → s.threads[t']? = some (.gRead pc k rd loc gv) →
      AL.get k s'.index = AL.get k s.index ∧ AL.get k s'.amap = AL.get k s.amap)
    (hnew : ∀ pc k rd loc gv, st' = .gRead pc k rd loc gv → GuardFacts c s' pc k rd loc gv) :
    GuardOK c s' := by
  intro t' pc k rd loc gv hx
  rw [hthreads] at hx
  rcases get_set_thread hx with ⟨_, hst⟩ | ⟨hne, hx'⟩
  · exact hnew _ _ _ _ _ hst.symm
  · obtain ⟨h1, h2, h3⟩ := h t' pc k rd loc gv hx'
    obtain ⟨e1, e2⟩ := hold t' pc k rd loc gv hne hx'
    exact ⟨by rw [e1]; exact h1, by rw [e2]; exact h2, h3⟩

theorem NoFail.set {s s' : Sys} {t : Tid} {st' : TState} (h : NoFail s)
    (hthreads : s'.threads = s.threads.set t st') (hnew : st'.isFailed = false) : NoFail s' := by
  intro t' x hx
  rw [hthreads] at hx
  rcases get_set_thread hx with ⟨_, hst⟩ | ⟨_, hx'⟩
  · rw [hst]; exact hnew
  · exact h t' x hx'

/-- for a step that leaves the threads alone, `st'` is `t`'s present state -/
theorem SafeInv.Core.grow {c : Cfg} {s s' : Sys} {t : Tid} {st' : TState} (h : SafeInv.Core c s)
    (hg : FilesGrow s s') (hthreads : s'.threads = s.threads.set t st')
    (hindex : s'.index = s.index) (hamap : s'.amap = s.amap)
    (hw : ∀ r loc, (st' = .wAppended r loc ∨ st' = .wAccounted r loc) → RecordAt s' loc r)
    (hgr : ∀ pc k rd loc gv, st' = .gRead pc k rd loc gv → GuardFacts c s pc k rd loc gv)
    (hnf : c.fixed = true → st'.isFailed = false) : SafeInv.Core c s' := by
  refine ⟨fun k loc hi => ?_, fun k hi => ?_, h.writer.set hthreads (fun _ _ x => x.grow hg) hw,
    h.guard.set hthreads (fun _ _ _ _ _ _ _ _ => by rw [hindex, hamap]; exact ⟨rfl, rfl⟩)
      (fun pc k rd loc gv e => ?_),
    fun hfx => (h.noFail hfx).set hthreads (hnf hfx)⟩
  · rw [hindex] at hi; exact (h.index k loc hi).grow hg hamap
  · rw [hindex] at hi; rw [hamap]; exact h.amapDom k hi
  · unfold GuardFacts; rw [hindex, hamap]; exact hgr pc k rd loc gv e

theorem SafeInv.set {c : Cfg} {s s' : Sys} {t : Tid} {st st' : TState} (h : SafeInv c s)
    (hth : s.threads[t]? = some st) (hthreads : s'.threads = s.threads.set t st')
    (hfiles : s'.files = s.files) (hindex : s'.index = s.index) (hamap : s'.amap = s.amap)
    (hmg : s'.mg = s.mg) (hactive : s'.active = s.active)
    (hw : ∀ r loc, (st' = .wAppended r loc ∨ st' = .wAccounted r loc) →
      (st = .wAppended r loc ∨ st = .wAccounted r loc))
    (hg : ∀ pc k rd loc gv, st' = .gRead pc k rd loc gv → GuardFacts c s pc k rd loc gv)
    (hguard : s.mg.on = true → s.mg.inShard = true → st'.guard c ≠ some s.mg.shard)
    (hnf : c.fixed = true → st'.isFailed = false) : SafeInv c s' := by
  have hgrow := FilesGrow.same hfiles
  have hfile : ∀ fid, s'.file fid = s.file fid := fun fid => congrArg (AL.get fid) hfiles
  have htop : top s' = top s := by unfold top; rw [hmg, hactive]
  have hwr : ∀ r loc, (st' = .wAppended r loc ∨ st' = .wAccounted r loc) → RecordAt s' loc r := by
    intro r loc hx
    refine (h.writer t r loc ?_).grow hgrow
    rcases hw r loc hx with e | e
    · exact .inl (e ▸ hth)
    · exact .inr (e ▸ hth)
  have hcore := h.core.grow hgrow hthreads hindex hamap hwr hg hnf
  refine ⟨?_, ?_, hcore.index, hcore.amapDom, hcore.writer, hcore.guard, ?_, ?_, ?_, ?_, ?_,
    hcore.noFail⟩
  · intro f hf; rw [hfile]; rw [htop] at hf; exact h.fresh f hf
  · intro hon; rw [hmg] at hon; rw [hfile, hactive]; exact h.activeOk hon
  · intro hon; rw [hmg] at hon ⊢; rw [hactive]; exact h.mgSel hon
  · intro hon; rw [hmg] at hon ⊢; rw [hfile]; exact h.mgOut hon
  · intro hon k nl hp; rw [hmg] at hon hp ⊢
    obtain ⟨a, b, d, e⟩ := h.mgPending hon k nl hp
    exact ⟨a, b, d, e.grow hgrow hamap⟩
  · intro hon k loc hi hsel; rw [hmg] at hon hsel ⊢; rw [hindex] at hi
    exact h.visited hon k loc hi hsel
  · intro hon hin; rw [hmg] at hon hin ⊢
    exact guardFree_set (h.wlock hon hin) hthreads (hguard hon hin)

theorem SafeInv.set_plain {c : Cfg} {s s' : Sys} {t : Tid} {st st' : TState} (h : SafeInv c s)
    (hth : s.threads[t]? = some st) (hthreads : s'.threads = s.threads.set t st')
    (hfiles : s'.files = s.files) (hindex : s'.index = s.index) (hamap : s'.amap = s.amap)
    (hmg : s'.mg = s.mg) (hactive : s'.active = s.active)
    (hw : ∀ r loc, st' ≠ .wAppended r loc ∧ st' ≠ .wAccounted r loc)
    (hg : ∀ pc k rd loc gv, st' ≠ .gRead pc k rd loc gv)
    (hguard : st'.guard c = none) (hnf : st'.isFailed = false) : SafeInv c s' :=
  h.set hth hthreads hfiles hindex hamap hmg hactive
    (fun r loc hx => hx.elim (absurd · (hw r loc).1) (absurd · (hw r loc).2))
    (fun pc k rd loc gv e => absurd e (hg pc k rd loc gv)) (fun _ _ => hguard ▸ nofun) (fun _ => hnf)

end CStore
