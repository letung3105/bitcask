/-
  Small facts about records in files, list update and counting, used by the C04 invariants.
-/
import BitcaskVerif.Conc.StoreStepSound

namespace CStore

theorem Rec.size_pos (r : Rec) : 0 < r.size := Nat.succ_pos _

theorem csize_append (xs ys : List Rec) : csize (xs ++ ys) = csize xs + csize ys := by
  induction xs with
  | nil => exact (Nat.zero_add _).symm
  | cons x xs ih => simp only [List.cons_append, csize, ih, Nat.add_assoc]

theorem recAt_bound {rs : List Rec} {pos : Nat} {r : Rec} (h : recAt rs pos = some r) :
    pos + r.size ≤ csize rs := by
  induction rs generalizing pos with
  | nil => cases h
  | cons x xs ih =>
    simp only [recAt] at h
    split at h
    · cases h; simp only [csize]; omega
    · split at h
      · cases h
      · have := ih h; simp only [csize]; omega

theorem recAt_append {rs : List Rec} {pos : Nat} {r : Rec} (ys : List Rec)
    (h : recAt rs pos = some r) : recAt (rs ++ ys) pos = some r := by
  induction rs generalizing pos with
  | nil => cases h
  | cons x xs ih =>
    simp only [recAt, List.cons_append] at h ⊢
    split at h
    next h0 => rw [if_pos h0]; exact h
    next h0 =>
      rw [if_neg h0]
      split at h
      · cases h
      next h1 => rw [if_neg h1]; exact ih h

theorem recAt_end (rs : List Rec) (r : Rec) : recAt (rs ++ [r]) (csize rs) = some r := by
  induction rs with
  | nil => exact if_pos rfl
  | cons x xs ih =>
    have hx := x.size_pos
    simp only [List.cons_append, recAt, csize]
    rw [if_neg (by omega), if_neg (by omega), Nat.add_sub_cancel_left]
    exact ih

theorem init_idle {cap n : Nat} {t : Nat} {st : TState} (h : (init cap n).threads[t]? = some st) :
    st = .idle :=
  List.eq_of_mem_replicate (List.mem_of_getElem? h)

variable {α : Type} {l : List α} {t t' : Nat} {x a : α}

theorem get_set_thread (h : (l.set t a)[t']? = some x) :
    (t' = t ∧ x = a) ∨ (t' ≠ t ∧ l[t']? = some x) := by
  rw [List.getElem?_set] at h
  split at h
  next heq =>
    split at h
    · cases h; exact .inl ⟨heq.symm, rfl⟩
    · cases h
  next hne => exact .inr ⟨fun h' => hne h'.symm, h⟩

theorem get_set_self (h : l[t]? = some x) : (l.set t a)[t]? = some a :=
  List.getElem?_set_self (List.getElem?_eq_some_iff.mp h).1

theorem set_same (h : l[t]? = some x) : l.set t x = l := by
  obtain ⟨hlt, rfl⟩ := List.getElem?_eq_some_iff.mp h
  exact List.set_getElem_self hlt

theorem get_set_ne (a : α) (h : t' ≠ t) : (l.set t a)[t']? = l[t']? :=
  List.getElem?_set_ne (Ne.symm h)

theorem get_none_of_set (h : (l.set t a)[t']? = none) : l[t']? = none := by
  rw [List.getElem?_eq_none_iff] at h ⊢
  rwa [List.length_set] at h

theorem countP_set (p : α → Bool) (a : α) (h : l[t]? = some x) :
    (l.set t a).countP p + (if p x then 1 else 0) = l.countP p + (if p a then 1 else 0) := by
  induction l generalizing t with
  | nil => cases h
  | cons y ys ih =>
    cases t with
    | zero =>
      cases h
      simp only [List.set_cons_zero, List.countP_cons]
      omega
    | succ n =>
      have := ih (t := n) h
      simp only [List.set_cons_succ, List.countP_cons]
      omega

end CStore
