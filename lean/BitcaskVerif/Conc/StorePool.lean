/-
  C04 — reader-pool accounting: every reader object is in the pool, checked out by exactly one
  `get` that is between `checkout` and `checkin`, or was lost by a `get` that failed.
-/
import BitcaskVerif.Conc.StoreBasics

namespace CStore

def held (s : Sys) : Nat := s.threads.countP TState.holdsReader
def lost (s : Sys) : Nat := s.threads.countP TState.lostReader

def PoolInv (cap : Nat) (s : Sys) : Prop := s.pool.length + held s + lost s = cap

def b2n (b : Bool) : Nat := if b then 1 else 0

theorem Local.readers {c : Cfg} {s : Sys} {st st' : TState} (hl : Local c s st st') :
    b2n st'.holdsReader + b2n st'.lostReader = b2n st.holdsReader + b2n st.lostReader := by
  cases hl <;> rfl

theorem PoolInv.set {cap : Nat} {s s' : Sys} {t : Tid} {st st' : TState} (h : PoolInv cap s)
    (hth : s.threads[t]? = some st) (hthreads : s'.threads = s.threads.set t st')
    (hn : s'.pool.length + (b2n st'.holdsReader + b2n st'.lostReader)
          = s.pool.length + (b2n st.holdsReader + b2n st.lostReader)) :
    PoolInv cap s' := by
  unfold PoolInv held lost at *
  rw [hthreads]
  have h1 := countP_set TState.holdsReader st' hth
  have h2 := countP_set TState.lostReader st' hth
  unfold b2n at hn
  omega

theorem PoolInv.init (cap n : Nat) : PoolInv cap (init cap n) := by
  unfold PoolInv held lost CStore.init
  simp only [List.length_map, List.length_range]
  have h0 : ∀ p : TState → Bool, p .idle = false → (List.replicate n TState.idle).countP p = 0 := by
    intro p hp; rw [List.countP_eq_zero]; intro a ha; rw [List.eq_of_mem_replicate ha, hp]; nofun
  rw [h0 _ rfl, h0 _ rfl]; rfl

theorem PoolInv.step {c : Cfg} {cap : Nat} {s s' : Sys} {t : Tid} (h : PoolInv cap s)
    (hs : Step c s t s') : PoolInv cap s' := by
  cases hs with
  | thr st st' hh hth hl => exact h.set hth rfl (congrArg (s.pool.length + ·) hl.readers)
  | checkout k rd rest hth hp => exact h.set hth rfl (by rw [hp]; rfl)
  | checkin rd v hth => exact h.set hth rfl (by rw [List.length_append]; rfl)
  | unlock st res hth hst => rcases hst with rfl | ⟨rfl, _⟩ <;> exact h.set hth rfl rfl
  | lock _ hth | mergeLock _ _ hth | chunkDone _ _ _ hth | accountRoll _ _ hth | accountStay _ _ hth
  | publishPut _ _ _ hth | publishDel _ _ hth | copyFail _ _ _ _ _ _ hth | newActive hth =>
    exact h.set hth rfl rfl
  | spin | chunkPart | enter | copyOk | repointRoll | repoint | leave | unlink => exact h

end CStore
