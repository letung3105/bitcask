/-
  C04 / C11 — the concurrent store as a labelled transition system (core Lean only, executable).

  What is modelled (`src/storage/bitcask.rs`, `src/storage/bitcask/log.rs`):
  * one `Mutex<Writer>` serialising `put` / `delete` / `merge`;
  * a writer's record reaches the active file in chunks (`chunk c`), the index entry is published
    only after the last chunk and after the accounting / roll-over step;
  * the KeyDir is a sharded map: a `get` holds the read guard of its key's shard from `lookup`
    until `release`; `publish` (insert / remove) and the merge's `mEnter` need the shard free
    of read guards, `lookup` needs the shard free of the merge iterator's write lock (both lock
    states are *derived* from the thread states, so they cannot get out of step with them);
  * reader objects live in a bounded pool (`checkout` pops, `checkin` pushes back; a reader object
    carries its own cache fid ↦ mapped length; a failing `get` loses the object);
  * a reader maps a file at the file's current byte length — possibly in the middle of a record
    that is being written — keeps the mapping in its cache and refreshes it only when the remap
    test fires (`Cfg.fixed = true`: `pos + len > mapped`, the code of the day;
    `Cfg.fixed = false`: the pinned `pos ≥ mapped`);
  * merge: takes the mutex, fixes the set of files to merge (any subset of the ids up to the
    active one; larger ids name no file and are dropped), creates the output file, visits the shards in ascending order holding one shard's write
    lock at a time, copies a selected entry (through the writer's own mapping cache, same remap
    test), re-points it, rolls the output over when it exceeds `maxFile`, and only after the last
    shard unlinks the selected files one at a time, then opens a new active file;
  * an unlinked file stays readable through existing mappings but cannot be opened by name.

  Simplifications: keys / values / ids are naturals; a file is its list of complete records plus
  the byte count of the record in progress; a record has `extra + 1` bytes; merge copies whole
  records; LRU eviction is over-approximated (any set of cached mappings may vanish at `ensure`).
  Ghost parts (never read by the transition function's guards): `amap`, `hist`, the `gv` field.
-/
import BitcaskVerif.Base.AL
import BitcaskVerif.Conc.LinTrace

namespace CStore

/- keys, values, file ids and thread ids are naturals (notations, so that `omega` sees `Nat`) -/
scoped notation "Key" => Nat
scoped notation "Val" => Nat
scoped notation "Fid" => Nat
scoped notation "Tid" => Nat

structure Cfg where
  /-- capacity of the reader pool -/
  cap : Nat
  maxFile : Nat
  /-- number of shards minus one -/
  nsh : Nat
  shardFn : Key → Nat
  /-- `true`: remap when `pos + len > mapped`; `false`: the pinned test `pos ≥ mapped` -/
  fixed : Bool

def Cfg.shardOf (c : Cfg) (k : Key) : Nat := c.shardFn k % (c.nsh + 1)

def remapTest (fixed : Bool) (pos len mapped : Nat) : Bool :=
  if fixed then decide (pos + len > mapped) else decide (pos ≥ mapped)

structure Rec where
  key : Key
  /-- `none` = tombstone -/
  val : Option Val
  extra : Nat
deriving DecidableEq, Repr

def Rec.size (r : Rec) : Nat := r.extra + 1

structure Loc where
  fid : Fid
  pos : Nat
  len : Nat
deriving DecidableEq, Repr

structure File where
  recs : List Rec := []
  /-- bytes of the record in progress -/
  part : Nat := 0
  linked : Bool := true
deriving DecidableEq, Repr

def csize : List Rec → Nat
  | [] => 0
  | r :: rs => r.size + csize rs

def File.size (f : File) : Nat := csize f.recs + f.part

/-- the complete record that starts at byte `pos` -/
def recAt : List Rec → Nat → Option Rec
  | [], _ => none
  | r :: rs, pos => if pos = 0 then some r else if pos < r.size then none else recAt rs (pos - r.size)

structure Reader where
  id : Nat
  cache : List (Fid × Nat) := []
deriving DecidableEq, Repr

inductive Op where
  | get (k : Key)
  | put (k : Key) (v : Val) (extra : Nat)
  | del (k : Key) (extra : Nat)
  | merge (sel : List Fid)
deriving DecidableEq, Repr

inductive Res where
  | unit
  | found (v : Option Val)
  | deleted (b : Bool)
deriving DecidableEq, Repr

inductive Fail where
  | sliceOutOfMapping | openUnlinked | garbage | noFile
deriving DecidableEq, Repr

/-- where a reading `get` is: after `lookup`, after `ensure`, after the remap test -/
inductive RPc where
  | looked | ensured | remapped
deriving DecidableEq, Repr

inductive TState where
  | idle
  | wInv (r : Rec)
  | wWriting (r : Rec)
  | wAppended (r : Rec) (loc : Loc)
  | wAccounted (r : Rec) (loc : Loc)
  | wPublished (res : Res)
  | respond (res : Res)
  | gInv (k : Key)
  | gHave (k : Key) (rd : Reader)
  | gRead (pc : RPc) (k : Key) (rd : Reader) (loc : Loc) (gv : Option Val)
  | gSliced (k : Key) (rd : Reader) (v : Option Val)
  | gCheckin (rd : Reader) (v : Option Val)
  | mInv (sel : List Fid)
  | merging
  | mDone
  | failed (f : Fail) (lost : Option Reader)
deriving DecidableEq, Repr

/-- the locals of the (at most one) running merge -/
structure MergeSt where
  on : Bool := false
  sel : List Fid := []
  out : Fid := 0
  /-- shards `< shard` are done; `shard` is the current one while `inShard` -/
  shard : Nat := 0
  inShard : Bool := false
  /-- an entry that was copied but not yet re-pointed -/
  pending : Option (Key × Loc) := none
  todo : List Fid := []
deriving DecidableEq, Repr

/-- ghost history events: invocation, linearization point, response (`Conc/LinTrace.lean`) -/
abbrev HEv := Lin.Ev Op Res

structure Sys where
  files : List (Fid × File) := [(0, {})]
  index : List (Key × Loc) := []
  mutex : Option Tid := none
  pool : List Reader := []
  /-- the writer's own mapping cache (used by merge) -/
  wcache : List (Fid × Nat) := []
  active : Fid := 0
  written : Nat := 0
  mg : MergeSt := {}
  threads : List TState := []
  /-- ghost: the abstract map -/
  amap : List (Key × Val) := []
  /-- ghost: invocations, linearization points, responses; newest first -/
  hist : List HEv := []
deriving Repr

inductive Act where
  | invGet (k : Key) | invPut (k : Key) (v : Val) (extra : Nat) | invDel (k : Key) (extra : Nat)
  | invMerge (sel : List Fid)
  | lock | chunk (c : Nat) | account | publish | unlock | resp
  | checkout | spin | lookup | ensure (evict : List Fid) | remap | slice | release | checkin
  | mEnter | mCopy (k : Key) | mRepoint | mLeave | mUnlink | mNewActive
deriving DecidableEq, Repr

abbrev Event := Tid × Act

def init (cap nthreads : Nat) : Sys :=
  { pool := (List.range cap).map fun i => { id := i }, threads := List.replicate nthreads .idle }

/-! ### derived lock states -/

def TState.guard (c : Cfg) : TState → Option Nat
  | .gRead _ k _ _ _ => some (c.shardOf k)
  | .gSliced k _ _ => some (c.shardOf k)
  | _ => none

/-- no `get` holds a read guard of shard `sh` -/
def guardFree (c : Cfg) (s : Sys) (sh : Nat) : Bool :=
  s.threads.all fun st => decide (st.guard c ≠ some sh)

/-- the merge iterator does not hold the write lock of shard `sh` -/
def wlockFree (s : Sys) (sh : Nat) : Bool :=
  !(s.mg.on && s.mg.inShard && s.mg.shard == sh)

def TState.inCrit : TState → Bool
  | .wWriting _ | .wAppended _ _ | .wAccounted _ _ | .wPublished _ | .merging | .mDone => true
  | _ => false

def TState.holdsReader : TState → Bool
  | .gHave _ _ | .gRead _ _ _ _ _ | .gSliced _ _ _ | .gCheckin _ _ => true
  | _ => false

def TState.lostReader : TState → Bool
  | .failed _ (some _) => true
  | _ => false

def TState.isFailed : TState → Bool
  | .failed _ _ => true
  | _ => false

/-! ### primitives -/

def Sys.setT (s : Sys) (t : Tid) (st : TState) : Sys := { s with threads := s.threads.set t st }

def Sys.file (s : Sys) (fid : Fid) : Option File := AL.get fid s.files

def cacheDrop (cache : List (Fid × Nat)) (evict : List Fid) : List (Fid × Nat) :=
  evict.foldl (fun c f => AL.del f c) cache

def recOp (r : Rec) : Op :=
  match r.val with
  | some v => .put r.key v r.extra
  | none => .del r.key r.extra

/-- what `slice` yields for key `k` at `loc` through a mapping of length `mapped` -/
def sliceAt (f : File) (k : Key) (loc : Loc) (mapped : Nat) : Except Fail Rec :=
  if loc.pos + loc.len ≤ mapped then
    match recAt f.recs loc.pos with
    | some r => if r.size = loc.len ∧ r.key = k then .ok r else .error .garbage
    | none => .error .garbage
  else .error .sliceOutOfMapping

/-- `LogDir::read/copy` on a mapping cache in one go: open + map if not cached, remap test, slice -/
def readThrough (c : Cfg) (f : File) (cache : List (Fid × Nat)) (k : Key) (loc : Loc) :
    List (Fid × Nat) × Except Fail Rec :=
  match AL.get loc.fid cache with
  | none =>
    if f.linked then (AL.set loc.fid f.size cache, sliceAt f k loc f.size)
    else (cache, .error .openUnlinked)
  | some m =>
    let m' := if remapTest c.fixed loc.pos loc.len m then f.size else m
    (AL.set loc.fid m' cache, sliceAt f k loc m')

/-! ### the transition function, one function per action -/

def stInv (s : Sys) (t : Tid) (st : TState) (op : Op) : Sys :=
  { s with threads := s.threads.set t st, hist := .inv t op :: s.hist }

def stLock (s : Sys) (t : Tid) (st : TState) : Option Sys :=
  if s.mutex = none then some { s with mutex := some t, threads := s.threads.set t st } else none

/-- `merge`: take the mutex, fix the set of files to merge (ids that do not name a file of the
    store — anything above the active id — are ignored) and create the first output file -/
def stMergeLock (s : Sys) (t : Tid) (sel : List Fid) : Option Sys :=
  if s.mutex = none then
    let sel' := sel.filter fun f => decide (f ≤ s.active)
    some { s with
      mutex := some t
      files := AL.set (s.active + 1) {} s.files
      mg := { on := true, sel := sel', out := s.active + 1, shard := 0, inShard := false,
              pending := none, todo := sel' }
      threads := s.threads.set t .merging
      hist := .lin t .unit :: s.hist }
  else none

def stChunk (s : Sys) (t : Tid) (r : Rec) (c : Nat) : Option Sys :=
  match s.file s.active with
  | none => some (s.setT t (.failed .noFile none))
  | some f =>
    if 0 < c ∧ f.part + c ≤ r.size then
      if f.part + c = r.size then
        some { s with
          files := AL.set s.active { f with recs := f.recs ++ [r], part := 0 } s.files
          threads := s.threads.set t (.wAppended r ⟨s.active, csize f.recs, r.size⟩) }
      else
        some { s with files := AL.set s.active { f with part := f.part + c } s.files }
    else none

def stAccount (c : Cfg) (s : Sys) (t : Tid) (r : Rec) (loc : Loc) : Sys :=
  if s.written + loc.len > c.maxFile then
    { s with
      files := AL.set (s.active + 1) {} s.files
      active := s.active + 1
      written := 0
      threads := s.threads.set t (.wAccounted r loc) }
  else
    { s with written := s.written + loc.len, threads := s.threads.set t (.wAccounted r loc) }

def stPublish (c : Cfg) (s : Sys) (t : Tid) (r : Rec) (loc : Loc) : Option Sys :=
  if guardFree c s (c.shardOf r.key) = true then
    match r.val with
    | some v =>
      some { s with
        index := AL.set r.key loc s.index
        amap := AL.set r.key v s.amap
        threads := s.threads.set t (.wPublished .unit)
        hist := .lin t .unit :: s.hist }
    | none =>
      let res := Res.deleted (AL.get r.key s.index).isSome
      some { s with
        index := AL.del r.key s.index
        amap := AL.del r.key s.amap
        threads := s.threads.set t (.wPublished res)
        hist := .lin t res :: s.hist }
  else none

def stUnlock (s : Sys) (t : Tid) (res : Res) : Sys :=
  { s with mutex := none, threads := s.threads.set t (.respond res) }

def stResp (s : Sys) (t : Tid) (res : Res) : Sys :=
  { s with threads := s.threads.set t .idle, hist := .resp t res :: s.hist }

def stCheckout (s : Sys) (t : Tid) (k : Key) : Option Sys :=
  match s.pool with
  | [] => none
  | rd :: rest => some { s with pool := rest, threads := s.threads.set t (.gHave k rd) }

def stSpin (s : Sys) : Option Sys :=
  match s.pool with
  | [] => some s
  | _ :: _ => none

def stLookup (c : Cfg) (s : Sys) (t : Tid) (k : Key) (rd : Reader) : Option Sys :=
  if wlockFree s (c.shardOf k) = true then
    match AL.get k s.index with
    | none =>
      some { s with threads := s.threads.set t (.gCheckin rd none), hist := .lin t (.found none) :: s.hist }
    | some loc =>
      some { s with
        threads := s.threads.set t (.gRead .looked k rd loc (AL.get k s.amap))
        hist := .lin t (.found (AL.get k s.amap)) :: s.hist }
  else none

def stEnsure (s : Sys) (t : Tid) (k : Key) (rd : Reader) (loc : Loc) (gv : Option Val)
    (evict : List Fid) : Sys :=
  let cache := cacheDrop rd.cache evict
  match AL.get loc.fid cache with
  | some _ => s.setT t (.gRead .ensured k { rd with cache := cache } loc gv)
  | none =>
    match s.file loc.fid with
    | none => s.setT t (.failed .noFile (some rd))
    | some f =>
      if f.linked then
        s.setT t (.gRead .ensured k { rd with cache := AL.set loc.fid f.size cache } loc gv)
      else s.setT t (.failed .openUnlinked (some rd))

def stRemap (c : Cfg) (s : Sys) (t : Tid) (k : Key) (rd : Reader) (loc : Loc) (gv : Option Val) : Sys :=
  match AL.get loc.fid rd.cache, s.file loc.fid with
  | some m, some f =>
    if remapTest c.fixed loc.pos loc.len m then
      s.setT t (.gRead .remapped k { rd with cache := AL.set loc.fid f.size rd.cache } loc gv)
    else s.setT t (.gRead .remapped k rd loc gv)
  | _, _ => s.setT t (.failed .noFile (some rd))

def stSlice (s : Sys) (t : Tid) (k : Key) (rd : Reader) (loc : Loc) : Sys :=
  match AL.get loc.fid rd.cache, s.file loc.fid with
  | some m, some f =>
    match sliceAt f k loc m with
    | .ok r => s.setT t (.gSliced k rd r.val)
    | .error e => s.setT t (.failed e (some rd))
  | _, _ => s.setT t (.failed .noFile (some rd))

def stCheckin (s : Sys) (t : Tid) (rd : Reader) (v : Option Val) : Sys :=
  { s with pool := s.pool ++ [rd], threads := s.threads.set t (.respond (.found v)) }

def stEnter (c : Cfg) (s : Sys) : Option Sys :=
  if s.mg.inShard = false ∧ s.mg.shard ≤ c.nsh ∧ guardFree c s s.mg.shard = true then
    some { s with mg := { s.mg with inShard := true } }
  else none

def stCopy (c : Cfg) (s : Sys) (t : Tid) (k : Key) : Option Sys :=
  if s.mg.inShard = true ∧ s.mg.pending = none ∧ c.shardOf k = s.mg.shard then
    match AL.get k s.index with
    | none => none
    | some loc =>
      if loc.fid ∈ s.mg.sel then
        match s.file loc.fid, s.file s.mg.out with
        | some f, some o =>
          match readThrough c f s.wcache k loc with
          | (wc, .ok r) =>
            some { s with
              wcache := wc
              files := AL.set s.mg.out { o with recs := o.recs ++ [r] } s.files
              mg := { s.mg with pending := some (k, ⟨s.mg.out, csize o.recs, r.size⟩) } }
          | (wc, .error e) => some { s with wcache := wc, threads := s.threads.set t (.failed e none) }
        | _, _ => some (s.setT t (.failed .noFile none))
      else none
  else none

def stRepoint (c : Cfg) (s : Sys) : Option Sys :=
  match s.mg.pending with
  | none => none
  | some (k, nl) =>
    if nl.pos + nl.len > c.maxFile then
      some { s with
        index := AL.set k nl s.index
        files := AL.set (s.mg.out + 1) {} s.files
        mg := { s.mg with pending := none, out := s.mg.out + 1 } }
    else
      some { s with index := AL.set k nl s.index, mg := { s.mg with pending := none } }

/-- no entry of the current shard still lies in a selected file -/
def shardClean (c : Cfg) (s : Sys) : Bool :=
  s.index.all fun (k, _) =>
    match AL.get k s.index with
    | some loc => decide (c.shardOf k ≠ s.mg.shard ∨ loc.fid ∉ s.mg.sel)
    | none => true

def stLeave (c : Cfg) (s : Sys) : Option Sys :=
  if s.mg.inShard = true ∧ s.mg.pending = none ∧ shardClean c s = true then
    some { s with mg := { s.mg with inShard := false, shard := s.mg.shard + 1 } }
  else none

def unlinkFile (files : List (Fid × File)) (fid : Fid) : List (Fid × File) :=
  match AL.get fid files with
  | some f => AL.set fid { f with linked := false } files
  | none => files

def stUnlink (c : Cfg) (s : Sys) : Option Sys :=
  if s.mg.inShard = false ∧ c.nsh < s.mg.shard then
    match s.mg.todo with
    | [] => none
    | f :: rest => some { s with files := unlinkFile s.files f, mg := { s.mg with todo := rest } }
  else none

def stNewActive (c : Cfg) (s : Sys) (t : Tid) : Option Sys :=
  if s.mg.inShard = false ∧ c.nsh < s.mg.shard ∧ s.mg.todo = [] then
    some { s with
      files := AL.set (s.mg.out + 1) {} s.files
      active := s.mg.out + 1
      written := 0
      mg := { s.mg with on := false }
      threads := s.threads.set t .mDone }
  else none

/-- one transition; `none` = the event is not enabled in `s` -/
def step (c : Cfg) (s : Sys) (e : Event) : Option Sys :=
  match s.threads[e.1]? with
  | none => none
  | some st =>
    match st, e.2 with
    | .idle, .invGet k => some (stInv s e.1 (.gInv k) (.get k))
    | .idle, .invPut k v x => some (stInv s e.1 (.wInv ⟨k, some v, x⟩) (.put k v x))
    | .idle, .invDel k x => some (stInv s e.1 (.wInv ⟨k, none, x⟩) (.del k x))
    | .idle, .invMerge sel => some (stInv s e.1 (.mInv sel) (.merge sel))
    | .wInv r, .lock => stLock s e.1 (.wWriting r)
    | .wWriting r, .chunk n => stChunk s e.1 r n
    | .wAppended r loc, .account => some (stAccount c s e.1 r loc)
    | .wAccounted r loc, .publish => stPublish c s e.1 r loc
    | .wPublished res, .unlock => some (stUnlock s e.1 res)
    | .respond res, .resp => some (stResp s e.1 res)
    | .gInv k, .checkout => stCheckout s e.1 k
    | .gInv _, .spin => stSpin s
    | .gHave k rd, .lookup => stLookup c s e.1 k rd
    | .gRead .looked k rd loc gv, .ensure ev => some (stEnsure s e.1 k rd loc gv ev)
    | .gRead .ensured k rd loc gv, .remap => some (stRemap c s e.1 k rd loc gv)
    | .gRead .remapped k rd loc _, .slice => some (stSlice s e.1 k rd loc)
    | .gSliced _ rd v, .release => some (s.setT e.1 (.gCheckin rd v))
    | .gCheckin rd v, .checkin => some (stCheckin s e.1 rd v)
    | .mInv sel, .lock => stMergeLock s e.1 sel
    | .merging, .mEnter => stEnter c s
    | .merging, .mCopy k => stCopy c s e.1 k
    | .merging, .mRepoint => stRepoint c s
    | .merging, .mLeave => stLeave c s
    | .merging, .mUnlink => stUnlink c s
    | .merging, .mNewActive => stNewActive c s e.1
    | .mDone, .unlock => some (stUnlock s e.1 .unit)
    | _, _ => none

def run (c : Cfg) : Sys → List Event → Option Sys
  | s, [] => some s
  | s, e :: es =>
    match step c s e with
    | some s' => run c s' es
    | none => none

/-- reachable from the initial state with `cap` pooled readers and `n` client threads -/
def Reachable (c : Cfg) (n : Nat) (s : Sys) : Prop := ∃ es, run c (init c.cap n) es = some s

end CStore
