/-
  C15 — the connection limit (`src/net/server.rs`): the listener takes a permit from a semaphore
  *before* it accepts, hands the connection to a handler task, and the handler's `Drop` returns the
  permit however the handler ends (client close, protocol error, panic unwinding the task, server
  shutdown). Labelled transition system; core Lean only (the driver executes it).
-/

namespace ConnLimit

inductive Cause where
  | clientClose | protocolError | panic | shutdown
deriving DecidableEq, Repr

structure St where
  max : Nat
  permits : Nat
  /-- the listener holds a permit and is waiting in `accept` -/
  holding : Bool := false
  /-- connected at TCP level, not yet accepted (kernel backlog, FIFO) -/
  pending : List Nat := []
  /-- connections with a running handler -/
  handlers : List Nat := []
deriving Repr, DecidableEq

def init (max : Nat) : St := { max := max, permits := max }

inductive Ev where
  | connect (c : Nat)            -- a client connects
  | acquire                      -- listener: `limit_connections.acquire().await.forget()`
  | accept                       -- listener: `accept()` returns the oldest pending connection
  /-- the accept(2) call fails (`EMFILE`, `ECONNABORTED`, ...): `Listener::accept` sleeps for its back-off and
      tries again, still holding the one permit it took before; `gone` = the failure took the oldest pending
      connection with it (`ECONNABORTED`: the peer had already left) -/
  | acceptFail (gone : Bool)
  | finish (c : Nat) (w : Cause) -- handler of `c` ends: `Drop` adds one permit
deriving Repr

/-- one transition; `none` = the event is not enabled -/
def step (s : St) : Ev → Option St
  | .connect c => some { s with pending := s.pending ++ [c] }
  | .acquire => if !s.holding && s.permits > 0 then some { s with permits := s.permits - 1, holding := true } else none
  | .accept =>
    if s.holding then
      match s.pending with
      | [] => none
      | c :: rest => some { s with holding := false, pending := rest, handlers := s.handlers ++ [c] }
    else none
  | .acceptFail gone =>
    if s.holding then some (if gone then { s with pending := s.pending.tail } else s) else none
  | .finish c _ =>
    if c ∈ s.handlers then some { s with handlers := s.handlers.erase c, permits := s.permits + 1 } else none

def run : St → List Ev → Option St
  | s, [] => some s
  | s, e :: es => match step s e with
    | some s' => run s' es
    | none => none

/-- let the listener run until it blocks (in `acquire` for lack of permits, or in `accept` for
    lack of connections) -/
def settle : Nat → St → St
  | 0, s => s
  | fuel+1, s =>
    match step s .acquire with
    | some s' => settle fuel s'
    | none =>
      match step s .accept with
      | some s' => settle fuel s'
      | none => s

inductive Step (s : St) : Ev → St → Prop where
  | connect (c : Nat) : Step s (.connect c) { s with pending := s.pending ++ [c] }
  | acquire : s.holding = false → 0 < s.permits →
      Step s .acquire { s with permits := s.permits - 1, holding := true }
  | accept (c : Nat) (rest : List Nat) : s.holding = true → s.pending = c :: rest →
      Step s .accept { s with holding := false, pending := rest, handlers := s.handlers ++ [c] }
  | failKeep : s.holding = true → Step s (.acceptFail false) s
  | failGone : s.holding = true → Step s (.acceptFail true) { s with pending := s.pending.tail }
  | finish (c : Nat) (w : Cause) : c ∈ s.handlers →
      Step s (.finish c w) { s with handlers := s.handlers.erase c, permits := s.permits + 1 }

theorem step_eq_some {s s' : St} {e : Ev} (h : step s e = some s') : Step s e s' := by
  cases e with
  | connect c => cases h; exact .connect c
  | acquire =>
    obtain ⟨hc, h⟩ := Option.ite_none_right_eq_some.mp h
    rw [Bool.and_eq_true, Bool.not_eq_true', decide_eq_true_eq] at hc
    cases h; exact .acquire hc.1 hc.2
  | accept =>
    obtain ⟨hh, h⟩ := Option.ite_none_right_eq_some.mp h
    cases hp : s.pending with
    | nil => rw [hp] at h; cases h
    | cons c rest => rw [hp] at h; cases h; exact .accept c rest hh hp
  | acceptFail gone =>
    obtain ⟨hh, h⟩ := Option.ite_none_right_eq_some.mp h
    cases h; cases gone
    · exact .failKeep hh
    · exact .failGone hh
  | finish c w =>
    obtain ⟨hm, h⟩ := Option.ite_none_right_eq_some.mp h
    cases h; exact .finish c w hm

theorem step_acquire_isSome {s : St} (hh : s.holding = false) (hp : 0 < s.permits) :
    (step s .acquire).isSome := by
  simp [step, hh, hp]

theorem step_accept_isSome {s : St} (hh : s.holding = true) (hp : s.pending ≠ []) :
    (step s .accept).isSome := by
  cases hpd : s.pending with
  | nil => exact absurd hpd hp
  | cons c rest => simp [step, hh, hpd]

theorem run_cons_eq_some {s s' : St} {e : Ev} {es : List Ev} (h : run s (e :: es) = some s') :
    ∃ s1, step s e = some s1 ∧ run s1 es = some s' := by
  rw [run] at h
  split at h
  · exact ⟨_, ‹_›, h⟩
  · cases h

/-- the accounting invariant: every one of the `max` permits is either free, held by the listener,
    or held by exactly one running handler -/
def Inv (max : Nat) (s : St) : Prop :=
  s.max = max ∧ s.permits + s.handlers.length + (if s.holding then 1 else 0) = max

theorem step_inv {max : Nat} {s s' : St} {e : Ev} (h : Inv max s) (hs : step s e = some s') :
    Inv max s' := by
  obtain ⟨hmax, h⟩ := h
  refine ⟨?_, ?_⟩
  · cases step_eq_some hs <;> exact hmax
  cases step_eq_some hs with
  | connect c => exact h
  | acquire hh hp =>
    rw [hh] at h
    show s.permits - 1 + s.handlers.length + 1 = max
    rw [Nat.add_right_comm, Nat.sub_add_cancel hp]; exact h
  | accept c rest hh _ =>
    rw [hh] at h
    show s.permits + (s.handlers ++ [c]).length + 0 = max
    rw [List.length_append]; exact h
  | failKeep => exact h
  | failGone => exact h
  | finish c w hm =>
    show s.permits + 1 + (s.handlers.erase c).length + _ = max
    rw [List.length_erase_of_mem hm, Nat.add_assoc s.permits, Nat.add_sub_cancel' (List.length_pos_of_mem hm)]
    exact h

theorem run_inv {max : Nat} (es : List Ev) {s s' : St} (h : Inv max s) (hr : run s es = some s') :
    Inv max s' := by
  induction es generalizing s with
  | nil => cases hr; exact h
  | cons e es ih =>
    obtain ⟨_, hs, hr⟩ := run_cons_eq_some hr
    exact ih (step_inv h hs) hr

theorem run_acceptFail_false {s s' : St} {n : Nat}
    (h : run s (List.replicate n (.acceptFail false)) = some s') : s' = s ∧ (0 < n → s.holding = true) := by
  induction n with
  | zero => cases h; exact ⟨rfl, fun h => absurd h (Nat.lt_irrefl 0)⟩
  | succ n ih =>
    obtain ⟨s1, hs, hr⟩ := run_cons_eq_some h
    cases step_eq_some hs with
    | failKeep hh => exact ⟨(ih hr).1, fun _ => hh⟩

end ConnLimit
