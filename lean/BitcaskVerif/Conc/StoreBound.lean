/-
  C04 — every operation completes: a bound on the number of own steps. `budget c s st` bounds the
  number of steps thread `t` (in state `st`) still has to take; every own step other than a spin
  of the pool loop strictly decreases it (`Step.decreases`), and in any state except a merge that
  still waits for the mutex no step of another thread changes it (`other_step_keeps`). Together with `progress` (somebody can always move) this gives completion
  of every operation under a fair scheduler.
-/
import BitcaskVerif.Conc.StoreProgress

namespace CStore

variable {c : Cfg} {s s' : Sys} {t : Tid}

def selKey (sel : List Nat) (index : List (Nat × Loc)) (k : Nat) : Bool :=
  match AL.get k index with
  | some loc => decide (loc.fid ∈ sel)
  | none => false

def selCount (sel : List Nat) (index : List (Nat × Loc)) : Nat :=
  (AL.keys index).countP (selKey sel index)

theorem countP_lt_of {α : Type} {p q : α → Bool} {l : List α}
    (himp : ∀ x ∈ l, q x = true → p x = true) (hex : ∃ x ∈ l, p x = true ∧ q x = false) :
    l.countP q < l.countP p := by
  induction l with
  | nil => obtain ⟨x, hx, _⟩ := hex; cases hx
  | cons a as ih =>
    have hle : as.countP q ≤ as.countP p :=
      List.countP_mono_left fun x hx => himp x (List.mem_cons_of_mem _ hx)
    simp only [List.countP_cons]
    obtain ⟨x, hx, hp, hq⟩ := hex
    rcases List.mem_cons.mp hx with rfl | hx'
    · simp [hp, hq]; omega
    · have := ih (fun y hy => himp y (List.mem_cons_of_mem _ hy)) ⟨x, hx', hp, hq⟩
      have ha := himp a List.mem_cons_self
      cases hqa : q a with
      | false => simp; omega
      | true => simp [ha hqa]; omega

theorem selCount_repoint {sel : List Nat} {index : List (Nat × Loc)} {k : Nat} {loc nl : Loc}
    (hi : AL.get k index = some loc) (hsel : loc.fid ∈ sel) (hnl : nl.fid ∉ sel) :
    selCount sel (AL.set k nl index) < selCount sel index := by
  unfold selCount
  rw [AL.keys_set_of_mem (AL.mem_keys_of_get hi)]
  apply countP_lt_of
  · intro k' _ hq
    unfold selKey at hq ⊢
    rw [AL.get_set] at hq
    by_cases e : k' = k
    · simp [e, hnl] at hq
    · simpa [e] using hq
  · refine ⟨k, AL.mem_keys_of_get hi, ?_, ?_⟩
    · simp [selKey, hi, hsel]
    · simp [selKey, AL.get_set_same, hnl]

structure MergeAux (c : Cfg) (s : Sys) : Prop where
  pendingSel : s.mg.on = true → ∀ k nl, s.mg.pending = some (k, nl) →
    ∃ loc, AL.get k s.index = some loc ∧ loc.fid ∈ s.mg.sel
  shardBound : s.mg.on = true → s.mg.inShard = true → s.mg.shard ≤ c.nsh

theorem MergeAux.init (cap n : Nat) : MergeAux c (init cap n) :=
  ⟨fun h => (by cases h), fun h => (by cases h)⟩

theorem MergeAux.step (hm : MutexInv s) (h : MergeAux c s) (hs : Step c s t s') : MergeAux c s' := by
  cases hs with
  | mergeLock => exact ⟨fun _ _ _ hp => (by cases hp), fun _ hin => (by cases hin)⟩
  | publishPut _ _ _ hth | publishDel _ _ hth =>
    exact ⟨off_on (hm.no_merge hth rfl TState.noConfusion), h.2⟩
  | enter hth hin hsh hg => exact ⟨h.1, fun _ _ => hsh⟩
  | copyOk k loc f o wc r hth hin hp hsh hi hsel hf ho hr =>
    refine ⟨?_, h.2⟩
    intro _ k' nl hp'
    have hp'' : some (k, (⟨s.mg.out, csize o.recs, r.size⟩ : Loc)) = some (k', nl) := hp'
    cases hp''
    exact ⟨loc, hi, hsel⟩
  | repointRoll | repoint => exact ⟨fun _ _ _ hp' => (by cases hp'), h.2⟩
  | leave hth hin hp hc =>
    refine ⟨?_, fun _ hin' => (by cases hin')⟩
    intro _ k nl hp'
    have : s.mg.pending = some (k, nl) := hp'
    rw [hp] at this; cases this
  | newActive => exact ⟨fun hon => (by cases hon), fun hon => (by cases hon)⟩
  | _ => exact ⟨h.1, h.2⟩

def mergeBudget (c : Cfg) (index : List (Nat × Loc)) (mg : MergeSt) : Nat :=
  2 * selCount mg.sel index + (if mg.pending.isSome then 0 else 1) + 2 * (c.nsh + 1 - mg.shard) +
    (if mg.inShard then 0 else 1) + mg.todo.length + 4

def activePart (s : Sys) : Nat :=
  match s.file s.active with
  | some f => f.part
  | none => 0

/-- the merge locals right after `lock` -/
def mgStart (s : Sys) (sel : List Nat) : MergeSt :=
  let sel' := sel.filter fun f => decide (f ≤ s.active)
  { on := true, sel := sel', out := s.active + 1, shard := 0, inShard := false, pending := none,
    todo := sel' }

def budget (c : Cfg) (s : Sys) : TState → Nat
  | .idle => 0
  | .respond _ => 1
  | .wPublished _ => 2
  | .wAccounted _ _ => 3
  | .wAppended _ _ => 4
  | .wWriting r => 5 + (r.size - activePart s)
  | .wInv r => 6 + r.size
  | .gCheckin _ _ => 2
  | .gSliced _ _ _ => 3
  | .gRead .remapped _ _ _ _ => 4
  | .gRead .ensured _ _ _ _ => 5
  | .gRead .looked _ _ _ _ => 6
  | .gHave _ _ => 7
  | .gInv _ => 8
  | .mDone => 2
  | .merging => mergeBudget c s.index s.mg
  | .mInv sel => 1 + mergeBudget c s.index (mgStart s sel)
  | .failed _ _ => 0

theorem mergeBudget_ge (c : Cfg) (index : List (Nat × Loc)) (mg : MergeSt) : 4 ≤ mergeBudget c index mg :=
  Nat.le_add_left _ _

/-- a thread-local step goes one rung down the ladder of `budget`, or fails (budget 0) -/
theorem Local.decreases {st st' : TState} (hl : Local c s st st') (s₂ : Sys) (hne : st ≠ .idle) :
    budget c s₂ st' < budget c s st := by
  cases hl with
  | invGet | invW | invMerge => exact absurd rfl hne
  | resp | lookupHit | ensureCached | ensureOpen | remapFire | remapKeep | sliceOk | release =>
    exact Nat.lt_succ_self _
  | lookupMiss => exact (by omega : 2 < 7)
  | ensureNoFile | ensureUnlinked | remapNoFile | sliceErr | sliceNoFile => exact Nat.succ_pos _
  | chunkNoFile r => exact Nat.lt_of_lt_of_le (Nat.succ_pos 4) (Nat.le_add_right 5 _)
  | copyNoFile => exact Nat.lt_of_lt_of_le (Nat.succ_pos 3) (mergeBudget_ge c s.index s.mg)

theorem Step.decreases (hm : MutexInv s) (hsafe : SafeInv c s) (haux : MergeAux c s)
    (hs : Step c s t s') :
    s' = s ∨ ∃ st st', s.threads[t]? = some st ∧ s'.threads[t]? = some st' ∧
      (st ≠ .idle → budget c s' st' < budget c s st) := by
  have hmb := mergeBudget_ge c s.index s.mg
  -- re-pointing a selected entry into the output file, which is not selected
  have hrepoint : ∀ {k nl}, s.threads[t]? = some .merging → s.mg.pending = some (k, nl) →
      selCount s.mg.sel (AL.set k nl s.index) < selCount s.mg.sel s.index := by
    intro k nl hth hp
    have hon := hm.mergeOff t hth
    obtain ⟨loc, hi, hsel⟩ := haux.pendingSel hon k nl hp
    obtain ⟨_, _, hfid, _⟩ := hsafe.mgPending hon k nl hp
    obtain ⟨hle, hlt, _⟩ := hsafe.mgSel hon
    exact selCount_repoint hi hsel fun hx => by have := hle _ hx; omega
  cases hs with
  | spin => exact .inl rfl
  | thr st st' hh hth hl he => exact .inr ⟨st, st', hth, get_set_self hth, hl.decreases _⟩
  | lock r hth hmu =>
    exact .inr ⟨_, _, hth, get_set_self hth, fun _ => show 5 + (r.size - _) < 6 + r.size by omega⟩
  | mergeLock sel sel' hth hmu hsel hfilter =>
    subst hfilter
    exact .inr ⟨_, _, hth, get_set_self hth, fun _ => Nat.lt_add_of_pos_left Nat.one_pos⟩
  | chunkPart r n f hth hf hn hd =>
    refine .inr ⟨_, _, hth, hth, fun _ => ?_⟩
    have hf' : AL.get s.active s.files = some f := hf
    simp only [budget, activePart, Sys.file, AL.get_set_same, hf']
    omega
  | unlock st res hth hst =>
    refine .inr ⟨_, _, hth, get_set_self hth, fun _ => ?_⟩
    rcases hst with rfl | ⟨rfl, _⟩ <;> exact Nat.lt_succ_self _
  | accountRoll _ _ hth | accountStay _ _ hth | publishPut _ _ _ hth | publishDel _ _ hth
  | checkout _ _ _ hth | checkin _ _ hth =>
    exact .inr ⟨_, _, hth, get_set_self hth, fun _ => Nat.lt_succ_self _⟩
  | chunkDone _ _ _ hth =>
    exact .inr ⟨_, _, hth, get_set_self hth, fun _ =>
      Nat.lt_of_lt_of_le (Nat.lt_succ_self 4) (Nat.le_add_right 5 _)⟩
  | copyFail _ _ _ _ _ _ hth =>
    exact .inr ⟨_, _, hth, get_set_self hth, fun _ => Nat.lt_of_lt_of_le (Nat.succ_pos 3) hmb⟩
  | newActive hth =>
    exact .inr ⟨_, _, hth, get_set_self hth, fun _ => Nat.lt_of_lt_of_le (show 2 < 4 by omega) hmb⟩
  | enter hth hx | copyOk _ _ _ _ _ _ hth _ hx | unlink _ _ hth _ _ hx =>
    exact .inr ⟨_, _, hth, hth, fun _ => by
      simp only [budget, mergeBudget, hx, ↓reduceIte, Bool.false_eq_true, Option.isSome_some,
        Option.isSome_none, List.length_cons, Nat.add_lt_add_iff_right, Nat.add_lt_add_iff_left,
        Nat.lt_add_one]⟩
  | repointRoll k nl hth hp | repoint k nl hth hp =>
    have := hrepoint hth hp
    exact .inr ⟨_, _, hth, hth, fun _ => by
      simp only [budget, mergeBudget, hp, ↓reduceIte, Bool.false_eq_true, Option.isSome_some,
        Option.isSome_none, Nat.add_lt_add_iff_right]
      omega⟩
  | leave hth hin =>
    have := haux.shardBound (hm.mergeOff t hth) hin
    exact .inr ⟨_, _, hth, hth, fun _ => by
      simp only [budget, mergeBudget, hin, ↓reduceIte, Bool.false_eq_true, Nat.add_lt_add_iff_right]
      omega⟩

theorem other_step_frame (hm : MutexInv s) {t' : Nat} (hs : Step c s t' s') (hne : t ≠ t')
    {st : TState} (hth : s.threads[t]? = some st) (hc : st.inCrit = true) :
    s'.files = s.files ∧ s'.active = s.active ∧ s'.index = s.index ∧ s'.mg = s.mg := by
  have contra : ∀ {x : TState}, s.threads[t']? = some x → x.inCrit = true → False :=
    fun hx hcx => hne (hm.unique hth hx hc hcx)
  cases hs with
  | mergeLock sel sel' hth0 hmu' hsel hfilter => rw [hm.crit t st hth hc] at hmu'; cases hmu'
  | chunkDone _ _ _ hth0 | chunkPart _ _ _ hth0 | accountRoll _ _ hth0 | publishPut _ _ _ hth0
  | publishDel _ _ hth0 | enter hth0 | copyOk _ _ _ _ _ _ hth0 | repointRoll _ _ hth0
  | repoint _ _ hth0 | leave hth0 | unlink _ _ hth0 | newActive hth0 => exact (contra hth0 rfl).elim
  | _ => exact ⟨rfl, rfl, rfl, rfl⟩

theorem other_step_keeps (hm : MutexInv s) {t' : Nat} (hs : Step c s t' s') (hne : t ≠ t')
    {st : TState} (hth : s.threads[t]? = some st) (hst : ∀ sel, st ≠ .mInv sel) :
    budget c s' st = budget c s st := by
  cases st with
  | wWriting r =>
    obtain ⟨h1, h2, _, _⟩ := other_step_frame hm hs hne hth rfl
    simp only [budget, activePart, Sys.file, h1, h2]
  | merging =>
    obtain ⟨_, _, h3, h4⟩ := other_step_frame hm hs hne hth rfl
    simp only [budget, h3, h4]
  | mInv sel => exact absurd rfl (hst sel)
  | gRead pc k rd loc gv => cases pc <;> rfl
  | _ => rfl

theorem other_thread_unchanged {t' : Nat} (hs : Step c s t' s') (hne : t ≠ t') {st : TState}
    (hth : s.threads[t]? = some st) : s'.threads[t]? = some st := by
  cases hs with
  | spin | chunkPart | enter | copyOk | repointRoll | repoint | leave | unlink => exact hth
  | _ => exact (get_set_ne _ hne).trans hth

theorem MergeAux.reachable {n : Nat} (h : Reachable c n s) : MergeAux c s :=
  h.induct (MergeAux.init _ _) fun hr hi hs => hi.step (Inv.reachable hr).mutex hs

end CStore
