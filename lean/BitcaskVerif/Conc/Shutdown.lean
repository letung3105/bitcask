/-
  C16 — graceful shutdown (`src/net/server.rs` `Server::run` / `Handler::run`, `src/shutdown.rs`).

  A handler loops: `while !shutdown.is_shutdown() { select!{ read_frame, shutdown.recv() => return };
  parse the command; run it on the blocking pool; write the reply }`. The shutdown branch exists
  only at the `select!`, i.e. between replies; the store call and `write_frame` are not
  interruptible. `Server::run` returns when every handler has dropped its completion sender.
  Labelled transition system for one handler; core Lean only.
-/

namespace Shutdown

inductive Phase where
  | top                    -- evaluating `while !shutdown.is_shutdown()`
  | selecting              -- in `select!` (possibly with part of a frame buffered)
  | executing              -- store operation running on a blocking thread
  | writing (rem : Nat)    -- `write_frame`: `rem` bytes of the reply still to send
  | done                   -- handler returned (its completion sender is dropped)
deriving DecidableEq, Repr

structure St where
  signalled : Bool := false     -- the server dropped the broadcast sender
  seen : Bool := false          -- this handler's `Shutdown::shutdown` flag
  phase : Phase := .top
  /-- complete request frames still available to this handler (buffered or deliverable) -/
  frames : Nat := 0
  applied : Nat := 0            -- store operations that have returned
  replied : Nat := 0            -- replies completely sent
  partialSent : Nat := 0        -- bytes sent of the reply in progress
deriving DecidableEq, Repr

/-- the handler's own possible next states; `len` = length of the reply about to be written,
    `chunk` = size of the next successful socket write -/
def own (s : St) (len chunk : Nat) : List St :=
  match s.phase with
  | .top => if s.seen then [{ s with phase := .done }] else [{ s with phase := .selecting }]
  | .selecting =>
    (if s.frames > 0 then [{ s with phase := .executing, frames := s.frames - 1 }] else []) ++
    (if s.signalled then [{ s with phase := .done, seen := true }] else [])
  | .executing => [{ s with phase := .writing (len + 1), applied := s.applied + 1 }]
  | .writing rem =>
    let c := min (chunk + 1) rem
    if rem - c = 0 then [{ s with phase := .top, replied := s.replied + 1, partialSent := 0 }]
    else [{ s with phase := .writing (rem - c), partialSent := s.partialSent + c }]
  | .done => []

/-- A socket write of `chunk + 1` bytes ends the reply iff no more than that were left. -/
inductive Own (s : St) (len chunk : Nat) : St → Prop where
  | leave : s.phase = .top → s.seen = true → Own s len chunk { s with phase := .done }
  | select : s.phase = .top → s.seen = false → Own s len chunk { s with phase := .selecting }
  | take : s.phase = .selecting → 0 < s.frames →
      Own s len chunk { s with phase := .executing, frames := s.frames - 1 }
  | notice : s.phase = .selecting → s.signalled = true → Own s len chunk { s with phase := .done, seen := true }
  | apply : s.phase = .executing →
      Own s len chunk { s with phase := .writing (len + 1), applied := s.applied + 1 }
  | sendLast (rem : Nat) : s.phase = .writing rem → rem ≤ chunk + 1 →
      Own s len chunk { s with phase := .top, replied := s.replied + 1, partialSent := 0 }
  | send (rem : Nat) : s.phase = .writing rem → chunk + 1 < rem →
      Own s len chunk { s with phase := .writing (rem - (chunk + 1)), partialSent := s.partialSent + (chunk + 1) }

theorem mem_own {s s' : St} {len chunk : Nat} (h : s' ∈ own s len chunk) : Own s len chunk s' := by
  unfold own at h
  split at h
  · split at h <;> cases List.mem_singleton.mp h
    · exact .leave ‹_› ‹_›
    · exact .select ‹_› (Bool.eq_false_iff.mpr ‹_›)
  · rcases List.mem_append.mp h with h | h <;> split at h
    · cases List.mem_singleton.mp h; exact .take ‹_› ‹_›
    · cases h
    · cases List.mem_singleton.mp h; exact .notice ‹_› ‹_›
    · cases h
  · cases List.mem_singleton.mp h; exact .apply ‹_›
  · rename_i rem hp
    by_cases hr : rem ≤ chunk + 1
    · rw [if_pos (Nat.sub_eq_zero_of_le (Nat.le_min.mpr ⟨hr, Nat.le_refl rem⟩))] at h
      cases List.mem_singleton.mp h; exact .sendLast rem hp hr
    · have hr := Nat.lt_of_not_le hr
      rw [Nat.min_eq_left (Nat.le_of_lt hr), if_neg (Nat.sub_ne_zero_of_lt hr)] at h
      cases List.mem_singleton.mp h; exact .send rem hp hr
  · cases h

/-- safety invariant: bytes of an unfinished reply are on the wire only while that reply is
    being written; every reply sent belongs to an operation that has returned -/
def Inv (s : St) : Prop :=
  match s.phase with
  | .writing _ => s.replied + 1 ≤ s.applied
  | _ => s.partialSent = 0 ∧ s.replied ≤ s.applied

theorem own_inv {s s' : St} {len chunk : Nat} (hi : Inv s) (h : s' ∈ own s len chunk) : Inv s' := by
  unfold Inv at hi ⊢
  cases mem_own h with
  | leave hp _ => rw [hp] at hi; exact hi
  | select hp _ => rw [hp] at hi; exact hi
  | take hp _ => rw [hp] at hi; exact hi
  | notice hp _ => rw [hp] at hi; exact hi
  | apply hp => rw [hp] at hi; exact Nat.succ_le_succ hi.2
  | sendLast rem hp _ => rw [hp] at hi; exact ⟨rfl, hi⟩
  | send rem hp _ => rw [hp] at hi; exact hi

/-- distance to `done` after the signal, in own steps, when replies are at most `maxReply` long -/
def dist (maxReply : Nat) (s : St) : Nat :=
  s.frames * (maxReply + 7) +
  (match s.phase with
   | .done => 0
   | .selecting => 1
   | .top => if s.seen then 1 else 2
   | .writing rem => rem + 3
   | .executing => maxReply + 5)

theorem own_dist {s s' : St} {len chunk maxReply : Nat} (hsig : s.signalled = true) (hlen : len ≤ maxReply)
    (h : s' ∈ own s len chunk) : s'.signalled = true ∧ dist maxReply s' < dist maxReply s := by
  cases mem_own h with
  | leave hp hs => exact ⟨hsig, by simp only [dist, hp, hs, if_true]; exact Nat.lt_succ_self _⟩
  | select hp hs =>
    exact ⟨hsig, by simp only [dist, hp, hs, Bool.false_eq_true, if_false]; exact Nat.lt_succ_self _⟩
  | take hp hf =>
    -- the frame taken pays for the whole cycle of its command
    have : s.frames * (maxReply + 7) = (s.frames - 1) * (maxReply + 7) + (maxReply + 7) := by
      rw [← Nat.succ_mul, Nat.succ_eq_add_one, Nat.sub_add_cancel hf]
    exact ⟨hsig, by simp only [dist, hp]; omega⟩
  | notice hp _ => exact ⟨hsig, by simp only [dist, hp]; exact Nat.lt_succ_self _⟩
  | apply hp => exact ⟨hsig, by simp only [dist, hp]; exact Nat.add_lt_add_left (by omega) _⟩
  | sendLast rem hp _ =>
    exact ⟨hsig, by simp only [dist, hp]; exact Nat.add_lt_add_left (by split <;> omega) _⟩
  | send rem hp hr =>
    exact ⟨hsig, by
      simp only [dist, hp]
      exact Nat.add_lt_add_left
        (Nat.add_lt_add_right (Nat.sub_lt (Nat.zero_lt_of_lt hr) (Nat.succ_pos chunk)) 3) _⟩

end Shutdown
