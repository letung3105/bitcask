/-
  C17 — closing the store (`Drop for Bitcask`, `Handle::{put,delete,get,merge,sync}`,
  `merge_on_interval` / `sync_on_interval` in `src/storage/bitcask.rs`, `src/shutdown.rs`).

  Dropping the store sets the `closed` flag and drops the only broadcast sender, which makes
  `shutdown.recv()` of both background tasks complete at once. Every handle operation (including
  the merge / sync a background task is about to run) tests `closed` before touching anything.
  Labelled transition system; core Lean only.
-/

namespace Close

inductive Worker where
  | top          -- evaluating `while !shutdown.is_shutdown()`
  | selecting (timerReady : Bool)   -- inside `select!{ sleep, shutdown.recv() }`
  | fired        -- the timer branch ran: about to check the trigger / about to sync
  | acting       -- about to call `handle.merge()` / `handle.sync()` on the blocking pool
  | exited
deriving DecidableEq, Repr

structure St where
  closed : Bool := false
  /-- the task's `Shutdown::shutdown` flag (set only by a completed `recv()`) -/
  seen : Bool := false
  worker : Worker := .top
  /-- number of file-system calls issued so far (by anybody) -/
  calls : Nat := 0
deriving DecidableEq, Repr

inductive Res where | ok | errClosed
deriving DecidableEq, Repr

/-- a client operation through a handle: `if closed { return Err(Closed) }`, otherwise it may
    issue `n` file-system calls -/
def op (s : St) (n : Nat) : St × Res :=
  if s.closed then (s, .errClosed) else ({ s with calls := s.calls + n }, .ok)

/-- dropping the owning `Bitcask` -/
def drop (s : St) : St := { s with closed := true }

/-- time passes: a pending timer becomes ready (environment step, not a worker step) -/
def tick (s : St) : St :=
  match s.worker with
  | .selecting _ => { s with worker := .selecting true }
  | _ => s

/-- the worker's own possible next states (`want`: whether the trigger asks for a merge;
    `n`: calls the merge / sync would issue if the store is open) -/
def own (s : St) (want : Bool) (n : Nat) : List St :=
  match s.worker with
  | .top => if s.seen then [{ s with worker := .exited }] else [{ s with worker := .selecting false }]
  | .selecting ready =>
    (if ready then [{ s with worker := .fired }] else []) ++
    (if s.closed then [{ s with worker := .exited, seen := true }] else [])
  | .fired => if want then [{ s with worker := .acting }] else [{ s with worker := .top }]
  | .acting => [{ (op s n).1 with worker := .top }]
  | .exited => []

inductive Steps : St → Nat → St → Prop where
  | refl (s : St) : Steps s 0 s
  | step {s s1 s2 : St} {k : Nat} (want : Bool) (n : Nat) : s1 ∈ own s want n → Steps s1 k s2 → Steps s (k+1) s2

/-- how far the worker of a closed store is from having exited, in its own steps -/
def dist (s : St) : Nat :=
  match s.worker with
  | .exited => 0
  | .top => if s.seen then 1 else 2
  | .selecting false => 1
  | .selecting true => 5
  | .fired => 4
  | .acting => 3

theorem op_closed {s : St} (hc : s.closed = true) (n : Nat) : op s n = (s, .errClosed) := if_pos hc

theorem dist_le (s : St) : dist s ≤ 5 := by
  unfold dist
  cases s.worker with
  | top => cases s.seen <;> decide
  | selecting ready => cases ready <;> exact Nat.le_of_ble_eq_true rfl
  | _ => exact Nat.le_of_ble_eq_true rfl

theorem dist_zero {s : St} (h : dist s = 0) : s.worker = .exited := by
  revert h
  unfold dist
  cases s.worker with
  | exited => exact fun _ => rfl
  | top => cases s.seen <;> nofun
  | selecting ready => cases ready <;> nofun
  | _ => nofun

theorem own_closed {s s' : St} {want : Bool} {n : Nat} (hc : s.closed = true) (h : s' ∈ own s want n) :
    s'.closed = true ∧ s'.calls = s.calls ∧ dist s' < dist s := by
  unfold own at h
  split at h
  next hw =>
    split at h <;> cases List.mem_singleton.mp h
    next hs => exact ⟨hc, rfl, by simp only [dist, hw, hs, if_true]; decide⟩
    next hs => exact ⟨hc, rfl, by simp only [dist, hw, hs]; decide⟩
  next ready hw =>
    rw [if_pos hc] at h
    rcases List.mem_append.mp h with h | h
    · split at h
      next hr => cases List.mem_singleton.mp h; cases hr; exact ⟨hc, rfl, by simp only [dist, hw]; decide⟩
      · cases h
    · cases List.mem_singleton.mp h
      exact ⟨hc, rfl, by cases ready <;> simp only [dist, hw] <;> decide⟩
  next hw =>
    split at h <;> cases List.mem_singleton.mp h
    · exact ⟨hc, rfl, by simp only [dist, hw]; decide⟩
    · exact ⟨hc, rfl, by simp only [dist, hw]; split <;> decide⟩
  next hw =>
    -- the merge or sync the worker was about to run is refused
    rw [op_closed hc] at h
    cases List.mem_singleton.mp h
    exact ⟨hc, rfl, by simp only [dist, hw]; split <;> decide⟩
  · cases h

theorem steps_closed {s s' : St} {k : Nat} (h : Steps s k s') (hc : s.closed = true) :
    s'.closed = true ∧ s'.calls = s.calls ∧ dist s' + k ≤ dist s := by
  induction h with
  | refl s => exact ⟨hc, rfl, Nat.le_refl _⟩
  | step want n hm _ ih =>
    obtain ⟨a, b, c⟩ := own_closed hc hm
    obtain ⟨d, e, f⟩ := ih a
    exact ⟨d, e.trans b, Nat.le_trans (Nat.succ_le_succ f) c⟩

end Close
