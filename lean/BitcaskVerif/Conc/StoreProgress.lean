/-
  C04 — no deadlock: whenever some operation is pending, some pending operation can take a real
  step (not a spin of the pool loop, not a new invocation). The wait-for graph of the lock
  structure: a `get` that holds a reader or a read guard never waits; a writer at `publish` and
  the merge at `mEnter` wait for read guards only; everybody else waits for the mutex, the
  merge iterator's shard lock (held only inside the mutex) or a pooled reader.
-/
import BitcaskVerif.Conc.StorePart

namespace CStore

variable {c : Cfg} {s : Sys} {t : Tid}

def Act.isInvoke : Act → Bool
  | .invGet _ | .invPut _ _ _ | .invDel _ _ | .invMerge _ => true
  | _ => false

def Enabled (c : Cfg) (s : Sys) : Prop :=
  ∃ (t : Nat) (a : Act), a ≠ .spin ∧ a.isInvoke = false ∧ (step c s (t, a)).isSome = true

/-- states whose next step needs nothing from anybody else -/
def TState.free : TState → Bool
  | .wWriting _ | .wAppended _ _ | .wPublished _ | .respond _ | .gRead _ _ _ _ _ | .gSliced _ _ _
  | .gCheckin _ _ | .mDone => true
  | _ => false

theorem enabled_chunk {r : Rec} (hm : MutexInv s) (hp : PartInv s)
    (hth : s.threads[t]? = some (.wWriting r)) : Enabled c s := by
  cases hf : s.file s.active with
  | none =>
    refine ⟨t, .chunk 1, Act.noConfusion, rfl, ?_⟩
    simp [step, hth, stChunk, hf]
  | some f =>
    have hlt : f.part < r.size := by
      rcases hp _ _ hf with h0 | ⟨_, t0, r0, ht0, hlt⟩
      · rw [h0]; exact r.size_pos
      · cases hm.same_state ht0 hth rfl rfl; exact hlt
    refine ⟨t, .chunk (r.size - f.part), Act.noConfusion, rfl, ?_⟩
    have h1 : 0 < r.size - f.part ∧ f.part + (r.size - f.part) ≤ r.size := by omega
    have h2 : f.part + (r.size - f.part) = r.size := by omega
    simp [step, hth, stChunk, hf, h1, h2]

theorem enabled_free {st : TState} (hm : MutexInv s) (hp : PartInv s)
    (hth : s.threads[t]? = some st) (hf : st.free = true) : Enabled c s := by
  cases st with
  | wWriting r => exact enabled_chunk hm hp hth
  | wAppended r loc => exact ⟨t, .account, Act.noConfusion, rfl, by simp only [step, hth]; rfl⟩
  | wPublished res => exact ⟨t, .unlock, Act.noConfusion, rfl, by simp only [step, hth]; rfl⟩
  | respond res => exact ⟨t, .resp, Act.noConfusion, rfl, by simp only [step, hth]; rfl⟩
  | gRead pc k rd loc gv =>
    cases pc with
    | looked => exact ⟨t, .ensure [], Act.noConfusion, rfl, by simp only [step, hth]; rfl⟩
    | ensured => exact ⟨t, .remap, Act.noConfusion, rfl, by simp only [step, hth]; rfl⟩
    | remapped => exact ⟨t, .slice, Act.noConfusion, rfl, by simp only [step, hth]; rfl⟩
  | gSliced k rd v => exact ⟨t, .release, Act.noConfusion, rfl, by simp only [step, hth]; rfl⟩
  | gCheckin rd v => exact ⟨t, .checkin, Act.noConfusion, rfl, by simp only [step, hth]; rfl⟩
  | mDone => exact ⟨t, .unlock, Act.noConfusion, rfl, by simp only [step, hth]; rfl⟩
  | _ => cases hf

theorem shardClean_false (h : shardClean c s = false) :
    ∃ k loc, AL.get k s.index = some loc ∧ c.shardOf k = s.mg.shard ∧ loc.fid ∈ s.mg.sel := by
  apply Classical.byContradiction
  intro hne
  refine Bool.noConfusion (h.symm.trans (shardClean_iff.mpr fun k loc hi => ?_))
  by_cases h1 : c.shardOf k = s.mg.shard
  · exact .inr fun h2 => hne ⟨k, loc, hi, h1, h2⟩
  · exact .inl h1

theorem enabled_copy {k : Nat} {loc : Loc} (hth : s.threads[t]? = some .merging)
    (hin : s.mg.inShard = true) (hp : s.mg.pending = none) (hi : AL.get k s.index = some loc)
    (hsh : c.shardOf k = s.mg.shard) (hsel : loc.fid ∈ s.mg.sel) : Enabled c s := by
  refine ⟨t, .mCopy k, Act.noConfusion, rfl, ?_⟩
  simp only [step, hth, stCopy, hin, hp, hsh, and_self, ↓reduceIte, hi, hsel]
  split
  · split <;> rfl
  · rfl

theorem enabled_merging (hth : s.threads[t]? = some .merging)
    (hg : ∀ sh, guardFree c s sh = true) : Enabled c s := by
  cases hin : s.mg.inShard with
  | true =>
    cases hp : s.mg.pending with
    | some p =>
      obtain ⟨k, nl⟩ := p
      refine ⟨t, .mRepoint, Act.noConfusion, rfl, ?_⟩
      simp only [step, hth, stRepoint, hp]
      split <;> rfl
    | none =>
      cases hc : shardClean c s with
      | true =>
        exact ⟨t, .mLeave, Act.noConfusion, rfl, by simp [step, hth, stLeave, hin, hp, hc]⟩
      | false =>
        obtain ⟨k, loc, hi, hsh, hsel⟩ := shardClean_false hc
        exact enabled_copy hth hin hp hi hsh hsel
  | false =>
    by_cases hsh : s.mg.shard ≤ c.nsh
    · exact ⟨t, .mEnter, Act.noConfusion, rfl, by simp [step, hth, stEnter, hin, hsh, hg]⟩
    · have hsh' : c.nsh < s.mg.shard := by omega
      cases htd : s.mg.todo with
      | nil => exact ⟨t, .mNewActive, Act.noConfusion, rfl, by simp [step, hth, stNewActive, hin, hsh', htd]⟩
      | cons f rest => exact ⟨t, .mUnlink, Act.noConfusion, rfl, by simp [step, hth, stUnlink, hin, hsh', htd]⟩

theorem enabled_lookup {k : Nat} {rd : Reader} (hth : s.threads[t]? = some (.gHave k rd))
    (hoff : s.mg.on = false) : Enabled c s := by
  refine ⟨t, .lookup, Act.noConfusion, rfl, ?_⟩
  have : wlockFree s (c.shardOf k) = true := by simp [wlockFree, hoff]
  simp only [step, hth, stLookup, this, ↓reduceIte]
  split <;> rfl

theorem guard_free_state {st : TState} {sh : Nat} (h : st.guard c = some sh) : st.free = true := by
  cases st <;> first | rfl | cases h

theorem TState.crit_cases {st : TState} (hc : st.inCrit = true) :
    st.free = true ∨ st = .merging ∨ ∃ r loc, st = .wAccounted r loc := by
  cases st with
  | merging => exact .inr (.inl rfl)
  | wAccounted r loc => exact .inr (.inr ⟨r, loc, rfl⟩)
  | wWriting | wAppended | wPublished | mDone => exact .inl rfl
  | _ => cases hc

theorem TState.holds_cases {st : TState} (h : st.holdsReader = true) :
    st.free = true ∨ ∃ k rd, st = .gHave k rd := by
  cases st with
  | gHave k rd => exact .inr ⟨k, rd, rfl⟩
  | gRead | gSliced | gCheckin => exact .inl rfl
  | _ => cases h

theorem progress {n : Nat} (hfx : c.fixed = true) (hcap : 0 < c.cap) (hr : Reachable c n s)
    (hpend : ∃ (t : Nat) (st : TState), s.threads[t]? = some st ∧ st ≠ .idle) : Enabled c s := by
  have hinv := Inv.reachable hr
  have hpart := PartInv.reachable hr
  have hm := hinv.mutex
  by_cases h1 : ∃ (t : Nat) (st : TState), s.threads[t]? = some st ∧ st.free = true
  · obtain ⟨t, st, hth, hf⟩ := h1
    exact enabled_free hm hpart hth hf
  have hnf : ∀ (t : Nat) (st : TState), s.threads[t]? = some st → st.free ≠ true :=
    fun t st hth hf => h1 ⟨t, st, hth, hf⟩
  -- nobody holds a read guard: `publish` and `mEnter` do not wait
  have hg : ∀ sh, guardFree c s sh = true :=
    fun sh => guardFree_iff.mpr fun t st hth hgd => hnf t st hth (guard_free_state hgd)
  by_cases h2 : ∃ (t : Nat), s.threads[t]? = some .merging
  · obtain ⟨t, hth⟩ := h2
    exact enabled_merging hth hg
  by_cases h3 : ∃ (t : Nat) (r : Rec) (loc : Loc), s.threads[t]? = some (.wAccounted r loc)
  · obtain ⟨t, r, loc, hth⟩ := h3
    refine ⟨t, .publish, Act.noConfusion, rfl, ?_⟩
    simp only [step, hth, stPublish, hg, ↓reduceIte]
    split <;> rfl
  -- nobody is inside the mutex: it is free, and no merge runs
  have hnofail := hinv.safe.noFail hfx
  have hmu : s.mutex = none := by
    cases hmx : s.mutex with
    | none => rfl
    | some t0 =>
      obtain ⟨st, hth, hc⟩ := hm.holder t0 hmx
      rcases hc with hc | hc
      · rcases TState.crit_cases hc with hf | rfl | ⟨r, loc, rfl⟩
        · exact absurd hf (hnf t0 st hth)
        · exact absurd ⟨t0, hth⟩ h2
        · exact absurd ⟨t0, r, loc, hth⟩ h3
      · rw [hnofail t0 st hth] at hc; cases hc
  have hoff := hm.off_of_free hmu
  obtain ⟨t, st, hth, hne⟩ := hpend
  cases st with
  | idle => exact absurd rfl hne
  | wInv r => exact ⟨t, .lock, Act.noConfusion, rfl, by simp [step, hth, stLock, hmu]⟩
  | mInv sel => exact ⟨t, .lock, Act.noConfusion, rfl, by simp [step, hth, stMergeLock, hmu]⟩
  | gHave k rd => exact enabled_lookup hth hoff
  | gInv k =>
    cases hp : s.pool with
    | cons rd rest => exact ⟨t, .checkout, Act.noConfusion, rfl, by simp [step, hth, stCheckout, hp]⟩
    | nil =>
      -- the pool is empty, so somebody holds a reader; he is not free, so he is before `lookup`
      have hpool := pool_exact hfx hr
      rw [hp] at hpool
      have hpos : 0 < s.threads.countP TState.holdsReader := by
        unfold held at hpool; simp only [List.length_nil] at hpool; omega
      obtain ⟨st', hmem, hh⟩ := List.countP_pos_iff.mp hpos
      obtain ⟨t', hlt, rfl⟩ := List.getElem_of_mem hmem
      have hth' : s.threads[t']? = some s.threads[t'] := List.getElem?_eq_getElem hlt
      rcases TState.holds_cases hh with hf | ⟨k', rd', hst⟩
      · exact absurd hf (hnf t' _ hth')
      · rw [hst] at hth'; exact enabled_lookup hth' hoff
  | wAccounted r loc => exact absurd ⟨t, r, loc, hth⟩ h3
  | merging => exact absurd ⟨t, hth⟩ h2
  | failed f l => have := hnofail t _ hth; cases this
  | _ => exact absurd rfl (hnf t _ hth)

end CStore
