/-
  C13 — compaction reclaims space and never grows the store.

  For every state of a crash-free history (`AReach`, defined in `Store/ReachAcc.lean`) and every merge pass
  with a valid selection and iteration order: the total size of the data files does not
  increase; if every non-empty data file is selected it becomes exactly the total length of the
  live entries, which is the size of a fresh store holding only the live key-value pairs (entry
  length does not depend on the timestamp); and a second such merge changes nothing further.

  Helper lemmas: `Store/SizeLemmas.lean`, `Store/SizeOps.lean` (and the C19 files).
-/
import BitcaskVerif.Props.C19
import BitcaskVerif.Store.SizeOps

namespace Store
open Store.Stats

/-- **C13 (never grows).** A merge pass never increases the total size of the data files. -/
theorem c13_nonincreasing {s : St} (h : AReach s) (cfg : Cfg) (sel : List Nat) (order : List Key)
    (hsel : ∀ id, id ∈ sel → id ≤ s.active) (hcov : Covers order s) :
    storeSize (mergeWith cfg s sel order).1.disk ≤ storeSize s.disk := by
  have g := areach_good h
  rw [(mergeWith_size cfg s sel order g.inv g.acc hsel hcov).1, storeSize_split sel s.disk]
  have := liveIn_le_sizeIn g.inv g.acc g.dnodup sel
  omega

/-- **C13 (lower bound).** The live entries never exceed the store. -/
theorem c13_lower {s : St} (h : AReach s) : liveSize s ≤ storeSize s.disk :=
  let g := areach_good h
  liveSize_le_storeSize g.inv g.acc g.dnodup

/-- **C13 (exact).** When every non-empty data file is selected, the merge leaves the store
    exactly as large as the live entries. -/
theorem c13_exact {s : St} (h : AReach s) (cfg : Cfg) (sel : List Nat) (order : List Key)
    (hsel : ∀ id, id ∈ sel → id ≤ s.active) (hcov : Covers order s) (hall : SelectsAll s sel) :
    storeSize (mergeWith cfg s sel order).1.disk = liveSize s := by
  have g := areach_good h
  rw [(mergeWith_size cfg s sel order g.inv g.acc hsel hcov).1,
    sizeOut_zero_of_all g.dnodup hall, liveIn_all g.inv g.acc hall]
  omega

/-- **C13 (the live size is the size of the live pairs).** Every KeyDir entry has the length
    `pairSize k v` of an entry holding the key and the value it reads — whatever its timestamp. -/
theorem c13_live_pairs {s : St} (h : AReach s) :
    liveSize s = ((livePairs s).map fun (k, v) => pairSize k v).sum :=
  let g := areach_good h
  liveSize_eq_pairs g.inv g.acc

/-- **C13 (… which is the size of a fresh store holding them).** Setting any list of pairs in a
    fresh store, under any configuration, yields data files of total size `Σ pairSize`. -/
theorem c13_fresh_size (cfg : Cfg) (kvs : List (Key × Val)) :
    storeSize (putAll cfg fresh kvs).disk = (kvs.map fun (k, v) => pairSize k v).sum := by
  have := putAll_size cfg kvs fresh fresh_inv
  rw [this]
  simp [fresh, storeSize, fileSize]

/-- **C13 (exact, against the reference store).** After a merge that selects every non-empty
    file, the store is exactly as large as a fresh store into which only the live pairs are set. -/
theorem c13_exact_fresh {s : St} (h : AReach s) (cfg cfg' : Cfg) (sel : List Nat) (order : List Key)
    (hsel : ∀ id, id ∈ sel → id ≤ s.active) (hcov : Covers order s) (hall : SelectsAll s sel) :
    storeSize (mergeWith cfg s sel order).1.disk = storeSize (putAll cfg' fresh (livePairs s)).disk := by
  rw [c13_exact h cfg sel order hsel hcov hall, c13_fresh_size, c13_live_pairs h]

/-- **C13 (idempotent).** Repeating such a merge (any configuration, any valid selection that
    again contains every non-empty file, any order) changes nothing further: the size stays the
    live size, which the merge passes do not change. -/
theorem c13_idem {s : St} (h : AReach s) (cfg : Cfg) (sel : List Nat) (order : List Key)
    (hsel : ∀ id, id ∈ sel → id ≤ s.active) (hcov : Covers order s) (hall : SelectsAll s sel)
    (cfg' : Cfg) (sel' : List Nat) (order' : List Key)
    (hsel' : ∀ id, id ∈ sel' → id ≤ (mergeWith cfg s sel order).1.active)
    (hcov' : Covers order' (mergeWith cfg s sel order).1)
    (hall' : SelectsAll (mergeWith cfg s sel order).1 sel') :
    storeSize (mergeWith cfg' (mergeWith cfg s sel order).1 sel' order').1.disk = liveSize s ∧
    storeSize (mergeWith cfg' (mergeWith cfg s sel order).1 sel' order').1.disk =
      storeSize (mergeWith cfg s sel order).1.disk := by
  have g := areach_good h
  have h1 : AReach (mergeWith cfg s sel order).1 := .merge cfg s sel order h hsel hcov
  have e1 := c13_exact h1 cfg' sel' order' hsel' hcov' hall'
  have e2 := (mergeWith_size cfg s sel order g.inv g.acc hsel hcov).2
  have e3 := c13_exact h cfg sel order hsel hcov hall
  rw [e1, e2, e3]
  exact ⟨rfl, rfl⟩

/-! ### the selection made by the thresholds (`merge` = `mergeWith` on `selectFiles`) -/

/-- the files the thresholds select are existing ones: `merge` is always a valid merge pass -/
theorem c13_select_valid {s : St} (h : AReach s) (cfg : Cfg) :
    ∀ id, id ∈ selectFiles cfg s → id ≤ s.active :=
  let g := areach_good h
  selectFiles_valid cfg g.inv g.acc

/-- **C13 (never grows), for the threshold-driven `merge`.** -/
theorem c13_merge_nonincreasing {s : St} (h : AReach s) (cfg : Cfg) (order : List Key)
    (hcov : Covers order s) : storeSize (merge cfg s order).1.disk ≤ storeSize s.disk :=
  c13_nonincreasing h cfg _ order (c13_select_valid h cfg) hcov

/-- **C13 (eligibility).** When every data file is smaller than the small-file threshold, the
    thresholds select every non-empty data file … -/
theorem c13_all_eligible {s : St} (h : AReach s) (cfg : Cfg)
    (hsmall : ∀ f, f ∈ AL.keys s.disk.data → fileSize (dataOf s.disk f) < cfg.smallFile) :
    SelectsAll s (selectFiles cfg s) :=
  let g := areach_good h
  selectFiles_all cfg g.acc g.tails hsmall

/-- … so the threshold-driven `merge` shrinks the store to exactly the live entries. -/
theorem c13_merge_exact {s : St} (h : AReach s) (cfg : Cfg) (order : List Key) (hcov : Covers order s)
    (hsmall : ∀ f, f ∈ AL.keys s.disk.data → fileSize (dataOf s.disk f) < cfg.smallFile) :
    storeSize (merge cfg s order).1.disk = liveSize s :=
  c13_exact h cfg _ order (c13_select_valid h cfg) hcov (c13_all_eligible h cfg hsmall)

/-! ### non-vacuity: a store with garbage in four files; selecting all of them leaves 27 bytes,
    the one live pair; selecting again (the output file) leaves 27 bytes -/

def c13Ops : List Op := [.put [1] [10], .put [2] [20], .put [1] [11], .del [2]]

example : SelectsAll (run demoCfg fresh c13Ops).1 [0, 1, 2, 3] := by decide
example : ∀ id, id ∈ [0, 1, 2, 3] → id ≤ (run demoCfg fresh c13Ops).1.active := by decide
example : Covers [[1], [2]] (run demoCfg fresh c13Ops).1 := by decide
example : storeSize (run demoCfg fresh c13Ops).1.disk = 99 := by decide
example : liveSize (run demoCfg fresh c13Ops).1 = 27 := by decide
example : storeSize (mergeWith demoCfg (run demoCfg fresh c13Ops).1 [0, 1, 2, 3] [[1], [2]]).1.disk = 27 := by decide
example : SelectsAll (mergeWith demoCfg (run demoCfg fresh c13Ops).1 [0, 1, 2, 3] [[1], [2]]).1 [5] := by decide
example : livePairs (run demoCfg fresh c13Ops).1 = [([1], [11])] := by decide
example : ∀ f, f ∈ AL.keys (run demoCfg fresh c13Ops).1.disk.data →
    fileSize (dataOf (run demoCfg fresh c13Ops).1.disk f) < demoCfg.smallFile := by decide

end Store
