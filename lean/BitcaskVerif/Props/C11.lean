/-
  C11 — several clients issue SET, GET and single-key DEL concurrently on separate connections:
  all replies are consistent with a single order of the commands that respects real time and each
  connection's own order.

  The handler model: a connection handles one command at a time; for each command the store call
  happens (on a blocking thread) strictly between reading the request and writing the reply, and
  the reply carries the store call's result. So the network-level operation (request sent … reply
  received) is the store operation seen from further away (`Lin.Wider`), and the commands of one
  connection do not overlap (`Lin.SeqPerClient`). Nothing is added to the store LTS.
-/
import BitcaskVerif.Conc.StoreLinStep
import BitcaskVerif.Conc.LinHist

namespace CStore

open Lin

/-- **C11.** `ps` pairs every command as the clients see it (connection id, command, reply, time
    the request was sent, time the reply was received) with the store operation that served it.
    If the store operations form a linearizable history, the client-visible history is
    linearizable by an order that also respects each connection's own order. -/
theorem c11_lin (ps : List (OpRec Op Res × OpRec Op Res))
    (hcontain : ∀ p ∈ ps, Wider p.1 p.2)
    (hconn : SeqPerClient (ps.map Prod.fst))
    (hstore : Linearizable mapSpec (ps.map Prod.snd)) :
    LinearizablePO mapSpec (ps.map Prod.fst) :=
  widen_po ps hcontain hconn hstore

/-- **C11 on top of C04.** If the store operations are the history of a complete execution of the
    concurrent store, the client-visible history is linearizable. -/
theorem c11_lin_store (c : Cfg) (n : Nat) (s : Sys) (h : Reachable c n s)
    (ps : List (OpRec Op Res × OpRec Op Res))
    (hcontain : ∀ p ∈ ps, Wider p.1 p.2)
    (hconn : SeqPerClient (ps.map Prod.fst))
    (hhist : HistoryOf s.hist (ps.map Prod.snd)) (hq : Quiescent s.hist) :
    LinearizablePO mapSpec (ps.map Prod.fst) :=
  c11_lin ps hcontain hconn ((hist_linearizable h).history hq hhist)

/-- **C11 on top of C04, all commands answered.** The same when the execution ended with every
    store thread idle. -/
theorem c11_lin_idle (c : Cfg) (n : Nat) (s : Sys) (h : Reachable c n s)
    (hidle : ∀ (t : Nat) (st : TState), s.threads[t]? = some st → st = .idle)
    (ps : List (OpRec Op Res × OpRec Op Res))
    (hcontain : ∀ p ∈ ps, Wider p.1 p.2)
    (hconn : SeqPerClient (ps.map Prod.fst))
    (hhist : HistoryOf s.hist (ps.map Prod.snd)) :
    LinearizablePO mapSpec (ps.map Prod.fst) :=
  c11_lin_store c n s h ps hcontain hconn hhist (hist_quiescent h hidle)

/-- non-vacuity of the premises: two connections; connection 1 sets key 7 while connection 2 reads
    it twice, the first read overlapping the SET and still seeing nothing -/
example :
    let net : List (OpRec Op Res) :=
      [⟨1, .put 7 5 0, .unit, 0, 9⟩, ⟨2, .get 7, .found none, 1, 6⟩, ⟨2, .get 7, .found (some 5), 10, 14⟩]
    let store : List (OpRec Op Res) :=
      [⟨1, .put 7 5 0, .unit, 2, 8⟩, ⟨2, .get 7, .found none, 3, 5⟩, ⟨2, .get 7, .found (some 5), 11, 13⟩]
    (∀ p ∈ net.zip store, Wider p.1 p.2) ∧ SeqPerClient net ∧ Linearizable mapSpec store := by
  refine ⟨by unfold Wider; decide, by unfold SeqPerClient; decide, ?_⟩
  refine ⟨[⟨2, .get 7, .found none, 3, 5⟩, ⟨1, .put 7 5 0, .unit, 2, 8⟩, ⟨2, .get 7, .found (some 5), 11, 13⟩],
    List.Perm.swap _ _ _, ⟨_, ⟨rfl, rfl, ?_, rfl⟩⟩, by unfold Respects; decide⟩
  simp [mapSpec]

end CStore
