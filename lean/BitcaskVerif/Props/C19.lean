/-
  C19 — per-file live/dead accounting matches the files' real contents.

  In every crash-free history (sets, deletes, merge passes over any valid selection and KeyDir
  order, reopen cycles; the configuration may even change between operations) the store's
  per-file counters equal the ground truth `Store.truth` recomputed from the data files and the
  KeyDir: `live` = number of records of the file that are the current value of a key, `dead` and
  `deadBytes` = number and total size of all its other records.  Consequently no counter ever
  underflows and no merge ever copies a mis-addressed record (`St.bad` stays clear).

  Helper lemmas: `Store/ALSum.lean`, `Store/StatsLemmas.lean`, `Store/StatsOps.lean`,
  `Store/StatsTruth.lean`, `Store/MergeShape.lean`, `Store/StatsMerge.lean`, `Store/StatsReopen.lean`,
  `Store/ReachAcc.lean` (the reachability predicates `AReach`, `AReachPD` and `areach_good`: every
  reachable state satisfies `RInv` and `AccInv`).
-/
import BitcaskVerif.Store.ReachAcc
import BitcaskVerif.Store.StatsTruth
import BitcaskVerif.Store.SizeOps

namespace Store
open Store.Stats

/-- **C19 (exact, as a finite map).** In every reachable state the counters, looked up at any
    file id, are the ground truth `truth s` looked up at that id. -/
theorem c19_exact {s : St} (h : AReach s) :
    (∀ f, AL.get f s.stats = AL.get f (truth s)) ∧ s.bad = false :=
  let g := areach_good h
  ⟨stats_eq_truth g.inv g.acc g.dnodup, g.acc.notBad⟩

/-- **C19 (exact, as a list).** The counter list has one entry per file id and is the
    ground-truth list `truth s` up to the order of the files. -/
theorem c19_exact_perm {s : St} (h : AReach s) : s.stats.Perm (truth s) ∧ (AL.keys s.stats).Nodup :=
  let g := areach_good h
  ⟨stats_perm_truth g.inv g.acc g.dnodup, g.acc.statsNodup⟩

/-- **C19 (exact, file by file).** A file without records has no counters; a file with records
    has exactly the counters `truthFile` recomputes from its records and the KeyDir. -/
theorem c19_exact_file {s : St} (h : AReach s) (f : Nat) :
    AL.get f s.stats =
      (if dataOf s.disk f = [] then none else some (truthFile s.keydir f (dataOf s.disk f))) :=
  let g := areach_good h
  stats_eq_truthFile g.inv g.acc f

/-- **C19 (sets and deletes).** C19 for states reached by sets and deletes only (`AReachPD`), an
    instance of `c19_exact`. -/
theorem c19_exact_put_del {s : St} (h : AReachPD s) :
    (∀ f, AL.get f s.stats = AL.get f (truth s)) ∧ s.bad = false :=
  c19_exact h.reach

/-- **C19 (counting form).** `live` is the number of keys whose current value lives in the file,
    `live + dead` the number of its records, live bytes + `deadBytes` its size. -/
theorem c19_counts {s : St} (h : AReach s) (f : Nat) :
    (statOf s.stats f).live = liveCnt s.keydir f ∧
    (statOf s.stats f).live + (statOf s.stats f).dead = (dataOf s.disk f).length ∧
    liveBytes s.keydir f + (statOf s.stats f).deadBytes = fileSize (dataOf s.disk f) :=
  let a := ((areach_good h).acc.file f).cnt
  ⟨a.live, a.tot, a.bytes⟩

/-- **C19 (no underflow).** The sticky failure flag — set when `overwrite` meets a counter with
    `live = 0`, or when a merge finds no record (or one of another length) at a KeyDir entry — is
    clear in every reachable state, hence after every prefix of every crash-free history. -/
theorem c19_no_underflow {s : St} (h : AReach s) : s.bad = false := (areach_good h).acc.notBad

/-- … and directly: when a set or delete in a reachable state accounts the key's previous entry,
    the `live` counter of that entry's file is positive at that moment. -/
theorem c19_overwrite_live_pos {s : St} (h : AReach s) (cfg : Cfg) (r : Rec) (k : Key) (p : Loc)
    (hp : AL.get k s.keydir = some p) : overwriteUnderflows (write cfg s r).1.stats p.fid = false := by
  have := FileAcc.no_underfl (areach_good h).acc.file s.active
    (fun st => if r.val.isSome then st.addLive else st.addDead r.len)
    (fun st => by cases r.val <;> simp [Stat.addLive, Stat.addDead]) k
  rw [hp] at this
  rw [show (write cfg s r).1.stats = _ from congrArg Idx.stats (write_idx cfg s r)]
  exact this

/-- … and every KeyDir entry of a reachable state addresses a complete value record of its key, of
    the recorded length, in an existing file — so a merge pass never copies a mis-addressed record. -/
theorem c19_entries_addressed {s : St} (h : AReach s) (k : Key) (loc : Loc)
    (hk : AL.get k s.keydir = some loc) : LocOk s.disk k loc := (areach_good h).inv.locs k loc hk

/-- C19 for the operation sequences of C01 -/
theorem c19_exact_run (cfg : Cfg) (ops : List Op) (hv : ValidFrom cfg fresh ops) :
    (∀ f, AL.get f (run cfg fresh ops).1.stats = AL.get f (truth (run cfg fresh ops).1)) ∧
      (run cfg fresh ops).1.bad = false :=
  c19_exact (areach_run cfg ops fresh .fresh hv)

/-- the threshold-driven `merge` (selection = `selectFiles`) is one of the merge passes of `AReach` -/
theorem areach_merge {s : St} (h : AReach s) (cfg : Cfg) (order : List Key) (hcov : Covers order s) :
    AReach (merge cfg s order).1 :=
  let g := areach_good h
  .merge cfg s _ order h (selectFiles_valid cfg g.inv g.acc) hcov

/-! ### non-vacuity: rollover on every write, overwrite across files, delete, partial merge, reopen -/

example : AReach (reopen (run demoCfg fresh demoOps).1).1 :=
  .reopen _ (areach_run demoCfg demoOps fresh .fresh (by
    simp only [demoOps, ValidFrom, and_true, true_and]; decide))

example : (run demoCfg fresh [.put [1] [10], .put [2] [20], .put [1] [11], .del [2]]).1.stats =
    [(0, ⟨0, 1, 27⟩), (1, ⟨0, 1, 27⟩), (2, ⟨1, 0, 0⟩), (3, ⟨0, 1, 18⟩)] := by decide

example : truth (run demoCfg fresh [.put [1] [10], .put [2] [20], .put [1] [11], .del [2]]).1 =
    [(0, ⟨0, 1, 27⟩), (1, ⟨0, 1, 27⟩), (2, ⟨1, 0, 0⟩), (3, ⟨0, 1, 18⟩)] := by decide

/-- after the partial merge of the demo history the counters still are the ground truth -/
example : (run demoCfg fresh demoOps).1.stats = truth (run demoCfg fresh demoOps).1 := by decide

end Store
