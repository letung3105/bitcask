/-
  C05 — compaction never changes what any key reads, now or after restart.

  `c05_now` holds at full strength.  `c05_restart` is FALSE at full strength
  (defect D3: a merge drops the tombstones of the selected files; an older value of a deleted
  key that survives in an unselected file comes back at the next open): see
  `c05_restart_counterexample`.  It is proved under the hypothesis `NoHazard s sel`
  (`c05_restart_partial`), and `c05_restart_iff` shows that this hypothesis is exactly what is
  missing: for every reachable state and every valid merge the restart preserves all reads if and
  only if `NoHazard s sel`.  Independently of the hypothesis, every key that is present before the
  merge reads the same after merge + restart (`c05_restart_present`): only deleted keys can be
  affected, and only by resurrection.

  Helper lemmas: `Store/MergeRecovery.lean`, `Store/RecInv.lean`, `Store/Reach.lean`.
-/
import BitcaskVerif.Store.Reach

namespace Store

/-- **C05 (now).** A merge pass over any subset `sel` of the existing files, with any KeyDir
    iteration order, leaves every key reading exactly as before (and keeps the invariant). -/
theorem c05_now (cfg : Cfg) (s : St) (sel : List Nat) (order : List Key) (h : Reach cfg s)
    (hsel : ∀ id, id ∈ sel → id ≤ s.active) (hcov : Covers order s) :
    (mergeWith cfg s sel order).1.abs = s.abs ∧ Inv (mergeWith cfg s sel order).1 :=
  ⟨(mergeWith_inv_abs cfg s sel order (reach_rinv h).inv hsel hcov).2,
   (mergeWith_inv_abs cfg s sel order (reach_rinv h).inv hsel hcov).1⟩

/-
  Full-strength statement — FALSE (D3), refuted by `c05_restart_counterexample`:

  theorem c05_restart (cfg : Cfg) (s : St) (sel : List Nat) (order : List Key) (h : Reach cfg s)
      (hsel : ∀ id, id ∈ sel → id ≤ s.active) (hcov : Covers order s) :
      (reopen (mergeWith cfg s sel order).1).1.abs = s.abs
-/

/-- **C05 (after restart), under `NoHazard`.** If no key absent from the index would be recovered
    from the unselected files alone, then after the merge, a close and a reopen every key reads
    exactly as before the merge. -/
theorem c05_restart_partial (cfg : Cfg) (s : St) (sel : List Nat) (order : List Key) (h : Reach cfg s)
    (hsel : ∀ id, id ∈ sel → id ≤ s.active) (hcov : Covers order s) (hz : NoHazard s sel) :
    (reopen (mergeWith cfg s sel order).1).1.abs = s.abs :=
  (merge_restart_iff cfg s sel order (reach_rinv h) hsel hcov).mpr hz

/-- … and after any number of close/reopen cycles. -/
theorem c05_restartN_partial (cfg : Cfg) (s : St) (sel : List Nat) (order : List Key) (h : Reach cfg s)
    (hsel : ∀ id, id ∈ sel → id ≤ s.active) (hcov : Covers order s) (hz : NoHazard s sel) (n : Nat) :
    (reopenN n (mergeWith cfg s sel order).1).abs = s.abs := by
  rw [(reopenN_abs n _ (mergeWith_rinv cfg s sel order (reach_rinv h) hsel hcov).1
    ((mergeWith_full_iff cfg s sel order (reach_rinv h) hsel hcov).mpr hz)).1]
  exact (c05_now cfg s sel order h hsel hcov).1

/-- **`NoHazard` is exactly the missing hypothesis**: for every reachable state and every valid
    merge, the restart preserves all reads if and only if the selection is hazard-free. -/
theorem c05_restart_iff (cfg : Cfg) (s : St) (sel : List Nat) (order : List Key) (h : Reach cfg s)
    (hsel : ∀ id, id ∈ sel → id ≤ s.active) (hcov : Covers order s) :
    (reopen (mergeWith cfg s sel order).1).1.abs = s.abs ↔ NoHazard s sel :=
  merge_restart_iff cfg s sel order (reach_rinv h) hsel hcov

/-- **C05 (after restart), keys that are present.** Without any hypothesis: a key that reads a
    value before the merge reads the same value after merge, close and reopen. -/
theorem c05_restart_present (cfg : Cfg) (s : St) (sel : List Nat) (order : List Key) (h : Reach cfg s)
    (hsel : ∀ id, id ∈ sel → id ≤ s.active) (hcov : Covers order s) (k : Key) (hk : s.abs k ≠ none) :
    (reopen (mergeWith cfg s sel order).1).1.abs k = s.abs k :=
  merge_restart_present cfg s sel order (reach_rinv h) hsel hcov k hk

/-- **C05 (after restart), in the design's wording**, for stores that have seen no merge yet
    (sets, deletes, reopens): if no key whose deciding record is a tombstone in a selected file
    has a value record in an unselected file, merge + restart preserves every read. -/
theorem c05_restart_partial_shadow (cfg : Cfg) (s : St) (sel : List Nat) (order : List Key)
    (h : ReachPD cfg s) (hsel : ∀ id, id ∈ sel → id ≤ s.active) (hcov : Covers order s)
    (hz : NoShadowedTombstoneDropped s sel) :
    (reopen (mergeWith cfg s sel order).1).1.abs = s.abs :=
  c05_restart_partial cfg s sel order h.toReach hsel hcov (noHazard_of_shadow (reachPD_rinv h).2 hz)

def d3Cfg : Cfg := { maxFile := 0 }
/-- value in file 0, tombstone in file 1, active file 2 -/
def d3St : St := (delete d3Cfg (put d3Cfg fresh 0 [107] [1]).1 0 [107]).1

/-- **C05 (after restart) fails at full strength**: set `k`, delete `k` (each entry in its own
    file), merge only the file holding the tombstone, reopen — `k` is back. -/
theorem c05_restart_counterexample :
    ∃ (cfg : Cfg) (s : St) (sel : List Nat) (order : List Key),
      Reach cfg s ∧ (∀ id, id ∈ sel → id ≤ s.active) ∧ Covers order s ∧
      (reopen (mergeWith cfg s sel order).1).1.abs ≠ s.abs := by
  refine ⟨d3Cfg, d3St, [1], [], .delete _ _ (.put _ _ _ .fresh), by decide, by decide, ?_⟩
  intro he
  have hk := congrFun he [107]
  have hasc : Asc (mergeWith d3Cfg d3St [1] []).1.disk.data := by decide
  have : reopen (mergeWith d3Cfg d3St [1] []).1 =
      openDiskWith (AL.keys (mergeWith d3Cfg d3St [1] []).1.disk.data) (mergeWith d3Cfg d3St [1] []).1.disk :=
    openDisk_eq_with hasc
  rw [this] at hk
  revert hk
  decide

/-- the witness indeed violates the hypothesis -/
example : ¬ NoHazard d3St [1] := by
  intro h
  have := h [107] (by decide)
  revert this
  decide

/-! ### non-vacuity of the hypothesis -/

/-- the history of `Props/C01` (rollover after every entry: value of key 2 in file 1, its
    tombstone in file 3, key 1 overwritten) -/
def demoSt : St := (run demoCfg fresh [.put [1] [10], .put [2] [20], .put [1] [11], .del [2]]).1

example : Reach demoCfg demoSt := reach_run demoCfg _ .fresh (by simp [ValidFrom])

/-- selecting the files of both the shadowed value and its tombstone (a strict subset of the
    files) is hazard-free … -/
example : NoHazard demoSt [1, 3] := noHazard_of_noStaleValue (by decide)
/-- … selecting only the tombstone's file is not -/
example : ¬ NoStaleValue demoSt [3] := by decide

/-- the design-wording hypothesis on the same instance (a store without earlier merges) -/
example : ReachPD demoCfg demoSt := reachPD_run demoCfg _ .fresh (by simp [NoMerge])
example : NoShadowedTombstoneDropped demoSt [1, 3] := by
  intro k e hl ht _ e' hm hek hq
  have hall : ∀ x ∈ allEvs demoSt.disk.data, x.loc.fid ∉ [1, 3] → x.key = [1] ∧ x.tomb = false := by decide
  have h1 := (hall e' hm hq).1
  rw [hek] at h1; subst h1
  have : lastFor [1] (allEvs demoSt.disk.data) = some ⟨[1], ⟨2, 0, 27, 0⟩, false⟩ := by decide
  rw [this] at hl; cases hl; cases ht

end Store
