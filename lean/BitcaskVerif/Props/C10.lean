/-
  C10 — hostile or malformed input harms only the connection that sent it.

  For every byte stream, in every segmentation: the connection's handler never panics (so the
  process keeps running and the handler task ends by returning), and the store is changed by
  exactly the well-formed commands that precede the first error. Connections share nothing but
  the store, so other connections are affected only through those well-formed commands.
-/
import BitcaskVerif.Resp.ServerLemmas

namespace Resp

/-- **C10 (the handler survives anything).** Whatever bytes arrive, however they are segmented,
    the handler ends in one of: peer closed, connection reset, frame error, command error — never
    by a panic (index out of bounds, overflow, `advance` past the end, `unimplemented!`, or the
    reader's fuel running out). -/
theorem c10_outcome (m : KV) (segs : List (List UInt8)) : (serve m segs).2.2 ≠ .panic :=
  serveFrames_no_panic m _ (readAll_no_panic segs)

/-- reading itself never panics, for any bytes in any segmentation -/
theorem c10_read_total (segs : List (List UInt8)) : ReadRes.panic ∉ readAll segs := readAll_no_panic segs

/-- **C10 (stored data changes only through well-formed SET and DEL).** After serving any byte
    stream the store equals the store before, with exactly the commands of the leading well-formed
    command frames applied in order; nothing after the first malformed frame, unknown command or
    truncated frame has any effect. -/
theorem c10_store (m : KV) (segs : List (List UInt8)) :
    (serve m segs).1 = applyAll m (goodPrefix (readAll segs)) :=
  (serveFrames_spec m _).1.trans (specReplies_fst m _)

/-- a GET never changes the store (so a connection that only reads, or only sends garbage, leaves
    every other connection's view untouched) -/
theorem c10_get_pure (m : KV) (k : List UInt8) : (applyCmd m (.get k)).1 = m := rfl

/-- **C10 (no memory blow-up behind the completeness check).** Whenever `check` accepts a buffer,
    the accepted length is within the bytes actually received; `parse_frame` parses only that
    buffer, and `Frame::parse` reserves at most one slot per remaining byte (D9 fix), so an absurd
    length prefix cannot make the server allocate beyond what the peer really sent. -/
theorem c10_alloc (buf : Buf) (n : Nat) (h : check buf = .ok n) : n ≤ buf.size :=
  (check_ok_bounds buf n h).2

/-! non-vacuity: garbage after a valid SET — the SET is applied, nothing else, no reply for the garbage -/
example : (serveFrames KV.empty [.frame (Cmd.toFrame (.set [104] [49])), .error .badEncoding]).2 =
    ([43, 79, 75, 13, 10], .frameError .badEncoding) := by decide

end Resp
