/-
  C17 — a closed store rejects all use and stops its background worker.
-/
import BitcaskVerif.Conc.Close

namespace Close

/-- **C17 (every operation after the drop fails with `closed` and changes nothing on disk).** -/
theorem c17_closed (s : St) (n : Nat) (hc : s.closed = true) :
    (op s n).2 = .errClosed ∧ (op s n).1 = s := by
  rw [op_closed hc]; exact ⟨rfl, rfl⟩

/-- the drop itself is what closes: from then on the flag stays set across every operation -/
theorem c17_drop_closes (s : St) : (drop s).closed = true := rfl

/-- **C17 (no further change on disk)**: after the drop, no step of the background worker —
    including the merge or sync it was about to start — issues a file-system call. -/
theorem c17_worker_silent {s s' : St} {k : Nat} (h : Steps s k s') (hc : s.closed = true) :
    s'.calls = s.calls := (steps_closed h hc).2.1

/-- **C17 (the worker exits promptly, wherever it was)**: from any state of the worker (sleeping
    with its timer pending or ready, about to check, about to merge or sync), once the store is
    dropped the worker can run at most 5 more steps of its own, it never needs to wait for its
    timer to take them, and when it cannot step any more it has exited. -/
theorem c17_worker_exits_bound {s s' : St} {k : Nat} (h : Steps s k s') (hc : s.closed = true) : k ≤ 5 := by
  exact Nat.le_trans (Nat.le_trans (Nat.le_add_left k _) (steps_closed h hc).2.2) (dist_le s)

theorem c17_worker_never_stuck (s : St) (want : Bool) (n : Nat) (hc : s.closed = true)
    (hne : s.worker ≠ .exited) : own s want n ≠ [] := by
  unfold own
  split
  · split <;> exact List.cons_ne_nil _ _
  · rw [if_pos hc]; exact List.append_ne_nil_of_right_ne_nil _ (List.cons_ne_nil _ _)
  · split <;> exact List.cons_ne_nil _ _
  · exact List.cons_ne_nil _ _
  · exact absurd ‹_› hne

/-- time passing does not resurrect anything: ticks keep the store closed and silent -/
theorem c17_tick_closed (s : St) (hc : s.closed = true) : (tick s).closed = true ∧ (tick s).calls = s.calls := by
  unfold tick; split <;> exact ⟨hc, rfl⟩

/-! non-vacuity: a worker sleeping with its timer far away exits in one own step after the drop -/
example : ({ closed := true, seen := true, worker := .exited } : St) ∈
    own (drop { worker := .selecting false }) false 0 := by decide
/-- about to merge at the moment of the drop: the merge is rejected, then the worker leaves -/
example : Steps (drop { worker := .acting, calls := 7 }) 3 { closed := true, seen := true, worker := .exited, calls := 7 } :=
  .step true 9 (s1 := { closed := true, worker := .top, calls := 7 }) (by decide)
    (.step true 9 (s1 := { closed := true, worker := .selecting false, calls := 7 }) (by decide)
      (.step true 9 (s1 := { closed := true, seen := true, worker := .exited, calls := 7 }) (by decide) (.refl _)))

end Close
