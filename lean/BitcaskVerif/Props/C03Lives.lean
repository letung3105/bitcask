/-
  C03 (lives) — crash recovery composes over any number of lives, also when a life ends with a
  kill INSIDE a merge pass.

  Props/C03.lean proves that a kill at any cut of any operation — merge passes included — leaves a
  directory that opens to the right contents, but its reachability predicates (`ReachC`,
  `ReachM`) stop at a kill inside a merge: the recovered store violates `HintsExact` (an output
  data file holds a record its hint file does not list).  This file states the same theorems for
  `ReachL`, whose histories also contain kills inside a merge pass.

  What recovery really does with such a file (`rebuild_storage`, `populate_keydir_with_hintfile`,
  model: `rebuild` / `fileScan`): if a data file has a hint file, ONLY the hint file is read; the
  records it does not list are invisible.  `Sim d1 d` (Store/LivesBase.lean) relates a directory
  `d` to its *visible part* `d1`; `c03_lives_visible_part` says that in every reachable state the
  scan of the directory is the scan of its visible part, that the visible part has exact hint
  files (so the crash-free theory applies to it), and that every invisible record is a value
  record that is a copy of the record the index entry of its key addresses (as long as that
  entry lies before it).  The last fact is what "the inputs of the interrupted merge are still
  on disk" amounts to: the merge copies a record BEFORE it re-points the index entry, and it
  unlinks its inputs only after all outputs and hint files are complete.

  Are the stale outputs harmless in later lives?  For reopens, writes and the copy phase of later
  merges: yes, they stay invisible.  But `unlinkOne` removes the hint file of a merged file first
  and its data file second; a kill in between leaves the stale output WITHOUT hint file, and the
  next scan reads all its records.  This is harmless if — and only if — the D3 side condition
  `NoHazard` of every merge pass is taken over ALL records of the directory, including the
  invisible ones (which is what `NoHazard s sel` literally says for the states of this file).
  With the side condition restricted to what the scan sees, a deleted key can be resurrected:
  `c03_lives_visible_hazard_counterexample` (decide-checked; the hazardous selection is the one
  the store's own policy `selectFiles` makes).

  Main theorems: `c03_lives_merge_partial` (one life, from any reachable state),
  `c03_lives_all_partial` (any number of lives from a fresh store).  "partial": the D3 side
  condition (`opOk`: `NoHazard` for each merge's selection) is a hypothesis, as in Props/C03.lean.

  Helper lemmas: Store/LivesBase.lean (definitions), LivesOpen.lean (opening a directory with a
  visible part), LivesEvents.lean (events), LivesWrite.lean (put / delete / reopen),
  LivesDapp.lean, LivesMergeSim.lean, LivesLoop.lean, LivesGen.lean (copy phase), LivesUnlink.lean,
  LivesMerge.lean (removal phase, whole pass), LivesHistory.lean (histories).
-/
import BitcaskVerif.Store.LivesHistory

namespace Store

open Tr

/-- **`HintsPrefix`**: of every hint file the entries the scan accepts (all entries up to the
    first one that points beyond the end of the data file, `accOf`) describe exactly a PREFIX of
    the records of the data file — keys, positions, lengths, timestamps, in order.  Records
    behind that prefix, and hint entries behind the accepted ones, are ignored by recovery. -/
def HintsPrefix (d : Disk) : Prop :=
  ∀ fid hs, AL.get fid d.hint = some hs →
    ∃ n, hintEvs fid (accOf d fid hs) = evData fid ((dataOf d fid).take n) 0

/-- `HintsExact` (the invariant of the crash-free theory) is the special case "all entries are
    accepted and the prefix is the whole file" -/
theorem c03_lives_hintsExact_prefix (d : Disk) (h : HintsExact d) : HintsPrefix d := by
  intro fid hs hg
  refine ⟨(dataOf d fid).length, ?_⟩
  unfold accOf
  rw [accLen_all (h.fit' hg), List.take_length]
  exact h fid hs hg

/-- the accepted hint entries describe the records of the visible part, a prefix of the file -/
theorem LJ.hintsPrefix {s : St} (h : LJ s) : HintsPrefix s.disk := by
  obtain ⟨d1, w⟩ := h
  intro fid hs hg
  refine ⟨(dataOf d1 fid).length, ?_⟩
  rw [← List.prefix_iff_eq_take.mp (w.sim.pre fid)]
  exact w.rinv.hx fid _ ((w.sim.file fid).acc hs hg)

/-- **C03 (lives): the lives invariant.**  Every state reachable by sets, deletes, reads, reopens,
    hazard-free merge passes and kills at ANY cut of ANY of these operations (followed by
    recovery) satisfies the lives invariant `LJ`; in particular the store invariant `Inv` (reads
    are sound) and `HintsPrefix`. -/
theorem c03_lives_invariant (cfg : Cfg) (s : St) (h : ReachL cfg s) :
    LJ s ∧ Inv s ∧ HintsPrefix s.disk ∧ ∀ k, get s k ≠ .corrupt :=
  have hl := reachL_lj h
  ⟨hl, hl.inv, hl.hintsPrefix, fun k => get_not_corrupt hl.inv k⟩

/-- **C03 (lives): what recovery sees.**  In every reachable state the directory has a visible
    part `d1` such that
    * the startup scan of the directory IS the startup scan of `d1` (index, counters, next id):
      records a hint file does not list are never read;
    * `d1` has exact hint files, ascending ids, and with it the store satisfies the recovery
      invariant of the crash-free theory (`RInv`, `Full`);
    * every record of the directory that is not in `d1` is a value record, and it is a copy of
      the record the index entry of its key addresses whenever that entry lies before it. -/
theorem c03_lives_visible_part (cfg : Cfg) (s : St) (h : ReachL cfg s) :
    ∃ d1, Sim d1 s.disk ∧ rebuild s.disk = rebuild d1 ∧ HintsExact d1 ∧
      RInv { s with disk := d1 } ∧ Full { s with disk := d1 } ∧
      JunkOK d1 s.disk (kdF s.keydir) ∧ Full s := by
  obtain ⟨d1, w⟩ := reachL_lj h
  exact ⟨d1, w.sim, w.sim.rebuild w.rinv.hx, w.rinv.hx, w.rinv, w.full1, w.junk, w.fullA⟩

/-- the states of Props/C03.lean (`ReachM`: kills only inside merge-free operations) are among
    the states of this file -/
theorem c03_lives_reachM (cfg : Cfg) (s : St) (h : ReachM cfg s) : ReachL cfg s := h.toReachL

/-- **C03 (lives), one operation.**  `s` reachable as above (e.g. recovered from a kill inside a
    merge pass).  For EVERY cut `c` of the next operation `op` — set, delete, read, reopen or a
    merge pass satisfying its side conditions `opOk` (existing files in ascending order, covering
    iteration order, `NoHazard s sel`: defect D3) — the directory opens to a store that satisfies
    the store invariant, never reads a bad location, reads as before `op` or as after `op` (a
    merge or reopen does not change the contents), and is again such a reachable state. -/
theorem c03_lives_op_cut_partial (cfg : Cfg) (s : St) (h : ReachL cfg s) (op : TOp) (hop : opOk s op)
    (c : List Call) (hc : Cut (stepC cfg s op).2 c) :
    ((openDisk (applyCalls s.disk c)).1.abs = s.abs ∨
     (openDisk (applyCalls s.disk c)).1.abs = specOp s.abs op) ∧
    Inv (openDisk (applyCalls s.disk c)).1 ∧
    (∀ k, get (openDisk (applyCalls s.disk c)).1 k ≠ .corrupt) ∧
    ReachL cfg (openDisk (applyCalls s.disk c)).1 := by
  have hr : ReachL cfg (openDisk (applyCalls s.disk c)).1 := .crash op c h hop hc
  have hi := (reachL_lj hr).inv
  refine ⟨?_, hi, fun k => get_not_corrupt hi k, hr⟩
  rcases stepC_cut_recJ cfg (reachL_lj h) op hop hc with r | r
  · exact .inl r.2
  · exact .inr r.2

/-- **C03 (lives), merge pass, hazard hypothesis per prefix.**  The form of
    `c03_merge_cut_prefixes_partial` for reachable states of this file: any selection of existing
    files (any order), provided for every prefix `done` of it the files outside `done` do not
    resurrect an absent key — ALL their records counted, visible to the scan or not. -/
theorem c03_lives_merge_cut_prefixes_partial (cfg : Cfg) (s : St) (h : ReachL cfg s) (sel : List Nat)
    (order : List Key) (hsel : ∀ id, id ∈ sel → id ≤ s.active) (hcov : Covers order s)
    (hz : ∀ done, done <+: sel → NoHazard s done) (c : List Call)
    (hc : Cut (mergeWith cfg s sel order).2 c) :
    (openDisk (applyCalls s.disk c)).1.abs = s.abs ∧ Inv (openDisk (applyCalls s.disk c)).1 ∧
    LJ (openDisk (applyCalls s.disk c)).1 := by
  obtain ⟨d1, w⟩ := reachL_lj h
  have r := (mergeWith_cut_recW cfg w sel order hsel hcov hz hc).recJ
  exact ⟨r.2, r.1.inv, r.1⟩

/-- **C03 (lives), one life.**  From any reachable state `s` (in particular: one recovered from a
    kill inside a merge pass): after the acknowledged operations `ops` — merge passes included —
    and a kill at ANY cut `c` of the next operation `op` — a merge pass included — the directory
    opens to a store that satisfies the invariant, never reads a bad location, contains every
    acknowledged operation, and `op` applied or not; and it is again a reachable state, so the
    statement applies to the next life as well. -/
theorem c03_lives_merge_partial (cfg : Cfg) (s : St) (h : ReachL cfg s) (ops : List TOp)
    (hv : ValidOps cfg s ops) (op : TOp) (hop : opOk (runC cfg s ops) op) (c : List Call)
    (hc : Cut (stepC cfg (runC cfg s ops) op).2 c) :
    ((openDisk (applyCalls (runC cfg s ops).disk c)).1.abs = specRun s.abs ops ∨
     (openDisk (applyCalls (runC cfg s ops).disk c)).1.abs = specOp (specRun s.abs ops) op) ∧
    Inv (openDisk (applyCalls (runC cfg s ops).disk c)).1 ∧
    (∀ k, get (openDisk (applyCalls (runC cfg s ops).disk c)).1 k ≠ .corrupt) ∧
    ReachL cfg (openDisk (applyCalls (runC cfg s ops).disk c)).1 := by
  have hr := reachL_runC ops h hv
  obtain ⟨_, e⟩ := runC_lj cfg ops (reachL_lj h) hv
  have := c03_lives_op_cut_partial cfg (runC cfg s ops) hr op hop c hc
  rw [e] at this
  exact this

/-- the acknowledged operations of a life act on the contents as on the abstract map, and the
    store stays reachable -/
theorem c03_lives_run (cfg : Cfg) (s : St) (h : ReachL cfg s) (ops : List TOp) (hv : ValidOps cfg s ops) :
    (runC cfg s ops).abs = specRun s.abs ops ∧ ReachL cfg (runC cfg s ops) :=
  ⟨(runC_lj cfg ops (reachL_lj h) hv).2, reachL_runC ops h hv⟩

/-- **C03 (lives), any number of lives.**  Starting from a fresh store, after any sequence of
    lives — each a list of acknowledged sets / deletes / reads / reopens / merge passes followed
    by a kill at any cut of one more operation (a merge pass included), then recovery — the store
    satisfies the invariant, never reads a bad location, and its contents are among those the
    specification allows: in every life all acknowledged operations applied, the one in flight
    applied or not. -/
theorem c03_lives_all_partial (cfg : Cfg) (lives : List Life) (hv : ValidLivesM cfg fresh lives) :
    SpecLives Map.empty lives (runLives cfg fresh lives).abs ∧ Inv (runLives cfg fresh lives) ∧
      (∀ k, get (runLives cfg fresh lives) k ≠ .corrupt) ∧ ReachL cfg (runLives cfg fresh lives) := by
  obtain ⟨a, b⟩ := runLives_specM cfg lives ReachL.fresh hv
  rw [fresh_abs] at b
  exact ⟨b, (reachL_lj a).inv, fun k => get_not_corrupt (reachL_lj a).inv k, a⟩

/-- the events the startup scan processes (ids ascending): of a file with a hint file only the
    accepted hint entries -/
def visEvs (d : Disk) : List Ev := (AL.keys d.data).flatMap (fileEvs d)

/-- the hazard condition restricted to what the scan sees: no absent key would be recovered by a
    startup scan of the unselected files -/
def NoHazardVis (s : St) (sel : List Nat) : Prop :=
  ∀ k, AL.get k s.keydir = none →
    replay ((visEvs s.disk).filter (fun e => decide (e.loc.fid ∉ sel))) k = none

/-- what the scan processes are the records of the visible part -/
theorem c03_lives_visEvs {d1 d : Disk} (h : Sim d1 d) (hx : HintsExact d1) (ha : Asc d1.data) :
    visEvs d = allEvs d1.data := by
  unfold visEvs
  rw [← flatMap_keys_allEvs ha, h.keys]
  apply flatMap_congr_mem
  intro fid _
  unfold fileEvs
  cases hg : AL.get fid d.hint with
  | none =>
    show evData fid (dataOf d fid) 0 = evData fid (dataOf d1 fid) 0
    rw [(h.file fid).unh hg]
  | some hs =>
    show hintEvs fid (accOf d fid hs) = evData fid (dataOf d1 fid) 0
    exact hx fid _ ((h.file fid).acc hs hg)

/-- **the hypothesis of the theorems above implies the visible one**: in a reachable state,
    `NoHazard s sel` (all records) implies `NoHazardVis s sel`; the converse fails
    (`c03_lives_visible_hazard_counterexample`).  In the states of Props/C03.lean (`ReachM`) the
    two coincide: there all records are visible. -/
theorem c03_lives_hazard_visible (cfg : Cfg) (s : St) (h : ReachL cfg s) (sel : List Nat)
    (hz : NoHazard s sel) : NoHazardVis s sel := by
  obtain ⟨d1, w⟩ := reachL_lj h
  have := noHazard_visible w.sim w.rinv.asc w.junk.vals hz
  intro k hk
  rw [c03_lives_visEvs w.sim w.rinv.hx w.rinv.asc]
  exact this k hk

theorem c03_lives_hazard_reachM (cfg : Cfg) (s : St) (h : ReachM cfg s) (sel : List Nat) :
    NoHazardVis s sel ↔ NoHazard s sel := by
  have hr := (reachM_rinv h).1
  have : visEvs s.disk = allEvs s.disk.data := c03_lives_visEvs (Sim.refl hr.hx) hr.hx hr.asc
  unfold NoHazardVis NoHazard
  rw [this]

/-- decidable sufficient condition for `NoHazardVis` (cf. `NoStaleValue`) -/
def NoStaleValueVis (s : St) (sel : List Nat) : Prop :=
  ∀ e ∈ (visEvs s.disk).filter (fun e => decide (e.loc.fid ∉ sel)),
    e.tomb = false → (AL.get e.key s.keydir).isSome = true

instance (s : St) (sel : List Nat) : Decidable (NoStaleValueVis s sel) :=
  inferInstanceAs (Decidable (∀ e ∈ (visEvs s.disk).filter (fun e => decide (e.loc.fid ∉ sel)),
    e.tomb = false → (AL.get e.key s.keydir).isSome = true))

theorem noHazardVis_of_noStaleValueVis {s : St} {sel : List Nat} (h : NoStaleValueVis s sel) :
    NoHazardVis s sel :=
  fun _ hk => replay_none_of_values (P := fun k => (AL.get k s.keydir).isSome = true) h (by rw [hk]; nofun)

/-- `selectFiles` on a concrete state (`List.mergeSort` does not reduce) -/
theorem selectFiles_eq {cfg : Cfg} {s : St} {l : List Nat}
    (h : (s.stats.filter fun (fid, st) =>
      st.deadBytes > cfg.deadBytes || fragGt st cfg.fragNum cfg.fragDen ||
        fileSize (dataOf s.disk fid) + (AL.get fid s.disk.tails).getD 0 < cfg.smallFile).map (·.1) = l)
    (hs : l.Pairwise (· ≤ ·)) : selectFiles cfg s = l := by
  unfold selectFiles
  simp only
  rw [h]
  apply List.mergeSort_of_pairwise
  exact hs.imp (fun hab => by simpa using hab)

/-! #### the counterexample

  Rollover after 30 bytes (two 27-byte records never fit one file), no "small file" selection.
  Life 1: `set [1] [10]`, `set [2] [20]` (both in file 0); a merge of file 0 is killed between the
  data append and the hint append of key `[2]`: output 2 holds both records, its hint file lists
  only `[1]`.  Recovery: `[1] ↦ file 2` (hint), `[2] ↦ file 0`.
  Life 2: `delete [2]`, `set [3] [30]` (file 3).  The store's own policy selects files 0 and 3 (all
  dead / fragmented); file 2 is not selected.  The scan sees no record of `[2]` outside the
  selection — the copy in file 2 is invisible — so the merge is hazard-free for the scan
  (`NoHazardVis`), and indeed merge + restart leaves `[2]` deleted.  It is NOT hazard-free for
  all records (`NoHazard`).  The merge drops the tombstone of `[2]` and the original record.
  Then `set [1] [11]`; now file 2 holds only dead entries by the counters, the policy selects it.
  The merge is killed after it has removed the hint file of file 2 and before it removes the data
  file: the next scan reads file 2 record by record and finds `[2] ↦ [20]`. -/

def hzCfg : Cfg := { maxFile := 30, smallFile := 0 }

/-- the merge of life 1 up to the data append of the second key -/
def hzCut1 : List Call :=
  [.create ⟨.data, 2⟩, .create ⟨.hint, 2⟩, .append ⟨.data, 2⟩ (.ofRec ⟨0, [1], some [10]⟩),
   .append ⟨.hint, 2⟩ (.ofHint ⟨0, 27, 0, [1]⟩), .append ⟨.data, 2⟩ (.ofRec ⟨0, [2], some [20]⟩)]

def hzS0 : St := runC hzCfg fresh [.put 0 [1] [10], .put 0 [2] [20]]
/-- after the kill and recovery -/
def hzS1 : St := (openDiskWith [0, 1, 2] (applyCalls hzS0.disk hzCut1)).1
def hzS2 : St := runC hzCfg hzS1 [.del 1 [2], .put 1 [3] [30]]
/-- after the merge with the store's own selection -/
def hzS3 : St := (merge hzCfg hzS2 [[1], [3]]).1
def hzS4 : St := runC hzCfg hzS3 [.put 2 [1] [11]]
/-- the second merge of life 2 up to the removal of the hint file of file 2 -/
def hzCut2 : List Call :=
  [.create ⟨.data, 7⟩, .create ⟨.hint, 7⟩, .fsync ⟨.data, 7⟩, .fsync ⟨.hint, 7⟩, .unlink ⟨.hint, 2⟩]
/-- after the second kill and recovery -/
def hzS5 : St := (openDiskWith [1, 2, 4, 5, 6, 7] (applyCalls hzS4.disk hzCut2)).1

theorem hz_sel2 : selectFiles hzCfg hzS2 = [0, 3] := selectFiles_eq (by decide) (by decide)

theorem hz_S3 : hzS3 = (mergeWith hzCfg hzS2 [0, 3] [[1], [3]]).1 := by
  unfold hzS3 merge; rw [hz_sel2]

theorem hz_S4 : hzS4 = runC hzCfg (mergeWith hzCfg hzS2 [0, 3] [[1], [3]]).1 [.put 2 [1] [11]] := by
  unfold hzS4; rw [hz_S3]

theorem hz_sel4 : selectFiles hzCfg hzS4 = [2] := by
  rw [hz_S4]; exact selectFiles_eq (by decide) (by decide)

/-- `hzS1` is what the kill in life 1 and the recovery leave; it is a reachable state -/
theorem hz_reach1 : (openDisk (applyCalls hzS0.disk hzCut1)).1 = hzS1 ∧ ReachL hzCfg hzS1 := by
  have e : (openDisk (applyCalls hzS0.disk hzCut1)).1 = hzS1 := by
    rw [openDisk_eq_with (by decide)]; rfl
  refine ⟨e, ?_⟩
  rw [← e]
  have h0 : ReachL hzCfg hzS0 := reachL_runC _ .fresh ⟨trivial, trivial, trivial⟩
  exact .crash (.merge [0] [[1], [2]]) hzCut1 h0
    ⟨by decide, by decide, by decide, noHazard_of_noStaleValue (by decide)⟩
    (.boundary _ [.append ⟨.hint, 2⟩ (.ofHint ⟨0, 27, 27, [2]⟩), .fsync ⟨.data, 2⟩, .fsync ⟨.hint, 2⟩,
      .create ⟨.data, 3⟩, .create ⟨.hint, 3⟩, .fsync ⟨.data, 3⟩, .fsync ⟨.hint, 3⟩, .unlink ⟨.data, 0⟩,
      .create ⟨.data, 4⟩] (by decide))

/-- **The hazard hypothesis cannot be weakened to what the scan sees.**
    `hzS2` is reachable (life 1 ended by a kill inside a merge pass, then a delete and a set).
    1. Its merge pass — with the selection `[0, 3]` the store's own policy makes — satisfies every
       side condition of `opOk` with `NoHazard` replaced by `NoHazardVis`; merge followed by a
       restart leaves the deleted key `[2]` deleted.  `NoHazard hzS2 [0, 3]` itself is false.
    2. After one more set, the next merge pass (again the policy's selection, `[2]`: the stale
       output) satisfies every side condition, even `NoHazard`.
    3. A kill of that merge pass after the removal of the hint file of file 2 (`hzCut2`), and
       recovery, resurrect the deleted key: `[2]` reads `[20]`. -/
theorem c03_lives_visible_hazard_counterexample :
    ReachL hzCfg hzS2 ∧
    -- 1.
    selectFiles hzCfg hzS2 = [0, 3] ∧ (∀ id, id ∈ [0, 3] → id ≤ hzS2.active) ∧ Covers [[1], [3]] hzS2 ∧
    NoHazardVis hzS2 [0, 3] ∧ ¬ NoHazard hzS2 [0, 3] ∧
    get hzS2 [2] = .absent ∧ get (reopen hzS3).1 [2] = .absent ∧
    -- 2.
    selectFiles hzCfg hzS4 = [2] ∧ (∀ id, id ∈ [2] → id ≤ hzS4.active) ∧ Covers [[1], [3]] hzS4 ∧
    NoHazardVis hzS4 [2] ∧ NoHazard hzS4 [2] ∧
    -- 3.
    Cut (merge hzCfg hzS4 [[1], [3]]).2 hzCut2 ∧ (openDisk (applyCalls hzS4.disk hzCut2)).1 = hzS5 ∧
    get hzS4 [2] = .absent ∧ get hzS5 [2] = .value [20] := by
  refine ⟨reachL_runC _ hz_reach1.2 ⟨trivial, trivial, trivial⟩, hz_sel2, by decide, by decide,
    noHazardVis_of_noStaleValueVis (by decide), ?_, by decide, ?_, hz_sel4, ?_, ?_, ?_, ?_, ?_, ?_, ?_, ?_⟩
  · intro h
    have := h [2] (by decide)
    revert this
    decide
  · rw [hz_S3]
    show get (openDisk _).1 [2] = .absent
    rw [openDisk_eq_with (by decide)]
    decide
  · rw [hz_S4]; decide
  · rw [hz_S4]; decide
  · rw [hz_S4]; exact noHazardVis_of_noStaleValueVis (by decide)
  · rw [hz_S4]; exact noHazard_of_noStaleValue (by decide)
  · unfold merge
    rw [hz_sel4, hz_S4]
    exact .boundary _ [.unlink ⟨.data, 2⟩, .create ⟨.data, 8⟩] (by decide)
  · rw [openDisk_eq_with (by rw [hz_S4]; decide)]
    unfold hzS5
    rw [hz_S4]
    rfl
  · rw [hz_S4]; decide
  · unfold hzS5; rw [hz_S4]; decide

def lvCfg : Cfg := { maxFile := 30 }

/-- life 1: two sets (file 0), then a merge of file 0 that is killed between the data append and
    the hint append of key `[2]` -/
def lvCut1 : List Call :=
  [.create ⟨.data, 2⟩, .create ⟨.hint, 2⟩, .append ⟨.data, 2⟩ (.ofRec ⟨0, [1], some [10]⟩),
   .append ⟨.hint, 2⟩ (.ofHint ⟨0, 27, 0, [1]⟩), .append ⟨.data, 2⟩ (.ofRec ⟨0, [2], some [20]⟩)]

def lvLife1 : Life := ⟨[.put 0 [1] [10], .put 0 [2] [20]], .merge [0] [[1], [2]], lvCut1⟩

/-- the directory the kill leaves: output 2 holds two records, its hint file lists one -/
def lvD1 : Disk :=
  { data := [(0, [⟨0, [1], some [10]⟩, ⟨0, [2], some [20]⟩]), (1, []), (2, [⟨0, [1], some [10]⟩, ⟨0, [2], some [20]⟩])],
    hint := [(2, [⟨0, 27, 0, [1]⟩])], tails := [] }

def lvS1 : St := (openDiskWith [0, 1, 2] lvD1).1

theorem lv_crash1 : crashLife lvCfg fresh lvLife1 = lvS1 := by
  have hd : applyCalls (runC lvCfg fresh lvLife1.acked).disk lvLife1.cut = lvD1 := rfl
  unfold crashLife
  rw [hd, openDisk_eq_with (by decide)]
  rfl

/-- life 2: two writes, then a second merge — of file 0 AND the stale output 2 — that is killed
    after it has removed the hint file of the stale output and before it removes its data file -/
def lvCut2 : List Call :=
  [.create ⟨.data, 5⟩, .create ⟨.hint, 5⟩, .append ⟨.data, 5⟩ (.ofRec ⟨0, [1], some [10]⟩),
   .append ⟨.hint, 5⟩ (.ofHint ⟨0, 27, 0, [1]⟩), .fsync ⟨.data, 5⟩, .fsync ⟨.hint, 5⟩, .unlink ⟨.data, 0⟩,
   .unlink ⟨.hint, 2⟩]

def lvLife2 : Life := ⟨[.put 1 [3] [30], .put 1 [2] [21]], .merge [0, 2] [[1], [2], [3]], lvCut2⟩

theorem lv_valid1 : ValidLifeM lvCfg fresh lvLife1 :=
  ⟨⟨trivial, trivial, trivial⟩, ⟨by decide, by decide, by decide, noHazard_of_noStaleValue (by decide)⟩,
   .boundary _ [.append ⟨.hint, 2⟩ (.ofHint ⟨0, 27, 27, [2]⟩), .fsync ⟨.data, 2⟩, .fsync ⟨.hint, 2⟩,
     .create ⟨.data, 3⟩, .create ⟨.hint, 3⟩, .fsync ⟨.data, 3⟩, .fsync ⟨.hint, 3⟩, .unlink ⟨.data, 0⟩,
     .create ⟨.data, 4⟩] (by decide)⟩

theorem lv_valid2 : ValidLifeM lvCfg lvS1 lvLife2 :=
  ⟨⟨trivial, trivial, trivial⟩, ⟨by decide, by decide, by decide, noHazard_of_noStaleValue (by decide)⟩,
   .boundary _ [.unlink ⟨.data, 2⟩, .create ⟨.data, 6⟩] (by decide)⟩

/-- the hypotheses of `c03_lives_all_partial` are satisfiable by a two-life history with a kill
    between the data append and the hint append of a merge, then writes and a second merge
    (which is killed in the window where the stale output's unlisted record becomes visible) -/
example : ValidLivesM lvCfg fresh [lvLife1, lvLife2] := by
  refine ⟨lv_valid1, ?_, trivial⟩
  rw [lv_crash1]
  exact lv_valid2

/-- `lvS1` (recovered from the kill inside the merge) is a reachable state of this file, and it is
    NOT a state of the crash-free-merge theory: its hint files are not exact -/
theorem lv_reach1 : ReachL lvCfg lvS1 := by
  rw [← lv_crash1]
  exact (crashLife_specM lvCfg .fresh lvLife1 lv_valid1).1

example : ¬ HintsExact lvS1.disk := by
  intro h
  have := h 2 [⟨0, 27, 0, [1]⟩] (by decide)
  revert this
  decide

/-- the hypotheses of `c03_lives_merge_partial` / `c03_lives_op_cut_partial` /
    `c03_lives_merge_cut_prefixes_partial` are satisfiable in the second life -/
example : ReachL lvCfg lvS1 ∧ ValidOps lvCfg lvS1 lvLife2.acked ∧
    opOk (runC lvCfg lvS1 lvLife2.acked) lvLife2.inflight ∧
    Cut (stepC lvCfg (runC lvCfg lvS1 lvLife2.acked) lvLife2.inflight).2 lvCut2 :=
  ⟨lv_reach1, lv_valid2.1, lv_valid2.2.1, lv_valid2.2.2⟩

example : ∀ done, done <+: [0, 2] → NoHazard (runC lvCfg lvS1 lvLife2.acked) done := by
  have hall : ∀ e ∈ allEvs (runC lvCfg lvS1 lvLife2.acked).disk.data, e.tomb = false →
      (AL.get e.key (runC lvCfg lvS1 lvLife2.acked).keydir).isSome = true := by decide
  intro done _
  apply noHazard_of_noStaleValue
  intro e he ht
  exact hall e (List.mem_filter.mp he).1 ht

/-- in that instance the second recovery finds the unlisted record of the stale output; it is
    shadowed by the newer record of its key -/
example : get (runLives lvCfg fresh [lvLife1, lvLife2]) [2] = .value [21] ∧
    get (runLives lvCfg fresh [lvLife1, lvLife2]) [1] = .value [10] ∧
    get (runLives lvCfg fresh [lvLife1, lvLife2]) [3] = .value [30] := by
  show get (crashLife lvCfg (crashLife lvCfg fresh lvLife1) lvLife2) [2] = _ ∧
    get (crashLife lvCfg (crashLife lvCfg fresh lvLife1) lvLife2) [1] = _ ∧
    get (crashLife lvCfg (crashLife lvCfg fresh lvLife1) lvLife2) [3] = _
  rw [lv_crash1]
  unfold crashLife
  rw [openDisk_eq_with (by decide)]
  decide

/-- hypotheses of `c03_lives_hazard_visible` / `c03_lives_hazard_reachM`: `lvS1` with selection `[0]` -/
example : ReachL lvCfg lvS1 ∧ NoHazard lvS1 [0] := ⟨lv_reach1, noHazard_of_noStaleValue (by decide)⟩

example : ReachM lvCfg (runC lvCfg fresh lvLife1.acked) := reachM_runC _ .fresh ⟨trivial, trivial, trivial⟩

/-- hypothesis of `c03_lives_hintsExact_prefix`: the directory after a complete merge pass (one
    output with a non-empty, exact hint file) -/
example : HintsExact (mergeWith lvCfg (runC lvCfg fresh lvLife1.acked) [0] [[1], [2]]).1.disk :=
  (reach_rinv (.merge [0] [[1], [2]] (.put 0 [2] [20] (.put 0 [1] [10] .fresh)) (by decide) (by decide))).hx

/-- hypotheses of `c03_lives_visEvs`: the visible part of `lvS1` -/
example : ∃ d1, Sim d1 lvS1.disk ∧ HintsExact d1 ∧ Asc d1.data :=
  let ⟨d1, w⟩ := reachL_lj lv_reach1
  ⟨d1, w.sim, w.rinv.hx, w.rinv.asc⟩

/-- hypothesis of `noHazardVis_of_noStaleValueVis` (decidable), on the counterexample's state -/
example : NoStaleValueVis hzS2 [0, 3] := by decide

end Store
