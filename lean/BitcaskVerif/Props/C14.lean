/-
  C14 — data and hint files are append-only and immutable, ids only grow.

  The model's call alphabet (`Call.create / append / fsync / unlink`) is what encodes "never
  truncated, renamed or reopened for writing"; the correspondence checks that the real code issues
  nothing else.  The theorems below are about the effect trace of every run of the model
  (put / delete / get / merge with any selection up to the active id and any iteration order /
  reopen), from a freshly created store or from any state satisfying the id invariant `IdInv`.
-/
import BitcaskVerif.Store.SizeAll
import BitcaskVerif.Store.TraceDir
import BitcaskVerif.Store.TraceFault

namespace Store
open Store.Tr
/-- **C14 (monitor form).** From every state satisfying the id invariant, the trace monitor accepts
    the annotated trace of every valid run: all three verdicts stay `true`, and at the end the
    bound (one above the largest id ever used) is one above the active id, whose file exists. -/
theorem c14_monitor (cfg : Cfg) (s : St) (ops : List TOp) (h : IdInv s) (hv : ValidC cfg s ops) :
    ((Mon.start s.active).run (evsOf cfg s ops)).okFresh = true ∧
    ((Mon.start s.active).run (evsOf cfg s ops)).okOwn = true ∧
    ((Mon.start s.active).run (evsOf cfg s ops)).okTop = true ∧
    ((Mon.start s.active).run (evsOf cfg s ops)).bound = (runC cfg s ops).active + 1 ∧
    (AL.get (runC cfg s ops).active (runC cfg s ops).disk.data).isSome := by
  have hc := run_coup cfg ops s (Mon.start s.active) ⟨h, monOk_start _⟩ hv
  exact ⟨hc.mon.okF, hc.mon.okO, hc.mon.okT, hc.mon.bound, hc.inv.act⟩

/-- **C14 (fresh ids, data files).** Every `create` of a data file in the trace uses an id greater
    than every data and hint id present at the start and greater than the id of every file created
    earlier in the trace. -/
theorem c14_fresh_id (cfg : Cfg) (s : St) (ops : List TOp) (h : IdInv s) (hv : ValidC cfg s ops)
    (pre post : List Call) (id : Nat) (ht : traceOf cfg s ops = pre ++ Call.create ⟨.data, id⟩ :: post) :
    (∀ id0, id0 ∈ AL.keys s.disk.data → id0 < id) ∧ (∀ id0, id0 ∈ AL.keys s.disk.hint → id0 < id) ∧
    (∀ g, Call.create g ∈ pre → g.id < id) := by
  obtain ⟨okF, _⟩ := c14_monitor cfg s ops h hv
  rw [← callsOf_evsOf] at ht
  obtain ⟨pre', post', he, hp, _⟩ := callsOf_split _ _ _ _ ht
  obtain ⟨h1, h2⟩ := mon_fresh_data _ _ okF pre' post' id he
  have hb : s.active < id := h1
  exact ⟨fun id0 h0 => Nat.lt_of_le_of_lt (h.ids id0 h0) hb,
    fun id0 h0 => Nat.lt_of_le_of_lt (h.ids id0 (h.hsub id0 h0)) hb,
    fun g hg => h2 g (mem_callsOf.mp (hp ▸ hg))⟩

/-- **C14 (fresh ids, hint files).** Every `create` of a hint file directly follows the `create`
    of the data file with the same id (so, by `c14_fresh_id`, that id is fresh as well). -/
theorem c14_fresh_hint (cfg : Cfg) (s : St) (ops : List TOp) (h : IdInv s) (hv : ValidC cfg s ops)
    (pre post : List Call) (id : Nat) (ht : traceOf cfg s ops = pre ++ Call.create ⟨.hint, id⟩ :: post) :
    ∃ pre', pre = pre' ++ [Call.create ⟨.data, id⟩] := by
  obtain ⟨okF, _⟩ := c14_monitor cfg s ops h hv
  rw [← callsOf_evsOf] at ht
  obtain ⟨pre', post', he, hp, _⟩ := callsOf_split _ _ _ _ ht
  rcases mon_fresh_hint _ _ okF pre' post' id he with ⟨_, hl⟩ | ⟨p, hp'⟩
  · cases hl
  · refine ⟨callsOf p, ?_⟩
    rw [← hp, hp', callsOf_append]; rfl

/-- the id of a created hint file is fresh too: above every id present at the start and above the
    id of every file created before its data file -/
theorem c14_fresh_hint_id (cfg : Cfg) (s : St) (ops : List TOp) (h : IdInv s) (hv : ValidC cfg s ops)
    (pre post : List Call) (id : Nat) (ht : traceOf cfg s ops = pre ++ Call.create ⟨.hint, id⟩ :: post) :
    ∃ pre', pre = pre' ++ [Call.create ⟨.data, id⟩] ∧
      (∀ id0, id0 ∈ AL.keys s.disk.data → id0 < id) ∧ (∀ id0, id0 ∈ AL.keys s.disk.hint → id0 < id) ∧
      (∀ g, Call.create g ∈ pre' → g.id < id) := by
  obtain ⟨pre', hp⟩ := c14_fresh_hint cfg s ops h hv pre post id ht
  refine ⟨pre', hp, ?_⟩
  apply c14_fresh_id cfg s ops h hv pre' (Call.create ⟨.hint, id⟩ :: post) id
  rw [ht, hp]; simp

/-- **C14 (own appends).** In the trace that starts with the creation of the active file of the
    current life, every `append f` is preceded, since the last restart, by `create f` and by no
    `unlink f`: a file is only ever extended by the process that created it, and never after it
    was removed.  (`lastLife pre` is the suffix of `pre` after its last `restart`: `lastLife_spec`.) -/
theorem c14_appends_own (cfg : Cfg) (s : St) (ops : List TOp) (h : IdInv s) (hv : ValidC cfg s ops)
    (pre post : List TEv) (f : FName) (p : Payload)
    (ht : TEv.call (.create ⟨.data, s.active⟩) :: evsOf cfg s ops = pre ++ TEv.call (.append f p) :: post) :
    TEv.call (.create f) ∈ lastLife pre ∧ TEv.call (.unlink f) ∉ lastLife pre := by
  have hc := run_coup cfg ops s (Mon.init s.active) (coup_init h) hv
  have hok : (({} : Mon).run (TEv.call (.create ⟨.data, s.active⟩) :: evsOf cfg s ops)).okOwn = true := hc.mon.okO
  exact mon_own {} rfl rfl _ hok pre post f p ht

/-- the same under the name used in DESIGN.md -/
theorem c14_own_appends (cfg : Cfg) (s : St) (ops : List TOp) (h : IdInv s) (hv : ValidC cfg s ops)
    (pre post : List TEv) (f : FName) (p : Payload)
    (ht : TEv.call (.create ⟨.data, s.active⟩) :: evsOf cfg s ops = pre ++ TEv.call (.append f p) :: post) :
    TEv.call (.create f) ∈ lastLife pre ∧ TEv.call (.unlink f) ∉ lastLife pre :=
  c14_appends_own cfg s ops h hv pre post f p ht

/-- **C14 (the largest id is never removed).** Every `unlink f` in the trace removes a file whose id
    is below the active id at the start or below the id of a file created earlier in the trace:
    the file with the largest id ever used stays in the directory, so `max + 1` at any later
    open is fresh. -/
theorem c14_top_never_removed (cfg : Cfg) (s : St) (ops : List TOp) (h : IdInv s) (hv : ValidC cfg s ops)
    (pre post : List TEv) (f : FName) (ht : evsOf cfg s ops = pre ++ TEv.call (.unlink f) :: post) :
    f.id < s.active ∨ ∃ g, TEv.call (.create g) ∈ pre ∧ f.id < g.id := by
  obtain ⟨_, _, okT, _⟩ := c14_monitor cfg s ops h hv
  have h1 := mon_top _ _ okT pre post f ht
  rcases Mon.run_bound_witness pre (Mon.start s.active) with e | ⟨g, hg, e⟩
  · rw [e] at h1; exact .inl (Nat.lt_of_succ_lt_succ h1)
  · rw [e] at h1; exact .inr ⟨g, hg, Nat.lt_of_succ_lt_succ h1⟩

/-- **C14 (exclusive creation).** No file name is created twice in a trace, and no created name
    has an id that was in the directory at the start: every `create` is the creation of a new
    file. -/
theorem c14_create_once (cfg : Cfg) (s : St) (ops : List TOp) (h : IdInv s) (hv : ValidC cfg s ops)
    (pre post : List Call) (f : FName) (ht : traceOf cfg s ops = pre ++ Call.create f :: post) :
    Call.create f ∉ pre ∧ f.id ∉ AL.keys s.disk.data ∧ f.id ∉ AL.keys s.disk.hint := by
  obtain ⟨kd, id⟩ := f
  cases kd with
  | data =>
    obtain ⟨h1, h2, h3⟩ := c14_fresh_id cfg s ops h hv pre post id ht
    exact ⟨fun hc => Nat.lt_irrefl _ (h3 _ hc), fun hc => Nat.lt_irrefl _ (h1 _ hc),
      fun hc => Nat.lt_irrefl _ (h2 _ hc)⟩
  | hint =>
    obtain ⟨pre', hp, h1, h2, h3⟩ := c14_fresh_hint_id cfg s ops h hv pre post id ht
    refine ⟨?_, fun hc => Nat.lt_irrefl _ (h1 _ hc), fun hc => Nat.lt_irrefl _ (h2 _ hc)⟩
    intro hc
    rw [hp] at hc
    rcases List.mem_append.mp hc with e | e
    · exact Nat.lt_irrefl _ (h3 _ e)
    · simp at e

/-- **C14 (crashes).** At every call boundary of a run — wherever a crash may cut it — the
    directory (the data-file ids at the start, plus those created, minus those unlinked so far)
    contains a data file `top` whose id is at least every id in the directory, every id created
    so far and every id present at the start.  Whatever the crash leaves of the file contents, the
    next open therefore chooses `top + 1`, greater than every id ever used. -/
theorem c14_crash_top (cfg : Cfg) (s : St) (ops : List TOp) (h : IdInv s) (hv : ValidC cfg s ops)
    (pre post : List TEv) (ht : evsOf cfg s ops = pre ++ post) :
    ∃ top, top ∈ dirAfter (AL.keys s.disk.data) pre ∧
      (∀ x, x ∈ dirAfter (AL.keys s.disk.data) pre → x ≤ top) ∧
      (∀ g, TEv.call (.create g) ∈ pre → g.id ≤ top) ∧
      (∀ id0, id0 ∈ AL.keys s.disk.data → id0 ≤ top) ∧ (∀ id0, id0 ∈ AL.keys s.disk.hint → id0 ≤ top) := by
  obtain ⟨okF, _, okT, _⟩ := c14_monitor cfg s ops h hv
  have hd : DirTop s.active (Mon.start s.active) (AL.keys s.disk.data) :=
    ⟨rfl, h.top.mem, h.ids, fun _ hl => nomatch hl⟩
  obtain ⟨top, t1, t2, t3, t4⟩ := mon_dir_top _ _ hd _ pre post ht okF okT
  have hb : s.active ≤ top := Nat.le_of_succ_le_succ t4
  exact ⟨top, t1, t2, t3, fun id0 h0 => Nat.le_trans (h.ids id0 h0) hb,
    fun id0 h0 => Nat.le_trans (h.ids id0 (h.hsub id0 h0)) hb⟩

/-! ### from a freshly created store (`fullEvs`: the trace starts with the `create` of file 0) -/

/-- `c14_fresh_id` for runs from the fresh store: every created data file has an id above 0 (the
    id of the file present at the start) and above every id created earlier -/
theorem c14_fresh_id_fresh (cfg : Cfg) (ops : List TOp) (hv : ValidC cfg fresh ops)
    (pre post : List Call) (id : Nat) (ht : traceOf cfg fresh ops = pre ++ Call.create ⟨.data, id⟩ :: post) :
    0 < id ∧ ∀ g, Call.create g ∈ pre → g.id < id :=
  ⟨(c14_fresh_id cfg fresh ops fresh_idinv hv pre post id ht).1 0 (by simp [fresh, AL.keys]),
   (c14_fresh_id cfg fresh ops fresh_idinv hv pre post id ht).2.2⟩

/-- **C14 from an empty directory**: ids are fresh over the whole history, including the very
    first file. -/
theorem c14_fresh_id_full (cfg : Cfg) (ops : List TOp) (hv : ValidC cfg fresh ops)
    (pre post : List TEv) (id : Nat) (ht : fullEvs cfg ops = pre ++ TEv.call (.create ⟨.data, id⟩) :: post) :
    ∀ g, TEv.call (.create g) ∈ pre → g.id < id := by
  have hc := run_coup cfg ops fresh (Mon.init 0) (coup_init fresh_idinv) hv
  have hok : (({} : Mon).run (fullEvs cfg ops)).okFresh = true := by
    simp only [fullEvs, open_empty_calls]; exact hc.mon.okF
  exact (mon_fresh_data {} _ hok pre post id ht).2

theorem c14_appends_own_full (cfg : Cfg) (ops : List TOp) (hv : ValidC cfg fresh ops)
    (pre post : List TEv) (f : FName) (p : Payload)
    (ht : fullEvs cfg ops = pre ++ TEv.call (.append f p) :: post) :
    TEv.call (.create f) ∈ lastLife pre ∧ TEv.call (.unlink f) ∉ lastLife pre := by
  apply c14_appends_own cfg fresh ops fresh_idinv hv pre post f p
  rw [← ht]; simp only [fullEvs, open_empty_calls]; rfl

/-! ### sizes (`Reach`: states reachable from a fresh store by valid runs, reopen included) -/

/-- **C14 (size bound).** In every reachable state — i.e. at the start of every write — the byte
    counter is at most the configured maximum and is the real length of the active file, which has
    no crash tail; so a data file exceeds the maximum by at most the one entry that triggers the
    rollover. -/
theorem c14_size_bound (cfg : Cfg) (s : St) (h : Reach cfg s) :
    s.written ≤ cfg.maxFile ∧ s.written = fileSize (dataOf s.disk s.active) ∧
      (AL.get s.active s.disk.tails).getD 0 = 0 := by
  obtain ⟨ops, hv, rfl⟩ := h
  have h1 := run_sz cfg ops fresh (fresh_sz cfg)
  exact ⟨h1.le, h1.eq, (run_idinv cfg ops fresh fresh_idinv hv).no_tail⟩

/-- the same under the name used in DESIGN.md -/
theorem c14_size (cfg : Cfg) (s : St) (h : Reach cfg s) :
    s.written ≤ cfg.maxFile ∧ s.written = fileSize (dataOf s.disk s.active) ∧
      (AL.get s.active s.disk.tails).getD 0 = 0 := c14_size_bound cfg s h

/-- the same from any state satisfying the invariants (e.g. after recovery) -/
theorem c14_size_bound_from (cfg : Cfg) (s : St) (ops : List TOp) (h : IdInv s) (hs : SzInv cfg s)
    (hv : ValidC cfg s ops) :
    (runC cfg s ops).written ≤ cfg.maxFile ∧
      (runC cfg s ops).written = fileSize (dataOf (runC cfg s ops).disk (runC cfg s ops).active) ∧
      (AL.get (runC cfg s ops).active (runC cfg s ops).disk.tails).getD 0 = 0 :=
  ⟨(run_sz cfg ops s hs).le, (run_sz cfg ops s hs).eq, (run_idinv cfg ops s h hv).no_tail⟩

/-- **C14 (merge outputs).** Before every copy of a merge pass the bytes written to the current
    output are at most the configured maximum. -/
theorem c14_merge_output_bound (cfg : Cfg) (s : St) (sel : List Nat) (order ks1 ks2 : List Key) (k : Key)
    (_hk : order = ks1 ++ k :: ks2) :
    (ks1.foldl (mergeStep cfg sel) (mergeInit s)).mpos ≤ cfg.maxFile :=
  mergeFold_mpos_le cfg sel ks1 _ (Nat.zero_le _)

/-- **C14 (no file grows beyond the maximum by more than one entry).** After every history of
    put / delete / get / merge from a fresh store, every data file in the directory — active,
    rolled over, or merge output — is at most `maxFile` bytes long without its last entry. -/
theorem c14_size_all (cfg : Cfg) (ops : List Op) (hv : ValidFrom cfg fresh ops)
    (id : Nat) (rs : List Rec) (hf : AL.get id (run cfg fresh ops).1.disk.data = some rs) :
    fileSize rs.dropLast ≤ cfg.maxFile :=
  run_allSz cfg ops fresh fresh_inv (fresh_sz cfg) (fresh_allSz cfg) hv id rs hf

/-- the same from any state that satisfies the invariants, e.g. a recovered one -/
theorem c14_size_all_from (cfg : Cfg) (s : St) (ops : List Op) (h : Inv s) (hs : SzInv cfg s)
    (ha : AllSz cfg s.disk.data) (hv : ValidFrom cfg s ops) : AllSz cfg (run cfg s ops).1.disk.data :=
  run_allSz cfg ops s h hs ha hv

/- With `reopen` in the history the statement of `c14_size_all` needs `Inv` after the reopen: a merge
   copies `loc.len` bytes per entry and the bound on its outputs uses that this is the record's
   length.  `Inv (reopen s).1` follows from `RInv s` (`reopen_rinv` in `Store/RecInv.lean`; with
   `Full s` also `(reopen s).1.abs = s.abs`, `reopen_abs`), which `run_allSz` does not carry along.
   `stepC_allSz` is the per-operation form that only asks for `Inv` at the start of each merge;
   `reopen` itself keeps `AllSz` and `SzInv` unconditionally (`reopen_allSz`, `reopen_sz`). -/

/-! ### across failed writes (the fault model of C20) -/

/-- **C14 across faults.** The same holds when any of the writes of a run fails with any of the
    faults of `Store/FaultModel.lean` (the writer then continues in a fresh file `active + 1`, or
    in the same file): ids are fresh, hint files follow their data files, every append goes to a
    file created in the same life and not removed, the newest file is never removed. -/
theorem c14_faults (cfg : Cfg) (s : St) (ops : List XOp) (h : IdInv s) (hv : ValidX cfg s ops) :
    (∀ pre post id, TEv.call (.create ⟨.data, s.active⟩) :: evsOfX cfg s ops = pre ++ TEv.call (.create ⟨.data, id⟩) :: post →
      ∀ g, TEv.call (.create g) ∈ pre → g.id < id) ∧
    (∀ pre post id, TEv.call (.create ⟨.data, s.active⟩) :: evsOfX cfg s ops = pre ++ TEv.call (.create ⟨.hint, id⟩) :: post →
      ∃ pre', pre = pre' ++ [TEv.call (.create ⟨.data, id⟩)]) ∧
    (∀ pre post f p, TEv.call (.create ⟨.data, s.active⟩) :: evsOfX cfg s ops = pre ++ TEv.call (.append f p) :: post →
      TEv.call (.create f) ∈ lastLife pre ∧ TEv.call (.unlink f) ∉ lastLife pre) ∧
    (∀ pre post f, TEv.call (.create ⟨.data, s.active⟩) :: evsOfX cfg s ops = pre ++ TEv.call (.unlink f) :: post →
      ∃ g, TEv.call (.create g) ∈ pre ∧ f.id < g.id) ∧
    IdInv (runX cfg s ops) := by
  have hc := runX_coup cfg ops s (Mon.init s.active) (coup_init h) hv
  have hm : MonOk _ (({} : Mon).run (TEv.call (.create ⟨.data, s.active⟩) :: evsOfX cfg s ops)) := hc.mon
  refine ⟨fun pre post id ht => (mon_fresh_data {} _ hm.okF pre post id ht).2, ?_,
    fun pre post f p ht => mon_own {} rfl rfl _ hm.okO pre post f p ht, ?_, hc.inv⟩
  · intro pre post id ht
    rcases mon_fresh_hint {} _ hm.okF pre post id ht with ⟨_, hl⟩ | hp
    · cases hl
    · exact hp
  · intro pre post f ht
    have h1 := mon_top {} _ hm.okT pre post f ht
    rcases Mon.run_bound_witness pre ({} : Mon) with e | ⟨g, hg, e⟩
    · rw [e] at h1; exact absurd h1 (Nat.not_lt_zero _)
    · rw [e] at h1; exact ⟨g, hg, Nat.lt_of_succ_lt_succ h1⟩

def c14Cfg : Cfg := { maxFile := 60 }
def c14Ops : List TOp :=
  [.put 1 [1] [10], .put 2 [2] [20], .put 3 [1] [11], .del 4 [2], .merge [0, 1] [[1], [2]],
   .put 5 [3] [30], .reopen, .put 6 [4] [40]]

example : ValidC c14Cfg fresh c14Ops := by
  simp only [c14Ops, ValidC, and_true, true_and]
  decide

example : traceOf c14Cfg fresh (c14Ops.take 6) =
    [.append ⟨.data, 0⟩ (.ofRec ⟨1, [1], some [10]⟩), .append ⟨.data, 0⟩ (.ofRec ⟨2, [2], some [20]⟩),
     .append ⟨.data, 0⟩ (.ofRec ⟨3, [1], some [11]⟩), .create ⟨.data, 1⟩,
     .append ⟨.data, 1⟩ (.ofRec ⟨4, [2], none⟩),
     .create ⟨.data, 2⟩, .create ⟨.hint, 2⟩,
     .append ⟨.data, 2⟩ (.ofRec ⟨3, [1], some [11]⟩), .append ⟨.hint, 2⟩ (.ofHint ⟨3, 27, 0, [1]⟩),
     .fsync ⟨.data, 2⟩, .fsync ⟨.hint, 2⟩, .unlink ⟨.data, 0⟩, .unlink ⟨.data, 1⟩, .create ⟨.data, 3⟩,
     .append ⟨.data, 3⟩ (.ofRec ⟨5, [3], some [30]⟩)] := by decide

/-- the monitor accepts the demo trace ... -/
example : ((({} : Mon).run (TEv.call (.create ⟨.data, 0⟩) :: evsOf c14Cfg fresh (c14Ops.take 6))).okFresh,
           (({} : Mon).run (TEv.call (.create ⟨.data, 0⟩) :: evsOf c14Cfg fresh (c14Ops.take 6))).okOwn,
           (({} : Mon).run (TEv.call (.create ⟨.data, 0⟩) :: evsOf c14Cfg fresh (c14Ops.take 6))).okTop,
           (({} : Mon).run (TEv.call (.create ⟨.data, 0⟩) :: evsOf c14Cfg fresh (c14Ops.take 6))).bound)
    = (true, true, true, 4) := by decide

/-- ... and rejects a reused id, a hint file without its data file, an append to a file of an
    earlier life, an append after unlink, and the removal of the newest file -/
example : (({} : Mon).run [.call (.create ⟨.data, 1⟩), .call (.create ⟨.data, 1⟩)]).okFresh = false := by decide
example : (({} : Mon).run [.call (.create ⟨.data, 1⟩), .call (.create ⟨.hint, 2⟩)]).okFresh = false := by decide
example : (({} : Mon).run [.call (.create ⟨.data, 1⟩), .restart, .call (.append ⟨.data, 1⟩ (.raw []))]).okOwn = false := by
  decide
example : (({} : Mon).run [.call (.create ⟨.data, 1⟩), .call (.unlink ⟨.data, 1⟩),
    .call (.append ⟨.data, 1⟩ (.raw []))]).okOwn = false := by decide
example : (({} : Mon).run [.call (.create ⟨.data, 1⟩), .call (.unlink ⟨.data, 1⟩)]).okTop = false := by decide

end Store
