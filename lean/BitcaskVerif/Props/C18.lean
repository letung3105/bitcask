/-
  C18 — background merge and sync follow the configured policy.
  Decision logic stated outright over the model's `canMerge` (the function the driver evaluates
  against `Context::can_merge` of the real store), and the timer bound.
-/
import BitcaskVerif.Conc.Background
import BitcaskVerif.Store.Model

namespace Store

/-- `Context::can_merge` spelled out: the policy allows a merge now, and some file's dead bytes or
    fragmentation exceed their trigger -/
theorem canMerge_iff (cfg : Cfg) (s : St) :
    canMerge cfg s = true ↔ cfg.policyAlways = true ∧
      ∃ f st, (f, st) ∈ s.stats ∧
        (st.deadBytes > cfg.trigDeadBytes ∨ fragGt st cfg.trigFragNum cfg.trigFragDen = true) := by
  simp only [canMerge, Bool.and_eq_true, List.any_eq_true, Bool.or_eq_true, decide_eq_true_eq, Prod.exists]

/-- **C18 (policy never).** With merge policy `never` (or a window that does not contain the
    current hour) the trigger check never asks for a merge, whatever the counters say. -/
theorem c18_never (cfg : Cfg) (s : St) (h : cfg.policyAlways = false) : canMerge cfg s = false := by
  rw [canMerge, h, Bool.false_and]

/-- **C18 (policy always).** With policy `always` a merge is requested exactly when some file's
    dead bytes exceed the dead-bytes trigger or its fragmentation exceeds the fragmentation
    trigger. -/
theorem c18_always_iff (cfg : Cfg) (s : St) (h : cfg.policyAlways = true) :
    canMerge cfg s = true ↔
      ∃ f st, (f, st) ∈ s.stats ∧
        (st.deadBytes > cfg.trigDeadBytes ∨ fragGt st cfg.trigFragNum cfg.trigFragDen = true) :=
  (canMerge_iff cfg s).trans (and_iff_right h)

/-- what "fragmentation exceeds `num/den`" means: at least one dead entry, and
    `dead / (dead + live) > num / den` (cross-multiplied; no floating point in the model) -/
theorem c18_frag_meaning (st : Stat) (num den : Nat) :
    fragGt st num den = true ↔ st.dead ≠ 0 ∧ st.dead * den > num * (st.dead + st.live) := by
  unfold fragGt
  split
  next h => exact ⟨fun hf => Bool.noConfusion hf, fun hne => absurd h hne.1⟩
  next h => rw [decide_eq_true_eq]; exact ⟨fun hgt => ⟨h, hgt⟩, And.right⟩

/-- with no trigger exceeded in any file, no merge is requested -/
theorem c18_no_trigger (cfg : Cfg) (s : St)
    (h : ∀ f st, (f, st) ∈ s.stats →
      ¬ (st.deadBytes > cfg.trigDeadBytes ∨ fragGt st cfg.trigFragNum cfg.trigFragDen = true)) :
    canMerge cfg s = false :=
  Bool.eq_false_iff.mpr fun hc =>
    let ⟨_, f, st, hm, hx⟩ := (canMerge_iff cfg s).mp hc
    h f st hm hx

end Store

namespace Background

/-- **C18 (every sampled delay is inside the jitter range)** — by construction of the uniform
    distribution `[interval − jitter, interval + jitter]`; stated for the bounds the model uses. -/
theorem c18_delay_range (interval jn jd : Nat) :
    mergeLo interval jn jd ≤ mergeHi interval jn jd :=
  Nat.mul_le_mul_left _ (Nat.le_trans (Nat.sub_le jd jn) (Nat.le_add_right jd jn))

/-- **C18 (a merge check happens within one interval plus jitter).** If every delay of the timer
    loop is at most `hi = interval·(1+jitter)`, then after any instant `t` at which the loop is
    still running it wakes (and evaluates the trigger) within `hi`. -/
theorem c18_check_within (hi : Nat) (ds : List Nat) (t0 t : Nat) (hd : ∀ d, d ∈ ds → d ≤ hi)
    (h1 : t0 ≤ t) (h2 : t < lastWake t0 ds) : ∃ w, w ∈ wakes t0 ds ∧ t < w ∧ w ≤ t + hi := by
  induction ds generalizing t0 with
  | nil => exact absurd h2 (Nat.not_lt.mpr h1)
  | cons d ds ih =>
    have hdle := hd d List.mem_cons_self
    -- either the first wake-up is the one after `t`, or `t` lies in the rest of the run
    by_cases hlt : t < t0 + d
    · exact ⟨t0 + d, List.mem_cons_self, hlt, Nat.add_le_add h1 hdle⟩
    · obtain ⟨w, hw, a, b⟩ :=
        ih (t0 + d) (fun x hx => hd x (List.mem_cons_of_mem _ hx)) (Nat.le_of_not_lt hlt) h2
      exact ⟨w, List.mem_cons_of_mem _ hw, a, b⟩

/-- **C18 (interval sync).** The sync loop sleeps exactly `interval` between syncs: at least one
    sync in every window of `interval` ticks while the loop runs. -/
theorem c18_sync_period (interval : Nat) (n : Nat) (t0 t : Nat)
    (h1 : t0 ≤ t) (h2 : t < lastWake t0 (List.replicate n interval)) :
    ∃ w, w ∈ wakes t0 (List.replicate n interval) ∧ t < w ∧ w ≤ t + interval :=
  c18_check_within interval _ t0 t (fun _ hd => Nat.le_of_eq (List.eq_of_mem_replicate hd)) h1 h2

/-! non-vacuity -/
example : wakes 0 [3, 5, 4] = [3, 8, 12] := by decide
example : ∃ w, w ∈ wakes 0 [3, 5, 4] ∧ 6 < w ∧ w ≤ 6 + 5 := ⟨8, by decide, by decide, by decide⟩

end Background

namespace Store
/-- non-vacuity: a file with 3 dead of 4 entries triggers at 1/2 and not at 7/8 -/
example : canMerge { policyAlways := true, trigFragNum := 1, trigFragDen := 2, trigDeadBytes := 1000 }
    { stats := [(0, { live := 1, dead := 3, deadBytes := 84 })] } = true := by decide
example : canMerge { policyAlways := true, trigFragNum := 7, trigFragDen := 8, trigDeadBytes := 1000 }
    { stats := [(0, { live := 1, dead := 3, deadBytes := 84 })] } = false := by decide
end Store
