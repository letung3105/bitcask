/-
  C20 (merge) — a file-system call that fails INSIDE A MERGE PASS is reported and leaves the
  store consistent.

  Model: `mergeF hintFirst cfg s sel order j torn` (Store/MergeFault.lean) — the pass
  `Writer::merge` in which call number `j` of the fault-free pass `mergeWith cfg s sel order` fails
  (`j` = 0-based index into its call list, whose last element is the creation of the new active
  file; `torn` = number of bytes of a failing append that reached the file).  The result carries
  the store with its possibly PENDING move of the active file (`StP`:
  `Writer::pending_active_fileid`), the calls that have taken effect and the error flag.
  `putP / deleteP / getP / mergeWithP` are the operations on such a store (they perform the
  pending move first).

  `hintFirst` selects the order inside one iteration of `merge_files`:
    `true`  — the current order (since commit 924dfa8): copy the record, append the hint entry,
              re-point the index entry, count it;
    `false` — the previous order: copy, re-point, count, append the hint entry.
  The two differ only in the state a failing HINT append leaves (entry re-pointed or not).

  Proved for BOTH orders, for every configuration, every state satisfying the store invariant
  `Inv`, every selection `sel` of existing files, every iteration order covering the index, every
  `j`, `torn`:

    c20_merge_reported        the pass returns the error iff `j` is the index of one of its calls
    c20_merge_no_fault        beyond the last call `mergeF` is the fault-free pass
    c20_merge_dir             the calls that have taken effect are exactly the calls before `j` (a
                              failing append torn) followed by the creation of a fresh active file
                              (or: exactly those calls, with the fresh id pending, if `j` is the
                              last call), and they are the whole effect on the directory
    c20_merge_inv             every index entry addresses a complete copy of its record in an
                              existing file; no read is `corrupt`; after the (pending) move the store
                              invariant holds
    c20_merge_abs             no key reads differently — in the running process
    c20_merge_later_ops       every later fault-free put / delete / get / merge behaves as on the
                              abstract map, the pending-move case included
    c20_merge_later_runs      … and so does every later operation sequence (results included)
    c20_merge_histories       whole histories in which any put / delete may fail at any call of
                              `write` AND any merge pass may fail at any of its calls refine the
                              map on which failed operations have no effect (every failure is
                              reported, every acknowledged operation reads correctly)
    c20_merge_later_ids       the id invariant of C14 holds afterwards: all C14 theorems apply to
                              every continuation (`c20_merge_later_fresh_ids`: later files get ids
                              above every id in the directory and above every id created before)
    c20_merge_trace_accepted  the trace monitor of C14 accepts the calls of the failed pass itself,
                              followed by the pending move and every continuation
    c20_merge_restart_partial after an IMMEDIATE restart no key reads differently and the lives
                              invariant holds, under the D3 side condition `NoHazard s sel` of the
                              fault-free restart theorem (`c05_restart_partial`); at full strength
                              the statement is false for the same reason as without a fault:
                              `c20_merge_restart_counterexample` (decide-checked)

  THE ORDER BEFORE COMMIT 924dfa8 IS HARMFUL (`c20_merge_old_order_data_loss_counterexample`,
  decide-checked, `hintFirst = false`): a pass fails at a HINT append.  The record is already
  copied and the index entry re-pointed to the copy, but the output's hint file does not list the
  copy, and recovery reads ONLY the hint file of a data file that has one.  Everything above
  holds (reads, later operations, an immediate restart: the input still holds the record).  But
  the input was not removed and its counters are unchanged, so the NEXT, fault-free pass selects
  it again (the store's own policy `selectFiles`; the stale output is not selected unless it is
  "small"), finds no index entry in it, copies nothing and unlinks it — hazard-free in the sense
  of D3.  The only remaining copy of the record is the one recovery cannot see: in the running
  process the key still reads its value, after a restart (or crash) it is GONE.  Reproduced on
  the real code and fixed by commit 924dfa8.

  THE ORDER OF THE DAY (`hintFirst = true`):
    c20_merge_lj              after a pass that failed at ANY call the running store (after its
                              pending move) satisfies the lives invariant `LJ` — its index is the
                              index a restart would build, stale outputs are harmless — so
                              everything proved for `LJ` states applies to everything that follows
    c20_merge_then_ops_restart_partial
                              failed pass, then ANY sequence of fault-free puts, deletes, gets,
                              reopens and merge passes (each selecting existing files in ascending
                              order, with a covering iteration order and a hazard-free selection),
                              then a restart: every key reads exactly what the abstract map says —
                              in the running process and after the restart.  Acknowledged data
                              are never lost.  D3 side conditions stated explicitly.
    c20_merge_new_order_witness_harmless
                              the witness history of the old-order counterexample, decide-checked
    Side condition of the two theorems (`LJsel s sel`): no SELECTED file is a stale merge output
    holding records its hint file does not list (left by an earlier killed or failed pass).  It
    holds for every store without stale outputs (`ReachM`: histories without a kill inside a
    merge pass; `c20_merge_then_ops_restart_reach_partial`) and for selections of files without
    hint files.  It is needed for ONE failing call: the removal of the DATA file of such a stale
    output after its hint file has been removed.  Then the unlisted records become visible to a
    scan, which recovers their keys at a later position than the running index holds — the same
    record, a different entry — so `LJ` fails literally (`c20_merge_lj_needs_visible_example`,
    decide-checked), although an immediate restart still reads correctly
    (`c20_merge_restart_partial` has no such side condition) and no harmful continuation is
    known; covering it needs an invariant "index = scan up to copies", not attempted.

  Other observations:
    * `c20_merge_counters_stale_example` (decide-checked): after a failed pass the counters of the
      inputs that were NOT removed still count the records that were copied as live — C19's
      exactness ("counters = ground truth") does not survive a failed pass; no read and no later
      operation is affected (the invariants above do not depend on the counters), but the
      thresholds of a later `selectFiles` see these files as less fragmented than they are, until
      the next restart recomputes the counters.
    * One fault per pass; `fileids_to_merge` (which only reads metadata) is not a call of the model.

  Helper lemmas: Store/MergeFault.lean (model), MergeFaultStop.lean (where `merge_files` returns:
  the fault-free pass up to the failing call), MergeFaultCalls.lean (calls and directory),
  MergeFaultSpec.lean (running process), MergeFaultTrace.lean (C14), MergeFaultRun.lean (histories),
  MergeFaultLives.lean (lives invariant, current order).
-/
import BitcaskVerif.Store.MergeFaultLives
import BitcaskVerif.Store.MergeFaultTrace
import BitcaskVerif.Store.MergeFaultRun
import BitcaskVerif.Props.C05
import BitcaskVerif.Props.C14
import BitcaskVerif.Props.C03Lives

namespace Store
open Store.Tr

/-! ### a concrete instance for the non-vacuity examples

  `max_file_size = 50`: two 27-byte entries per file.  Files 0 = [k1 ↦ 10, k2 ↦ 20],
  1 = [k3 ↦ 30, k2 ↦ 21], 2 = active (empty); three live keys.  The merge of files 0 and 1 in
  the order k1, k2, k3 issues 17 calls:
     0 create data 3    1 create hint 3    2 append data 3 (k1)   3 append hint 3
     4 append data 3 (k2)   5 append hint 3   6 fsync data 3   7 fsync hint 3
     8 create data 4    9 create hint 4   10 append data 4 (k3)  11 append hint 4
    12 fsync data 4    13 fsync hint 4    14 unlink data 0      15 unlink data 1
    16 create data 5 -/

def mfCfg : Cfg := { maxFile := 50 }
def mfOps : List TOp := [.put 0 [1] [10], .put 0 [2] [20], .put 0 [3] [30], .put 0 [2] [21]]
def mfSt : St := runC mfCfg fresh mfOps
def mfSel : List Nat := [0, 1]
def mfOrder : List Key := [[1], [2], [3]]

theorem mfSt_reachL : ReachL mfCfg mfSt := reachL_runC mfOps .fresh (by simp [mfOps, ValidOps, opOk])
theorem mfSt_lj : LJ mfSt := reachL_lj mfSt_reachL
theorem mfSt_inv : Inv mfSt := mfSt_lj.inv
theorem mfSt_idinv : IdInv mfSt := run_idinv mfCfg mfOps fresh fresh_idinv (by simp [mfOps, ValidC])
theorem mfSel_le : ∀ id, id ∈ mfSel → id ≤ mfSt.active := by decide
theorem mfOrder_covers : Covers mfOrder mfSt := by decide
theorem mfSel_sorted : mfSel.Pairwise (· ≤ ·) := by decide
theorem mfSel_noHazard : NoHazard mfSt mfSel := noHazard_of_noStaleValue (by decide)

/-- the number of calls and the four calls at which the examples below let the pass fail -/
theorem mf_calls_at : (mergeWith mfCfg mfSt mfSel mfOrder).2.length = 17 ∧
    (mergeWith mfCfg mfSt mfSel mfOrder).2[4]? =
      some (Call.append ⟨.data, 3⟩ (.ofRec { ts := 0, key := [2], val := some [21] })) ∧
    (mergeWith mfCfg mfSt mfSel mfOrder).2[8]? = some (Call.create ⟨.data, 4⟩) ∧
    (mergeWith mfCfg mfSt mfSel mfOrder).2[14]? = some (Call.unlink ⟨.data, 0⟩) ∧
    (mergeWith mfCfg mfSt mfSel mfOrder).2[16]? = some (Call.create ⟨.data, 5⟩) := by decide

theorem mf_calls_length : (mergeWith mfCfg mfSt mfSel mfOrder).2.length = 17 := mf_calls_at.1

example : (mergeWith mfCfg mfSt mfSel mfOrder).2.length = 17 := mf_calls_length
example : (mergeWith mfCfg mfSt mfSel mfOrder).2[4]? =
    some (Call.append ⟨.data, 3⟩ (.ofRec { ts := 0, key := [2], val := some [21] })) := mf_calls_at.2.1
example : (mergeWith mfCfg mfSt mfSel mfOrder).2[8]? = some (Call.create ⟨.data, 4⟩) := mf_calls_at.2.2.1
example : (mergeWith mfCfg mfSt mfSel mfOrder).2[14]? = some (Call.unlink ⟨.data, 0⟩) := mf_calls_at.2.2.2.1
example : (mergeWith mfCfg mfSt mfSel mfOrder).2[16]? = some (Call.create ⟨.data, 5⟩) := mf_calls_at.2.2.2.2

/-! ### reported -/

/-- **C20-merge (reported).** For every configuration, state, selection, order, `j` and `torn`
    (no hypothesis): the pass returns the error if and only if `j` is the index of one of the
    calls of the pass — every failing call is reported, and nothing else is. -/
theorem c20_merge_reported (hintFirst : Bool) (cfg : Cfg) (s : St) (sel : List Nat) (order : List Key) (j torn : Nat) :
    (mergeF hintFirst cfg s sel order j torn).err = true ↔ j < (mergeWith cfg s sel order).2.length :=
  mergeF_err_iff (hintFirst := hintFirst) cfg s sel order j torn

/-- **C20-merge (no fault).** If `j` is beyond the last call, `mergeF` is the fault-free pass:
    same state, nothing pending, same calls, no error. -/
theorem c20_merge_no_fault (hintFirst : Bool) (cfg : Cfg) (s : St) (sel : List Nat) (order : List Key) (j torn : Nat)
    (hj : (mergeWith cfg s sel order).2.length ≤ j) :
    (mergeF hintFirst cfg s sel order j torn).p = { st := (mergeWith cfg s sel order).1, pending := none } ∧
    (mergeF hintFirst cfg s sel order j torn).calls = (mergeWith cfg s sel order).2 ∧
    (mergeF hintFirst cfg s sel order j torn).err = false := by
  have hs := mfZ_stop (hintFirst := hintFirst) cfg s sel order j torn
  rw [mergeWith_calls_length] at hj
  cases hz : (mfZ hintFirst cfg s sel order j torn).2 with
  | true => exact absurd (Nat.lt_trans (hs.calls hz).1 (Nat.lt_of_succ_le hj)) (Nat.lt_irrefl _)
  | false =>
    obtain ⟨e1, e2, _⟩ := hs.not_failed hz
    rw [mergeF_eq, closeF, hz, e1, e2, if_neg Bool.false_ne_true, if_neg (Nat.ne_of_gt (Nat.lt_of_succ_le hj))]
    exact ⟨rfl, rfl, rfl⟩

example : (mergeWith mfCfg mfSt mfSel mfOrder).2.length ≤ 17 := Nat.le_of_eq mf_calls_length

/-- the faults (a)–(d) of the examples below (calls 4, 8, 14, 16) are reported, a fifth "fault"
    beyond the last call is no fault -/
example : (mergeF true mfCfg mfSt mfSel mfOrder 4 5).err = true ∧ (mergeF true mfCfg mfSt mfSel mfOrder 8 0).err = true ∧
    (mergeF true mfCfg mfSt mfSel mfOrder 14 0).err = true ∧ (mergeF true mfCfg mfSt mfSel mfOrder 16 0).err = true ∧
    (mergeF true mfCfg mfSt mfSel mfOrder 17 0).err = false := by
  simp only [← Bool.not_eq_true, c20_merge_reported, mf_calls_length]
  decide

/-! ### the calls and the directory -/

/-- **C20-merge (calls and directory).** Let `E = faultPrefix (calls of the fault-free pass) j torn`
    — the calls before `j`, followed, if call `j` is an append, by the torn prefix of it that
    reached the file — and `D` the directory after `E`.  `E` is a crash cut of the fault-free
    pass.  There is an id `b` above every id of `D` and above the old active id such that either
      * nothing is pending, `j` is not the last call, the new active file is `b`, the directory
        is `D` plus the empty data file `b`, and the calls are `E` followed by `create data b`; or
      * `j` is the last call (the creation of the new active file), `b` is pending, the active
        id is unchanged, the directory is `D` and the calls are `E`. -/
theorem c20_merge_dir (hintFirst : Bool) (cfg : Cfg) (s : St) (sel : List Nat) (order : List Key) (j torn : Nat) (h : Inv s)
    (hsel : ∀ id, id ∈ sel → id ≤ s.active) (hcov : Covers order s)
    (hj : j < (mergeWith cfg s sel order).2.length) :
    Cut (mergeWith cfg s sel order).2 (faultPrefix (mergeWith cfg s sel order).2 j torn) ∧
    ∃ b, FreshId b (applyCalls s.disk (faultPrefix (mergeWith cfg s sel order).2 j torn)) ∧ s.active < b ∧
      (((mergeF hintFirst cfg s sel order j torn).p.pending = none ∧ j + 1 < (mergeWith cfg s sel order).2.length ∧
        (mergeF hintFirst cfg s sel order j torn).p.st.active = b ∧
        (mergeF hintFirst cfg s sel order j torn).p.st.disk =
          { applyCalls s.disk (faultPrefix (mergeWith cfg s sel order).2 j torn) with
            data := AL.set b [] (applyCalls s.disk (faultPrefix (mergeWith cfg s sel order).2 j torn)).data } ∧
        (mergeF hintFirst cfg s sel order j torn).calls =
          faultPrefix (mergeWith cfg s sel order).2 j torn ++ [Call.create ⟨.data, b⟩]) ∨
       ((mergeF hintFirst cfg s sel order j torn).p.pending = some b ∧ j + 1 = (mergeWith cfg s sel order).2.length ∧
        (mergeF hintFirst cfg s sel order j torn).p.st.active = s.active ∧
        (mergeF hintFirst cfg s sel order j torn).p.st.disk =
          applyCalls s.disk (faultPrefix (mergeWith cfg s sel order).2 j torn) ∧
        (mergeF hintFirst cfg s sel order j torn).calls = faultPrefix (mergeWith cfg s sel order).2 j torn)) := by
  refine ⟨cut_faultPrefix _ j torn, ?_⟩
  have hs := mfZ_stop (hintFirst := hintFirst) cfg s sel order j torn
  have hf := hs.finv h hsel hcov
  obtain ⟨hE, hD⟩ := mfZ_faultPrefix (hintFirst := hintFirst) cfg s sel order j torn hj
  rw [mergeWith_calls_length] at hj ⊢
  refine ⟨(mfY hintFirst cfg s sel order j torn).m.mid + 1, ?_, Nat.lt_succ_of_lt hf.midgt, ?_⟩
  · rw [← hD]
    exact ⟨fun i hi => Nat.lt_succ_of_le (hf.ids i hi), fun i hi => Nat.lt_succ_of_le (hf.hids i hi)⟩
  · rw [← hD, ← hE, mergeF_eq, closeF]
    cases hz : (mfZ hintFirst cfg s sel order j torn).2 with
    | true => exact .inl ⟨rfl, Nat.succ_lt_succ (hs.calls hz).1, rfl, rfl, rfl⟩
    | false =>
      obtain ⟨e1, _, e3⟩ := hs.not_failed hz
      have hjl : j = (mfZ hintFirst cfg s sel order j torn).1.2.length := by
        rw [e1]; exact Nat.le_antisymm (Nat.le_of_lt_succ hj) e3
      rw [if_neg Bool.false_ne_true, if_pos hjl]
      exact .inr ⟨rfl, by rw [hjl, e1], by rw [e1]; exact unlinked_active cfg s sel order sel, rfl, rfl⟩

example : Inv mfSt ∧ (∀ id, id ∈ mfSel → id ≤ mfSt.active) ∧ Covers mfOrder mfSt ∧
    4 < (mergeWith mfCfg mfSt mfSel mfOrder).2.length :=
  ⟨mfSt_inv, mfSel_le, mfOrder_covers, by rw [mf_calls_length]; decide⟩

/-- (a) the second data append fails after 5 of its 27 bytes: calls 0–3, the torn append, the
    creation of the new active file 4 -/
example : (mergeF true mfCfg mfSt mfSel mfOrder 4 5).calls =
    [.create ⟨.data, 3⟩, .create ⟨.hint, 3⟩,
     .append ⟨.data, 3⟩ (.ofRec { ts := 0, key := [1], val := some [10] }),
     .append ⟨.hint, 3⟩ (.ofHint { ts := 0, len := 27, pos := 0, key := [1] }),
     .append ⟨.data, 3⟩ (.raw [0, 0, 0, 0, 0]), .create ⟨.data, 4⟩] := by decide

/-! ### the running process -/

/-- **C20-merge (invariant).** After the pass — failed at any call, or not at all — every index
    entry addresses a complete copy of its record in an existing file, no read is `corrupt`,
    the pending id (if any) is above every id in the directory, and the store after the pending
    move satisfies the store invariant `Inv` (without a pending move: the store itself). -/
theorem c20_merge_inv (hintFirst : Bool) (cfg : Cfg) (s : St) (sel : List Nat) (order : List Key) (j torn : Nat) (h : Inv s)
    (hsel : ∀ id, id ∈ sel → id ≤ s.active) (hcov : Covers order s) :
    InvP (mergeF hintFirst cfg s sel order j torn).p ∧
    (∀ k, getP (mergeF hintFirst cfg s sel order j torn).p k ≠ .corrupt) ∧
    ((mergeF hintFirst cfg s sel order j torn).p.pending = none → Inv (mergeF hintFirst cfg s sel order j torn).p.st) := by
  have hp := (mergeF_ok (hintFirst := hintFirst) cfg s sel order j torn h hsel hcov).1
  refine ⟨hp, fun k => ?_, hp.inv_of_none⟩
  rw [getP_abs hp k]
  cases (mergeF hintFirst cfg s sel order j torn).p.abs k <;> simp

/-- **C20-merge (reads).** No key reads differently after the pass, whichever call failed — in
    the running process. -/
theorem c20_merge_abs (hintFirst : Bool) (cfg : Cfg) (s : St) (sel : List Nat) (order : List Key) (j torn : Nat) (h : Inv s)
    (hsel : ∀ id, id ∈ sel → id ≤ s.active) (hcov : Covers order s) :
    (mergeF hintFirst cfg s sel order j torn).p.abs = s.abs ∧
    ∀ k, getP (mergeF hintFirst cfg s sel order j torn).p k = get s k := by
  obtain ⟨hp, ha⟩ := mergeF_ok (hintFirst := hintFirst) cfg s sel order j torn h hsel hcov
  refine ⟨ha, fun k => ?_⟩
  rw [getP_abs hp k, get_abs s k h, ha]
  cases s.abs k <;> rfl

/-- the hypotheses of the theorems above hold in the instance -/
example : Inv mfSt ∧ (∀ id, id ∈ mfSel → id ≤ mfSt.active) ∧ Covers mfOrder mfSt :=
  ⟨mfSt_inv, mfSel_le, mfOrder_covers⟩

/-- (a) second data append: k1 is re-pointed to its copy in file 3, k2 and k3 are not; the torn
    bytes are an invisible tail of file 3; the output counts one live record -/
example : (mergeF true mfCfg mfSt mfSel mfOrder 4 5).p =
    { st := { disk := { data := [(0, [⟨0, [1], some [10]⟩, ⟨0, [2], some [20]⟩]),
                                 (1, [⟨0, [3], some [30]⟩, ⟨0, [2], some [21]⟩]), (2, []),
                                 (3, [⟨0, [1], some [10]⟩]), (4, [])],
                        hint := [(3, [⟨0, 27, 0, [1]⟩])], tails := [(3, 5)] },
              keydir := [([1], ⟨3, 0, 27, 0⟩), ([2], ⟨1, 27, 27, 0⟩), ([3], ⟨1, 0, 27, 0⟩)],
              stats := [(0, ⟨1, 1, 27⟩), (1, ⟨2, 0, 0⟩), (3, ⟨1, 0, 0⟩)],
              active := 4, written := 0, bad := false },
      pending := none } := by rfl

/-- (b) the rollover `create` of data file 4 fails: `merge_fileid` is already 4, so the new active
    file is 5; file 4 does not exist; k1, k2 are re-pointed, k3 is not -/
example : (mergeF true mfCfg mfSt mfSel mfOrder 8 0).p =
    { st := { disk := { data := [(0, [⟨0, [1], some [10]⟩, ⟨0, [2], some [20]⟩]),
                                 (1, [⟨0, [3], some [30]⟩, ⟨0, [2], some [21]⟩]), (2, []),
                                 (3, [⟨0, [1], some [10]⟩, ⟨0, [2], some [21]⟩]), (5, [])],
                        hint := [(3, [⟨0, 27, 0, [1]⟩, ⟨0, 27, 27, [2]⟩])], tails := [] },
              keydir := [([1], ⟨3, 0, 27, 0⟩), ([2], ⟨3, 27, 27, 0⟩), ([3], ⟨1, 0, 27, 0⟩)],
              stats := [(0, ⟨1, 1, 27⟩), (1, ⟨2, 0, 0⟩), (3, ⟨2, 0, 0⟩)],
              active := 5, written := 0, bad := false },
      pending := none } := by rfl

/-- (c) the unlink of the first input fails: every key is re-pointed, both inputs (and their
    counters) are still there -/
example : (mergeF true mfCfg mfSt mfSel mfOrder 14 0).p =
    { st := { disk := { data := [(0, [⟨0, [1], some [10]⟩, ⟨0, [2], some [20]⟩]),
                                 (1, [⟨0, [3], some [30]⟩, ⟨0, [2], some [21]⟩]), (2, []),
                                 (3, [⟨0, [1], some [10]⟩, ⟨0, [2], some [21]⟩]),
                                 (4, [⟨0, [3], some [30]⟩]), (5, [])],
                        hint := [(3, [⟨0, 27, 0, [1]⟩, ⟨0, 27, 27, [2]⟩]), (4, [⟨0, 27, 0, [3]⟩])], tails := [] },
              keydir := [([1], ⟨3, 0, 27, 0⟩), ([2], ⟨3, 27, 27, 0⟩), ([3], ⟨4, 0, 27, 0⟩)],
              stats := [(0, ⟨1, 1, 27⟩), (1, ⟨2, 0, 0⟩), (3, ⟨2, 0, 0⟩), (4, ⟨1, 0, 0⟩)],
              active := 5, written := 0, bad := false },
      pending := none } := by rfl

/-- (d) the final `create` fails: `merge_files` is complete, the active id is still 2 and the move
    to file 5 is pending -/
example : (mergeF true mfCfg mfSt mfSel mfOrder 16 0).p =
    { st := { disk := { data := [(2, []), (3, [⟨0, [1], some [10]⟩, ⟨0, [2], some [21]⟩]),
                                 (4, [⟨0, [3], some [30]⟩])],
                        hint := [(3, [⟨0, 27, 0, [1]⟩, ⟨0, 27, 27, [2]⟩]), (4, [⟨0, 27, 0, [3]⟩])], tails := [] },
              keydir := [([1], ⟨3, 0, 27, 0⟩), ([2], ⟨3, 27, 27, 0⟩), ([3], ⟨4, 0, 27, 0⟩)],
              stats := [(3, ⟨2, 0, 0⟩), (4, ⟨1, 0, 0⟩)],
              active := 2, written := 0, bad := false },
      pending := some 5 } := by rfl

/-- (e) the HINT append for k2 (call 5) fails.  Current order: the record is in file 3, the
    entry of k2 still points into file 1 and file 3 counts one live record and one dead one, the copy
    nothing points at (commit 8c97bf1).  Order before commit
    924dfa8: the entry is re-pointed and counted although the hint file does not list the copy. -/
example : (mergeF true mfCfg mfSt mfSel mfOrder 5 0).p.st.keydir =
      [([1], ⟨3, 0, 27, 0⟩), ([2], ⟨1, 27, 27, 0⟩), ([3], ⟨1, 0, 27, 0⟩)] ∧
    (mergeF false mfCfg mfSt mfSel mfOrder 5 0).p.st.keydir =
      [([1], ⟨3, 0, 27, 0⟩), ([2], ⟨3, 27, 27, 0⟩), ([3], ⟨1, 0, 27, 0⟩)] ∧
    AL.get 3 (mergeF true mfCfg mfSt mfSel mfOrder 5 0).p.st.stats = some ⟨1, 1, 27⟩ ∧
    AL.get 3 (mergeF false mfCfg mfSt mfSel mfOrder 5 0).p.st.stats = some ⟨2, 0, 0⟩ ∧
    (mergeF true mfCfg mfSt mfSel mfOrder 5 0).p.st.disk = (mergeF false mfCfg mfSt mfSel mfOrder 5 0).p.st.disk ∧
    dataOf (mergeF true mfCfg mfSt mfSel mfOrder 5 0).p.st.disk 3 = [⟨0, [1], some [10]⟩, ⟨0, [2], some [21]⟩] ∧
    AL.get 3 (mergeF true mfCfg mfSt mfSel mfOrder 5 0).p.st.disk.hint = some [⟨0, 27, 0, [1]⟩] := by
  refine ⟨by decide, by decide, by decide, by decide, by rfl, by decide⟩

/-- in all four cases (and with the fault-free pass) the three keys read as before -/
example : ∀ b ∈ [true, false], ∀ j ∈ [4, 5, 8, 14, 16, 17], ∀ k ∈ [[1], [2], [3], [4]],
    getP (mergeF b mfCfg mfSt mfSel mfOrder j 5).p k = get mfSt k :=
  fun b _ j _ k _ => (c20_merge_abs b mfCfg mfSt mfSel mfOrder j 5 mfSt_inv mfSel_le mfOrder_covers).2 k

/-! ### later operations -/

/-- **C20-merge (later operations).** After the pass — failed at any call — a fault-free put,
    delete, get or merge pass (any selection of existing files, any covering order) behaves
    exactly as on the abstract map read BEFORE the failed pass; this includes the case in which
    the move of the active file is still pending (the operation performs it first); afterwards
    nothing is pending and the store invariant holds again. -/
theorem c20_merge_later_ops (hintFirst : Bool) (cfg : Cfg) (s : St) (sel : List Nat) (order : List Key) (j torn : Nat) (h : Inv s)
    (hsel : ∀ id, id ∈ sel → id ≤ s.active) (hcov : Covers order s)
    (cfg' : Cfg) (ts' : Int) (k' : Key) (v' : Val) (sel' : List Nat) (order' : List Key)
    (hsel' : ∀ id, id ∈ sel' → id ≤ (mergeF hintFirst cfg s sel order j torn).p.move.1.active)
    (hcov' : Covers order' (mergeF hintFirst cfg s sel order j torn).p.st) :
    (putP cfg' (mergeF hintFirst cfg s sel order j torn).p ts' k' v').1.abs = s.abs.set k' v' ∧
    (deleteP cfg' (mergeF hintFirst cfg s sel order j torn).p ts' k').1.abs = s.abs.del k' ∧
    (deleteP cfg' (mergeF hintFirst cfg s sel order j torn).p ts' k').2.1 = (s.abs k').isSome ∧
    getP (mergeF hintFirst cfg s sel order j torn).p k' = (match s.abs k' with | some x => .value x | none => .absent) ∧
    (mergeWithP cfg' (mergeF hintFirst cfg s sel order j torn).p sel' order').1.abs = s.abs ∧
    Inv (putP cfg' (mergeF hintFirst cfg s sel order j torn).p ts' k' v').1.st ∧
    Inv (deleteP cfg' (mergeF hintFirst cfg s sel order j torn).p ts' k').1.st ∧
    Inv (mergeWithP cfg' (mergeF hintFirst cfg s sel order j torn).p sel' order').1.st := by
  obtain ⟨hp, ha⟩ := mergeF_ok (hintFirst := hintFirst) cfg s sel order j torn h hsel hcov
  obtain ⟨p1, p2, p3⟩ := putP_ok cfg' hp ts' k' v'
  obtain ⟨d1, d2, d3, d4⟩ := deleteP_ok cfg' hp ts' k'
  obtain ⟨m1, m2, m3⟩ := mergeWithP_ok cfg' hp sel' order' hsel' hcov'
  refine ⟨by rw [p2, ha], by rw [d2, ha], by rw [d3, ha], ?_, by rw [m2, ha],
    p1.inv_of_none p3, d1.inv_of_none d4, m1.inv_of_none m3⟩
  rw [getP_abs hp k', ha]
  cases s.abs k' <;> rfl

/-- the hypotheses about the later merge are satisfiable: after fault (d) (pending move to file 5)
    a second pass over the outputs 3 and 4 -/
example : (∀ id, id ∈ [3, 4] → id ≤ (mergeF true mfCfg mfSt mfSel mfOrder 16 0).p.move.1.active) ∧
    Covers [[3], [2], [1]] (mergeF true mfCfg mfSt mfSel mfOrder 16 0).p.st := by decide

/-- **C20-merge (later histories).** Every later sequence of fault-free puts, deletes, gets and
    merge passes returns exactly the results of the abstract map started at what the store read
    before the failed pass, keeps the invariant, and ends reading as the final map. -/
theorem c20_merge_later_runs (hintFirst : Bool) (cfg : Cfg) (s : St) (sel : List Nat) (order : List Key) (j torn : Nat) (h : Inv s)
    (hsel : ∀ id, id ∈ sel → id ≤ s.active) (hcov : Covers order s)
    (cfg' : Cfg) (ops : List Op) (hv : ValidFromP cfg' (mergeF hintFirst cfg s sel order j torn).p ops) :
    (runP cfg' (mergeF hintFirst cfg s sel order j torn).p ops).2 = (Map.run s.abs ops).2 ∧
    InvP (runP cfg' (mergeF hintFirst cfg s sel order j torn).p ops).1 ∧
    (runP cfg' (mergeF hintFirst cfg s sel order j torn).p ops).1.abs = (Map.run s.abs ops).1 := by
  obtain ⟨hp, ha⟩ := mergeF_ok (hintFirst := hintFirst) cfg s sel order j torn h hsel hcov
  have := runP_refines cfg' ops _ hp hv
  rw [ha] at this
  exact this

/-- after fault (d), with the move pending: overwrite k1, delete k3, read, merge the outputs, read -/
example : ValidFromP mfCfg (mergeF true mfCfg mfSt mfSel mfOrder 16 0).p
    [.get [2], .put [1] [11], .del [3], .del [9], .merge [3, 4] [[1], [2]], .get [1], .get [2], .get [3]] := by
  simp only [ValidFromP, and_true, true_and]
  decide
example : (runP mfCfg (mergeF true mfCfg mfSt mfSel mfOrder 16 0).p
    [.get [2], .put [1] [11], .del [3], .del [9], .merge [3, 4] [[1], [2]], .get [1], .get [2], .get [3]]).2 =
    [.read (.value [21]), .done, .flag true, .flag false, .done, .read (.value [11]), .read (.value [21]),
     .read .absent] := by decide

/-- **C20-merge (histories).** For every history, from any store satisfying the invariant (with or
    without a pending move), in which any of the puts and deletes may fail with any of the write
    faults of `Props/C20.lean` and any of the merge passes may fail at any of its calls (`PFault.merge j torn`; any number of failures, one per
    operation; a failed pass may leave its move pending, the next operation performs it): every
    operation returns exactly what the abstract map returns on which failed operations have no
    effect — so every failure is reported and every earlier and later acknowledged operation reads
    correctly —, the invariant holds at the end and the final state reads as the final map. -/
theorem c20_merge_histories_from (hintFirst : Bool) (cfg : Cfg) (ops : List (Op × Option PFault)) (p : StP) (h : InvP p)
    (hv : ValidPF hintFirst cfg p ops) :
    (runPF hintFirst cfg p ops).2 = (Map.runPF p.abs ops).2 ∧ InvP (runPF hintFirst cfg p ops).1 ∧
    (runPF hintFirst cfg p ops).1.abs = (Map.runPF p.abs ops).1 := by
  induction ops generalizing p with
  | nil => exact ⟨rfl, h, rfl⟩
  | cons x ops ih =>
    obtain ⟨op, fl⟩ := x
    obtain ⟨i1, i2, i3⟩ := stepPF_refines cfg p op fl h hv.1
    obtain ⟨j1, j2, j3⟩ := ih (stepPF hintFirst cfg p op fl).1 i1 hv.2
    simp only [runPF, Map.runPF]
    rw [i3] at j1 j3
    exact ⟨by rw [j1, i2], j2, j3⟩

/-- **C20-merge (histories).** For every history from a fresh store in which any of the puts and
    deletes may fail with any of the write faults of `Props/C20.lean` and any of the merge passes
    may fail at any of its calls (`PFault.merge j torn`; any number of failures, one per
    operation; a failed pass may leave its move pending, the next operation performs it): every
    operation returns exactly what the abstract map returns on which failed operations have no
    effect — so every failure is reported and every earlier and later acknowledged operation reads
    correctly —, the invariant holds at the end and the final state reads as the final map. -/
theorem c20_merge_histories (hintFirst : Bool) (cfg : Cfg) (ops : List (Op × Option PFault))
    (hv : ValidPF hintFirst cfg { st := fresh, pending := none } ops) :
    (runPF hintFirst cfg { st := fresh, pending := none } ops).2 = (Map.runPF Map.empty ops).2 ∧
    InvP (runPF hintFirst cfg { st := fresh, pending := none } ops).1 ∧
    (runPF hintFirst cfg { st := fresh, pending := none } ops).1.abs = (Map.runPF Map.empty ops).1 :=
  fresh_abs ▸ c20_merge_histories_from hintFirst cfg ops _ (InvP.of_inv fresh_inv) hv

example : InvP (mergeF true mfCfg mfSt mfSel mfOrder 16 0).p :=
  (c20_merge_inv true mfCfg mfSt mfSel mfOrder 16 0 mfSt_inv mfSel_le mfOrder_covers).1

/-- a history with a failed put, a pass failing at the final `create` (move pending), a pass
    failing at a data append (performing the pending move first), reads in between -/
def mfHist : List (Op × Option PFault) :=
  [(.put [1] [10], none), (.put [2] [20], none), (.put [3] [30], some (.write .appendSmall)), (.put [3] [30], none),
   (.put [2] [21], none), (.merge [0, 1, 2] [[1], [2], [3]], some (.merge 17 0)), (.get [3], none),
   (.merge [4, 5] [[3], [2], [1]], some (.merge 4 7)), (.get [1], none), (.del [2], none), (.get [2], none),
   (.merge [4, 5, 7] [[1], [3]], none), (.get [1], none), (.get [3], none)]

theorem mfHist_valid : ValidPF true mfCfg { st := fresh, pending := none } mfHist := by
  simp only [mfHist, ValidPF, and_true, true_and]
  decide

example : ValidPF true mfCfg { st := fresh, pending := none } mfHist := mfHist_valid

/-- by `c20_merge_histories` the results are those of the abstract map, on which the failed
    operations have no effect -/
example : (runPF true mfCfg { st := fresh, pending := none } mfHist).2 =
    [.done .done, .done .done, .error, .done .done, .done .done, .error, .done (.read (.value [30])), .error,
     .done (.read (.value [10])), .done (.flag true), .done (.read .absent), .done .done,
     .done (.read (.value [10])), .done (.read (.value [30]))] := by
  rw [(c20_merge_histories true mfCfg mfHist mfHist_valid).1]
  decide

/-- **C20-merge (ids).** If the store satisfied the id invariant of the trace theory (C14) before
    the pass, it satisfies it after the pass — failed at any call — and the pending move.  Hence
    every C14 theorem applies to every continuation. -/
theorem c20_merge_later_ids (hintFirst : Bool) (cfg : Cfg) (s : St) (sel : List Nat) (order : List Key) (j torn : Nat) (h : Inv s)
    (hid : IdInv s) (hsel : ∀ id, id ∈ sel → id ≤ s.active) (hcov : Covers order s) :
    IdInv (mergeF hintFirst cfg s sel order j torn).p.move.1 ∧
    (∀ b, (mergeF hintFirst cfg s sel order j torn).p.pending = some b →
      FreshId b (mergeF hintFirst cfg s sel order j torn).p.st.disk) :=
  ⟨(mergeF_coup (hintFirst := hintFirst) cfg s sel order j torn (Mon.start s.active) ⟨hid, monOk_start _⟩ hsel).inv,
   fun _ hb => (mergeF_ok (hintFirst := hintFirst) cfg s sel order j torn h hsel hcov).1.freshId hb⟩

/-- … in particular **ids stay fresh**: in every later run (puts, deletes, gets, merge passes,
    reopens) every data file is created with an id above every data and hint id the failed pass
    left in the directory and above the id of every file created earlier in the run; the monitor
    of C14 accepts the whole run. -/
theorem c20_merge_later_fresh_ids (hintFirst : Bool) (cfg : Cfg) (s : St) (sel : List Nat) (order : List Key) (j torn : Nat)
    (h : Inv s) (hid : IdInv s) (hsel : ∀ id, id ∈ sel → id ≤ s.active) (hcov : Covers order s)
    (cfg' : Cfg) (ops : List TOp) (hv : ValidC cfg' (mergeF hintFirst cfg s sel order j torn).p.move.1 ops) :
    (∀ pre post id, traceOf cfg' (mergeF hintFirst cfg s sel order j torn).p.move.1 ops =
        pre ++ Call.create ⟨.data, id⟩ :: post →
      (∀ id0, id0 ∈ AL.keys (mergeF hintFirst cfg s sel order j torn).p.move.1.disk.data → id0 < id) ∧
      (∀ id0, id0 ∈ AL.keys (mergeF hintFirst cfg s sel order j torn).p.move.1.disk.hint → id0 < id) ∧
      (∀ g, Call.create g ∈ pre → g.id < id)) ∧
    ((Mon.start (mergeF hintFirst cfg s sel order j torn).p.move.1.active).run
        (evsOf cfg' (mergeF hintFirst cfg s sel order j torn).p.move.1 ops)).okFresh = true ∧
    ((Mon.start (mergeF hintFirst cfg s sel order j torn).p.move.1.active).run
        (evsOf cfg' (mergeF hintFirst cfg s sel order j torn).p.move.1 ops)).okOwn = true ∧
    ((Mon.start (mergeF hintFirst cfg s sel order j torn).p.move.1.active).run
        (evsOf cfg' (mergeF hintFirst cfg s sel order j torn).p.move.1 ops)).okTop = true := by
  have hi := (c20_merge_later_ids hintFirst cfg s sel order j torn h hid hsel hcov).1
  obtain ⟨m1, m2, m3, _⟩ := c14_monitor cfg' _ ops hi hv
  exact ⟨fun pre post id ht => c14_fresh_id cfg' _ ops hi hv pre post id ht, m1, m2, m3⟩

example : IdInv mfSt := mfSt_idinv
example : ValidC mfCfg (mergeF true mfCfg mfSt mfSel mfOrder 4 5).p.move.1
    [.put 0 [1] [11], .merge [0, 1, 3] [[1], [2], [3]], .reopen, .del 0 [2]] := by
  simp only [ValidC, and_true, true_and]
  decide

/-- **C20-merge (trace).** Start the trace monitor of C14 in a state satisfying the id invariant.
    It accepts — all three verdicts stay `true`: every created file has a fresh id, every append
    goes to a file this process created and did not remove, the file with the largest id is never
    removed — the calls of the failed pass itself (torn append and creation of the new active file
    included), followed by the pending move (if any) and by the trace of EVERY continuation
    (puts, deletes, gets, merge passes, reopens). -/
theorem c20_merge_trace_accepted (hintFirst : Bool) (cfg : Cfg) (s : St) (sel : List Nat) (order : List Key) (j torn : Nat)
    (h : Inv s) (hid : IdInv s) (hsel : ∀ id, id ∈ sel → id ≤ s.active) (hcov : Covers order s)
    (cfg' : Cfg) (ops : List TOp) (hv : ValidC cfg' (mergeF hintFirst cfg s sel order j torn).p.move.1 ops) :
    ((Mon.start s.active).run
      (((mergeF hintFirst cfg s sel order j torn).calls ++ (mergeF hintFirst cfg s sel order j torn).p.move.2).map TEv.call ++
        evsOf cfg' (mergeF hintFirst cfg s sel order j torn).p.move.1 ops)).okFresh = true ∧
    ((Mon.start s.active).run
      (((mergeF hintFirst cfg s sel order j torn).calls ++ (mergeF hintFirst cfg s sel order j torn).p.move.2).map TEv.call ++
        evsOf cfg' (mergeF hintFirst cfg s sel order j torn).p.move.1 ops)).okOwn = true ∧
    ((Mon.start s.active).run
      (((mergeF hintFirst cfg s sel order j torn).calls ++ (mergeF hintFirst cfg s sel order j torn).p.move.2).map TEv.call ++
        evsOf cfg' (mergeF hintFirst cfg s sel order j torn).p.move.1 ops)).okTop = true := by
  have hc := mergeF_coup (hintFirst := hintFirst) cfg s sel order j torn (Mon.start s.active) ⟨hid, monOk_start _⟩ hsel
  have hr := run_coup cfg' ops _ _ hc hv
  rw [Mon.run_append]
  exact ⟨hr.mon.okF, hr.mon.okO, hr.mon.okT⟩

/-! ### restart -/

/-
  Full-strength statement — FALSE (defect D3, as for the fault-free pass), refuted by
  `c20_merge_restart_counterexample`:

  theorem c20_merge_restart (hintFirst : Bool) (cfg : Cfg) (s : St) (sel : List Nat) (order : List Key) (j torn : Nat) (hl : LJ s)
      (hsel : ∀ id, id ∈ sel → id ≤ s.active) (hcov : Covers order s) (hsorted : sel.Pairwise (· ≤ ·)) :
      (openDisk (mergeF hintFirst cfg s sel order j torn).p.st.disk).1.abs = s.abs
-/

/-- **C20-merge (restart), under `NoHazard`.** Let the store satisfy the lives invariant `LJ`
    (every state reachable from a fresh store by sets, deletes, reads, reopens, hazard-free merge
    passes and kills anywhere inside any of these does, `reachL_lj`), let `sel` be ascending, and
    assume the D3 side condition of the fault-free restart theorem: no key absent from the index
    would be recovered from the unselected files alone (`NoHazard s sel`; with `sel` ascending
    this covers every prefix of `sel` that the failed pass may have removed).  Then the store
    opened on the directory the pass left — failed at any call — reads every key exactly as
    before the pass, satisfies the lives invariant again (so everything proved for `LJ` states —
    operations, crashes, restarts — continues to apply), and no read is `corrupt`.
    The inputs that were not removed and the partial outputs are all in that directory: the
    outputs hold only copies of records the index addressed, listed by their hint files up to a
    prefix, so they are harmless. -/
theorem c20_merge_restart_partial (hintFirst : Bool) (cfg : Cfg) (s : St) (sel : List Nat) (order : List Key) (j torn : Nat)
    (hl : LJ s) (hsel : ∀ id, id ∈ sel → id ≤ s.active) (hcov : Covers order s)
    (hsorted : sel.Pairwise (· ≤ ·)) (hz : NoHazard s sel) :
    (openDisk (mergeF hintFirst cfg s sel order j torn).p.st.disk).1.abs = s.abs ∧
    LJ (openDisk (mergeF hintFirst cfg s sel order j torn).p.st.disk).1 ∧
    ∀ k, get (openDisk (mergeF hintFirst cfg s sel order j torn).p.st.disk).1 k ≠ .corrupt := by
  -- the directory is a crash cut of the fault-free pass, plus possibly the new, empty active file:
  -- the crash theory of the merge pass over any number of lives applies
  have hrec : RecJ (mergeF hintFirst cfg s sel order j torn).p.st.disk s.abs := by
    obtain ⟨d1, w⟩ := hl
    by_cases hj : j < (mergeWith cfg s sel order).2.length
    · have hcut : RecW (applyCalls s.disk (faultPrefix (mergeWith cfg s sel order).2 j torn)) s.abs :=
        mergeWith_cut_recW cfg w sel order hsel hcov
          (fun _ hd => noHazard_prefix_of_sorted w.asc w.fullA hsorted hz hd) (cut_faultPrefix _ j torn)
      obtain ⟨b, hb, _, hcase⟩ := (c20_merge_dir hintFirst cfg s sel order j torn w.inv hsel hcov hj).2
      rcases hcase with ⟨_, _, _, hd, _⟩ | ⟨_, _, _, hd, _⟩
      · rw [hd]
        obtain ⟨dB, kd, a, cj⟩ := hcut
        exact (cj.addData (hb.1 a (cj.sim.keys ▸ cj.clean.mem))).recW.recJ
      · rw [hd]
        exact hcut.recJ
    · rw [(c20_merge_no_fault hintFirst cfg s sel order j torn (Nat.le_of_not_lt hj)).1]
      obtain ⟨a, b⟩ := mergeWith_lj cfg w sel order hsel hcov hz
      exact b ▸ LJ.recovers ⟨_, a⟩
  exact ⟨hrec.2, hrec.1, fun k => get_not_corrupt hrec.1.inv k⟩

/-- the same for the states of a history (`ReachL`) -/
theorem c20_merge_restart_reach_partial (hintFirst : Bool) (cfg cfg0 : Cfg) (s : St) (sel : List Nat) (order : List Key) (j torn : Nat)
    (hr : ReachL cfg0 s) (hsel : ∀ id, id ∈ sel → id ≤ s.active) (hcov : Covers order s)
    (hsorted : sel.Pairwise (· ≤ ·)) (hz : NoHazard s sel) :
    (openDisk (mergeF hintFirst cfg s sel order j torn).p.st.disk).1.abs = s.abs :=
  (c20_merge_restart_partial hintFirst cfg s sel order j torn (reachL_lj hr) hsel hcov hsorted hz).1

/-- the hypotheses hold in the instance -/
example : LJ mfSt ∧ (∀ id, id ∈ mfSel → id ≤ mfSt.active) ∧ Covers mfOrder mfSt ∧
    mfSel.Pairwise (· ≤ ·) ∧ NoHazard mfSt mfSel :=
  ⟨mfSt_lj, mfSel_le, mfOrder_covers, mfSel_sorted, mfSel_noHazard⟩

theorem d3St_reachL : ReachL d3Cfg d3St :=
  .step (.del 0 [107]) (.step (.put 0 [107] [1]) .fresh trivial) trivial

/-- **C20-merge (restart) fails at full strength** (D3): value of `k` in file 0, its tombstone in
    file 1; the pass that merges file 1 removes it and then fails to create the new active file;
    after a restart `k` is back. -/
theorem c20_merge_restart_counterexample :
    ∃ (cfg : Cfg) (s : St) (sel : List Nat) (order : List Key) (j torn : Nat),
      LJ s ∧ (∀ id, id ∈ sel → id ≤ s.active) ∧ Covers order s ∧ sel.Pairwise (· ≤ ·) ∧
      (mergeF true cfg s sel order j torn).err = true ∧
      (openDisk (mergeF true cfg s sel order j torn).p.st.disk).1.abs ≠ s.abs := by
  refine ⟨d3Cfg, d3St, [1], [], 5, 0, reachL_lj d3St_reachL, by decide, by decide, by decide, by decide, ?_⟩
  intro he
  have hk := congrFun he [107]
  have hasc : Asc (mergeF true d3Cfg d3St [1] [] 5 0).p.st.disk.data := by decide
  rw [openDisk_eq_with hasc] at hk
  revert hk
  decide

/-! ### the order before commit 924dfa8 (`hintFirst = false`) is harmful: a failing hint append, then a
     fault-free pass over the same input -/

/-- two 27-byte entries per file; no "small file" selection (as for files above `small_file`) -/
def hnCfg : Cfg := { maxFile := 50, smallFile := 0 }
/-- files 0 = [k1 ↦ 10, k2 ↦ 20 (dead)], 1 = [k3 ↦ 30, k2 ↦ 21], 2 = active -/
def hnS0 : St := runC hnCfg fresh mfOps
/-- the pass over file 0 (the policy's selection) fails at call 3: the hint append for k1 -/
def hnS1 : StP := (mergeF false hnCfg hnS0 [0] [[1], [2], [3]] 3 0).p
/-- the next pass, fault-free, with the policy's selection -/
def hnS2 : St := (merge hnCfg hnS1.st [[1], [2], [3]]).1

theorem hn_sel0 : selectFiles hnCfg hnS0 = [0] := selectFiles_eq (by decide) (by decide)
theorem hn_sel1 : selectFiles hnCfg hnS1.st = [0] := selectFiles_eq (by decide) (by decide)
theorem hn_S2 : hnS2 = (mergeWith hnCfg hnS1.st [0] [[1], [2], [3]]).1 := by
  unfold hnS2 merge; rw [hn_sel1]

/-- **C20-merge, order before commit 924dfa8 (re-point before the hint append): a failing hint
    append loses an acknowledged write at the next restart.**
    1. `hnS0` is reachable; its pass — selection `[0]` by the store's own policy — satisfies every
       side condition (`NoHazard` included).  Call 3 of the pass is the hint append for key `[1]`;
       it fails, the pass reports the error, nothing is pending.
    2. In the running process, and after an immediate restart, `[1]` still reads `[10]`.
    3. The next pass is fault-free, again with the policy's selection `[0]` (the counters of file
       0 are unchanged, the stale output 3 is not selected), and satisfies every side condition.
       It copies nothing and removes file 0.
    4. In the running process `[1]` still reads `[10]`; after a restart it is absent. -/
theorem c20_merge_old_order_data_loss_counterexample :
    -- 1.
    ReachL hnCfg hnS0 ∧ selectFiles hnCfg hnS0 = [0] ∧ (∀ id, id ∈ [0] → id ≤ hnS0.active) ∧
    Covers [[1], [2], [3]] hnS0 ∧ NoHazard hnS0 [0] ∧
    (mergeWith hnCfg hnS0 [0] [[1], [2], [3]]).2[3]? =
      some (Call.append ⟨.hint, 3⟩ (.ofHint { ts := 0, len := 27, pos := 0, key := [1] })) ∧
    (mergeF false hnCfg hnS0 [0] [[1], [2], [3]] 3 0).err = true ∧ hnS1.pending = none ∧
    -- 2.
    get hnS0 [1] = .value [10] ∧ get hnS1.st [1] = .value [10] ∧
    get (openDisk hnS1.st.disk).1 [1] = .value [10] ∧
    -- 3.
    Inv hnS1.st ∧ selectFiles hnCfg hnS1.st = [0] ∧ (∀ id, id ∈ [0] → id ≤ hnS1.st.active) ∧
    Covers [[1], [2], [3]] hnS1.st ∧ NoHazard hnS1.st [0] ∧
    -- 4.
    get hnS2 [1] = .value [10] ∧ get (reopen hnS2).1 [1] = .absent := by
  have hr : ReachL hnCfg hnS0 := reachL_runC mfOps .fresh (by simp [mfOps, ValidOps, opOk])
  have hsel : ∀ id, id ∈ [0] → id ≤ hnS0.active := by decide
  have hcov : Covers [[1], [2], [3]] hnS0 := by decide
  have hi : Inv hnS1.st := by
    unfold hnS1
    exact (c20_merge_inv false hnCfg hnS0 [0] [[1], [2], [3]] 3 0 (reachL_lj hr).inv hsel hcov).2.2 (by rfl)
  refine ⟨hr, hn_sel0, hsel, hcov, noHazard_of_noStaleValue (by decide), by decide, by decide, by rfl,
    by decide, by decide, ?_, hi, hn_sel1, by decide, by decide, noHazard_of_noStaleValue (by decide), ?_⟩
  · rw [openDisk_eq_with (by decide)]
    decide
  · rw [hn_S2]
    show _ ∧ get (openDisk _).1 [1] = .absent
    rw [openDisk_eq_with (by decide)]
    decide

/-! ### the current order (since commit 924dfa8, `hintFirst = true`) -/

/-- **C20-merge (lives invariant).** Current order.  Let the store satisfy the lives invariant
    with every selected file completely visible (`LJsel s sel`), `sel` ascending existing files,
    `order` covering, and the D3 side condition `NoHazard s sel`.  After the pass — failed at ANY
    call `j`, or not at all — and its possibly pending move, the running store satisfies the lives
    invariant `LJ` again. -/
theorem c20_merge_lj (cfg : Cfg) (s : St) (sel : List Nat) (order : List Key) (j torn : Nat)
    (h : LJsel s sel) (hsel : ∀ id, id ∈ sel → id ≤ s.active) (hcov : Covers order s)
    (hsorted : sel.Pairwise (· ≤ ·)) (hz : NoHazard s sel) :
    LJ (mergeF true cfg s sel order j torn).p.move.1 := by
  obtain ⟨d1, w, hvis⟩ := h
  rw [mergeF_eq, (closeF_move _ _ _).1]
  exact ((mfZ_stop cfg s sel order j torn).pj w hsel hcov
    (fun _ hd => noHazard_prefix_of_sorted w.asc w.fullA hsorted hz hd) hvis).finish

/-- **C20-merge (failed pass, then operations, then restart), under `NoHazard`.** Order of the
    day.  Hypotheses on the failed pass as in `c20_merge_lj`.  Let `ops` be ANY later sequence of
    fault-free puts, deletes, gets, reopens and merge passes, valid in the sense of `ValidOps`:
    every merge pass of the sequence selects existing files in ascending order, its iteration
    order covers the index, and its selection is hazard-free (`NoHazard`, the D3 side condition)
    in the state it runs in.  Then
      * in the running process every key reads what the abstract map says after `ops`
        (`specRun s.abs ops`: the failed pass has no effect),
      * after a restart (`openDisk` of the directory) every key reads exactly the same — no
        acknowledged write is lost, no deleted key comes back —,
      * the restarted store satisfies the lives invariant and no read is `corrupt`. -/
theorem c20_merge_then_ops_restart_partial (cfg : Cfg) (s : St) (sel : List Nat) (order : List Key) (j torn : Nat)
    (h : LJsel s sel) (hsel : ∀ id, id ∈ sel → id ≤ s.active) (hcov : Covers order s)
    (hsorted : sel.Pairwise (· ≤ ·)) (hz : NoHazard s sel)
    (cfg' : Cfg) (ops : List TOp) (hv : ValidOps cfg' (mergeF true cfg s sel order j torn).p.move.1 ops) :
    (runC cfg' (mergeF true cfg s sel order j torn).p.move.1 ops).abs = specRun s.abs ops ∧
    (openDisk (runC cfg' (mergeF true cfg s sel order j torn).p.move.1 ops).disk).1.abs = specRun s.abs ops ∧
    LJ (openDisk (runC cfg' (mergeF true cfg s sel order j torn).p.move.1 ops).disk).1 ∧
    ∀ k, get (openDisk (runC cfg' (mergeF true cfg s sel order j torn).p.move.1 ops).disk).1 k ≠ .corrupt := by
  obtain ⟨hp, ha⟩ := mergeF_ok (hintFirst := true) cfg s sel order j torn h.lj.inv hsel hcov
  obtain ⟨a, b⟩ := runC_lj cfg' ops (c20_merge_lj cfg s sel order j torn h hsel hcov hsorted hz) hv
  rw [hp.move_abs, ha] at b
  have hrec := b ▸ a.recovers
  exact ⟨b, hrec.2, hrec.1, fun k => get_not_corrupt hrec.1.inv k⟩

/-- the same for the states of histories without a kill inside a merge pass (`ReachM`: sets,
    deletes, reads, reopens, hazard-free merge passes, kills inside the merge-free operations):
    they have no stale merge outputs, so `LJsel` holds for every selection -/
theorem c20_merge_then_ops_restart_reach_partial (cfg cfg0 : Cfg) (s : St) (sel : List Nat) (order : List Key)
    (j torn : Nat) (hr : ReachM cfg0 s) (hsel : ∀ id, id ∈ sel → id ≤ s.active) (hcov : Covers order s)
    (hsorted : sel.Pairwise (· ≤ ·)) (hz : NoHazard s sel)
    (cfg' : Cfg) (ops : List TOp) (hv : ValidOps cfg' (mergeF true cfg s sel order j torn).p.move.1 ops) :
    (runC cfg' (mergeF true cfg s sel order j torn).p.move.1 ops).abs = specRun s.abs ops ∧
    (openDisk (runC cfg' (mergeF true cfg s sel order j torn).p.move.1 ops).disk).1.abs = specRun s.abs ops :=
  let r := c20_merge_then_ops_restart_partial cfg s sel order j torn
    (ljsel_of_rinv (reachM_rinv hr).1 (reachM_rinv hr).2 sel) hsel hcov hsorted hz cfg' ops hv
  ⟨r.1, r.2.1⟩

/-- the pass of the old-order counterexample, with the current order -/
def hnT1 : StP := (mergeF true hnCfg hnS0 [0] [[1], [2], [3]] 3 0).p
/-- … and the next, fault-free pass with the policy's selection -/
def hnT2 : St := (merge hnCfg hnT1.st [[1], [2], [3]]).1

theorem hn_selT1 : selectFiles hnCfg hnT1.st = [0, 3] := selectFiles_eq (by decide) (by decide)
theorem hn_T2 : hnT2 = (mergeWith hnCfg hnT1.st [0, 3] [[1], [2], [3]]).1 := by
  unfold hnT2 merge; rw [hn_selT1]

theorem hnS0_reachM : ReachM hnCfg hnS0 := reachM_runC mfOps .fresh (by simp [mfOps, ValidOps, opOk])

/-- the hypotheses of `c20_merge_lj` / `c20_merge_then_ops_restart_partial` hold for the witness
    history: failed pass over file 0, then the next pass (over file 0 and the abandoned output 3) and a reopen -/
example : LJsel hnS0 [0] ∧ (∀ id, id ∈ [0] → id ≤ hnS0.active) ∧ Covers [[1], [2], [3]] hnS0 ∧
    [0].Pairwise (· ≤ ·) ∧ NoHazard hnS0 [0] ∧
    ValidOps hnCfg hnT1.move.1 [.merge [0, 3] [[1], [2], [3]], .reopen] :=
  ⟨ljsel_of_rinv (reachM_rinv hnS0_reachM).1 (reachM_rinv hnS0_reachM).2 _, by decide, by decide, by decide,
   noHazard_of_noStaleValue (by decide),
   ⟨⟨by decide, by decide, by decide, noHazard_of_noStaleValue (by decide)⟩, trivial, trivial⟩⟩

/-- **the witness history of the old-order counterexample is harmless with the current order.**
    The pass over file 0 fails at call 3 (the hint append for `[1]`): the error is reported, the
    entry of `[1]` still points into file 0 (the copy in file 3 is an unlisted, invisible record,
    counted as dead in file 3: commit 8c97bf1).  The next pass — fault-free, the policy selects file 0
    again AND the abandoned output 3 — finds the entry in file 0, copies the record to a new output
    WITH hint entry and removes file 0 and file 3: nothing of the failed pass is left behind.  In
    the running process and after a restart every key reads what it read before the failed pass. -/
theorem c20_merge_new_order_witness_harmless :
    (mergeF true hnCfg hnS0 [0] [[1], [2], [3]] 3 0).err = true ∧ hnT1.pending = none ∧
    AL.get [1] hnT1.st.keydir = some ⟨0, 0, 27, 0⟩ ∧
    dataOf hnT1.st.disk 3 = [⟨0, [1], some [10]⟩] ∧ AL.get 3 hnT1.st.disk.hint = some [] ∧
    AL.get 3 hnT1.st.stats = some ⟨0, 1, 27⟩ ∧ selectFiles hnCfg hnT1.st = [0, 3] ∧
    AL.get [1] hnT2.keydir = some ⟨5, 0, 27, 0⟩ ∧ AL.get 5 hnT2.disk.hint = some [⟨0, 27, 0, [1]⟩] ∧
    AL.get 0 hnT2.disk.data = none ∧ AL.get 3 hnT2.disk.data = none ∧ AL.get 3 hnT2.disk.hint = none ∧
    (∀ k ∈ [[1], [2], [3], [4]], get hnT2 k = get hnS0 k) ∧
    (∀ k ∈ [[1], [2], [3], [4]], get (reopen hnT2).1 k = get hnS0 k) := by
  refine ⟨by decide, by rfl, by decide, by decide, by decide, by decide, hn_selT1, ?_⟩
  rw [hn_T2]
  show _ ∧ _ ∧ _ ∧ _ ∧ _ ∧ _ ∧ ∀ k ∈ [[1], [2], [3], [4]], get (openDisk _).1 k = get hnS0 k
  rw [openDisk_eq_with (by decide)]
  decide

/-- **why `LJsel` (and not just `LJ`) in `c20_merge_lj`.**  `hzS1` (Props/C03Lives.lean) is
    reachable: a pass over file 0 was killed between the data append and the hint append of key
    `[2]`; file 2 is a stale output holding `[1]`, `[2]` whose hint file lists only `[1]`;
    recovery: `[1] ↦ file 2`, `[2] ↦ file 0`.  A pass over file 2 (all side conditions hold,
    `NoHazard` included) fails at call 7, the removal of the DATA file 2, after the hint file of
    file 2 has been removed.  In the running process `[2]` still points into file 0; a scan now
    reads file 2 record by record and recovers `[2]` in file 2 — the same record, another entry.
    So the lives invariant (index = what the scan recovers) does not hold literally; every key
    reads correctly in the running process and after a restart. -/
theorem c20_merge_lj_needs_visible_example :
    ReachL hzCfg hzS1 ∧ (∀ id, id ∈ [2] → id ≤ hzS1.active) ∧ Covers [[1], [2]] hzS1 ∧
    [2].Pairwise (· ≤ ·) ∧ NoHazard hzS1 [2] ∧
    (mergeWith hzCfg hzS1 [2] [[1], [2]]).2[7]? = some (Call.unlink ⟨.data, 2⟩) ∧
    ¬ LJ (mergeF true hzCfg hzS1 [2] [[1], [2]] 7 0).p.move.1 ∧
    (∀ k ∈ [[1], [2], [3]], getP (mergeF true hzCfg hzS1 [2] [[1], [2]] 7 0).p k = get hzS1 k ∧
      get (openDisk (mergeF true hzCfg hzS1 [2] [[1], [2]] 7 0).p.st.disk).1 k = get hzS1 k) := by
  refine ⟨hz_reach1.2, by decide, by decide, by decide, noHazard_of_noStaleValue (by decide), by decide, ?_, ?_⟩
  · intro h
    have hk := congrFun h.keydir_open [2]
    rw [openDisk_eq_with (by decide)] at hk
    revert hk
    decide
  · rw [openDisk_eq_with (by decide)]
    decide

/-! ### counters -/

/-- **C20-merge (an abandoned copy is counted).** Current order.  When the hint append of an iteration
    fails, the copy just appended to the output `m.mid` — which no index entry points at — is counted in
    that file's counters as one dead entry of the record's length (commit 8c97bf1).  So the output has
    counters, and `selectFiles`, which only looks at files that have counters, can select it in a later
    pass (without them the file would stay in the directory for good: defect D14). -/
theorem c20_merge_abandoned_copy_counted (m : MergeSt) (k : Key) (loc : Loc) (r : Rec) (torn : Nat) :
    AL.get m.mid (failMove true m k loc r 1 torn).s.stats =
      some (((AL.get m.mid m.s.stats).getD {}).addDead r.len) ∧
    (failMove true m k loc r 1 torn).s.keydir = m.s.keydir := by
  simp [failMove, updStat, AL.get_set_same]

/-- the counters say so in numbers: at least one dead entry and at least the record's bytes -/
theorem c20_merge_abandoned_copy_dead (m : MergeSt) (k : Key) (loc : Loc) (r : Rec) (torn : Nat) :
    ∃ st, AL.get m.mid (failMove true m k loc r 1 torn).s.stats = some st ∧ 1 ≤ st.dead ∧ r.len ≤ st.deadBytes := by
  refine ⟨_, (c20_merge_abandoned_copy_counted m k loc r torn).1, ?_, ?_⟩ <;> simp [Stat.addDead]

/-- **Observation (counters).** After fault (c) — every record copied, the unlink of the first
    input fails — the counters of the two inputs still count the copied records as live (3 live
    records in files 0 and 1), while no index entry points into these files any more (ground
    truth: 0 live, 4 dead).  The per-file accounting of C19 is not exact after a failed pass. -/
theorem c20_merge_counters_stale_example :
    (mergeF true mfCfg mfSt mfSel mfOrder 14 0).p.st.stats =
      [(0, ⟨1, 1, 27⟩), (1, ⟨2, 0, 0⟩), (3, ⟨2, 0, 0⟩), (4, ⟨1, 0, 0⟩)] ∧
    truth (mergeF true mfCfg mfSt mfSel mfOrder 14 0).p.st =
      [(0, ⟨0, 2, 54⟩), (1, ⟨0, 2, 54⟩), (3, ⟨2, 0, 0⟩), (4, ⟨1, 0, 0⟩)] := by decide

end Store
