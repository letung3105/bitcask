/-
  C09 (lives) — with `sync = always` an acknowledged write survives power loss, merges included,
  over any number of lives — also when a life ends with a power failure (or a kill) INSIDE a
  merge pass.

  Props/C09.lean proves that every power-loss image of every cut of every operation opens to the
  right contents, from the states `ReachM`; after a failure inside a merge pass the recovered
  store is outside `ReachM` (an output data file may hold records its hint file does not list, or
  the hint file entries whose records are gone — the D5 check `pos + len ≤ data length` then
  stops the scan of the hint file).  This file states the same theorems for `ReachP`, whose
  histories also contain power failures and kills inside a merge pass, with the lives invariant
  `LJ` of Props/C03Lives.lean.

  Failure model.  `PowerLoss3` (Store/LivesPower.lean) = `PowerLoss2` (creations and removals
  persistent; every data file and every hint file cut back independently to any length at or
  above its durable length; where records are lost the partial record left behind is shorter
  than the first lost record) PLUS: a data file that loses no record keeps its length.
  `PowerLoss2` leaves the invisible tail of such a file arbitrary.  That is harmless while hint
  files are exact, but NOT after a power failure inside a merge: a stale output may keep hint
  entries whose records are gone, and a longer tail would make the D5 check accept them
  (`c09_lives_tail_counterexample`, decide-checked).  Real files do not grow in a power failure.
  As in Props/C09.lean a life starts with everything in the directory durable (`FullySynced2`;
  after a reboot whatever is on the disk is durable; `c09_lives_boundary_synced`: with
  `sync = always` everything is durable again whenever an operation has returned).

  Main theorems: `c09_lives_op_durable_partial` (one operation), `c09_lives_merge_partial`
  (one life from any reachable state; reachability `ReachP` = operations, kills at any cut,
  power failures at any cut, recoveries).  "partial": the D3 side condition (`opOk`:
  `NoHazard` — over ALL records, see Props/C03Lives.lean) is a hypothesis.

  Helper lemmas: Store/LivesGen.lean (general recovery theorem `recW_newFiles`, `hp_image`),
  Store/LivesPower.lean (images of the copy phase), Store/LivesPowerOps.lean.
-/
import BitcaskVerif.Props.C03Lives
import BitcaskVerif.Props.C09
import BitcaskVerif.Store.LivesPowerOps

namespace Store

open Tr

/-- the images of this file are images of Props/C09.lean -/
theorem c09_lives_images (sd : SDisk2) (I : Disk) (h : PowerLoss3 sd I) : PowerLoss2 sd I := h.toPL2

/-- the states of Props/C03Lives.lean are reachable states of this file -/
theorem c09_lives_reachL (cfg : Cfg) (s : St) (h : ReachL cfg s) : ReachP cfg s := h.toReachP

/-- **C09 (lives): the invariant.**  Every state reachable by operations, kills and power failures
    at any cut of any operation (merge passes included), and recoveries, satisfies the lives
    invariant, the store invariant, `HintsPrefix`, and never reads a bad location. -/
theorem c09_lives_invariant (cfg : Cfg) (s : St) (h : ReachP cfg s) :
    LJ s ∧ Inv s ∧ HintsPrefix s.disk ∧ ∀ k, get s k ≠ .corrupt := by
  have hl := reachP_lj h
  exact ⟨hl, hl.inv, hl.hintsPrefix, fun k => get_not_corrupt hl.inv k⟩

/-- **C09 (lives), merge pass, hazard hypothesis per prefix** (cf.
    `c09_merge_durable_prefixes_partial`): every image of every cut of a merge pass opens to
    exactly the contents before the merge: a merge never removes the only durable copy of a
    value, and what it has half-written is either a copy of a live record or invisible. -/
theorem c09_lives_merge_durable_prefixes_partial (cfg : Cfg) (s : St) (h : ReachP cfg s) (sel : List Nat)
    (order : List Key) (hsel : ∀ id, id ∈ sel → id ≤ s.active) (hcov : Covers order s)
    (hz : ∀ done, done <+: sel → NoHazard s done) (sd0 : SDisk2) (hd : sd0.disk = s.disk)
    (hfs : FullySynced2 sd0) (c : List Call) (hc : Cut (mergeWith cfg s sel order).2 c) (I : Disk)
    (hp : PowerLoss3 (syncCalls2 sd0 c) I) :
    (openDisk I).1.abs = s.abs ∧ Inv (openDisk I).1 ∧ LJ (openDisk I).1 := by
  obtain ⟨d1, w⟩ := reachP_lj h
  have r := (mergeWith_image_recW cfg w sel order hsel hcov hz hd hfs hc hp).recJ
  exact ⟨r.2, r.1.inv, r.1⟩

/-- **C09 (lives), one life.**  `sync = always`; from any reachable state `s` whose directory is
    durable: after the acknowledged operations `ops` (merge passes included) the power fails at
    ANY cut `c` of the next operation `op` (a merge pass included).  Every image `I` opens to a
    store that satisfies the invariant, never reads a bad location, contains every acknowledged
    operation, and `op` applied or not — applied if `op` had returned; it is again a reachable
    state, so the statement applies to the next life as well (with `allSynced2` of its
    directory: `c09_lives_next_life`). -/
theorem c09_lives_merge_partial (cfg : Cfg) (hs : cfg.syncAlways = true) (s : St) (h : ReachP cfg s)
    (sd0 : SDisk2) (hd : sd0.disk = s.disk) (hfs : FullySynced2 sd0) (ops : List TOp) (hv : ValidOps cfg s ops)
    (op : TOp) (hop : opOk (runC cfg s ops) op) (c : List Call) (hc : Cut (stepC cfg (runC cfg s ops) op).2 c)
    (I : Disk) (hp : PowerLoss3 (syncCalls2 sd0 (traceOf cfg s ops ++ c)) I) :
    ((openDisk I).1.abs = specRun s.abs ops ∨ (openDisk I).1.abs = specOp (specRun s.abs ops) op) ∧
    (c = (stepC cfg (runC cfg s ops) op).2 → (openDisk I).1.abs = specOp (specRun s.abs ops) op) ∧
    Inv (openDisk I).1 ∧ (∀ k, get (openDisk I).1 k ≠ .corrupt) ∧ ReachP cfg (openDisk I).1 := by
  have hr : ReachP cfg (openDisk I).1 := .power sd0 ops op c I h hs hd hfs hv hop hc hp
  have hi := (reachP_lj hr).inv
  obtain ⟨a, b⟩ := history_image_recW cfg hs (reachP_lj h) hd hfs ops hv op hop hc hp
  refine ⟨?_, fun e => (b e).recJ.2, hi, fun k => get_not_corrupt hi k, hr⟩
  rcases a with r | r
  · exact .inl r.recJ.2
  · exact .inr r.recJ.2

/-- **C09 (lives), one operation** (`c09_lives_merge_partial` with no acknowledged operation
    before it).  `sync = always`; `s` reachable as above (e.g. recovered from a power failure
    inside a merge pass), everything in its directory durable (`sd0`).  The power fails after the
    calls `c` — ANY cut — of the next operation `op` (set, delete, read, reopen, or a merge pass
    satisfying `opOk`).  Every image `I` the failure can leave opens to a store that satisfies
    the invariant, never reads a bad location, reads as before `op` or as after `op` — as after
    `op` if `op` had returned — and is again a reachable state. -/
theorem c09_lives_op_durable_partial (cfg : Cfg) (hs : cfg.syncAlways = true) (s : St) (h : ReachP cfg s)
    (sd0 : SDisk2) (hd : sd0.disk = s.disk) (hfs : FullySynced2 sd0) (op : TOp) (hop : opOk s op)
    (c : List Call) (hc : Cut (stepC cfg s op).2 c) (I : Disk) (hp : PowerLoss3 (syncCalls2 sd0 c) I) :
    ((openDisk I).1.abs = s.abs ∨ (openDisk I).1.abs = specOp s.abs op) ∧
    (c = (stepC cfg s op).2 → (openDisk I).1.abs = specOp s.abs op) ∧
    Inv (openDisk I).1 ∧ (∀ k, get (openDisk I).1 k ≠ .corrupt) ∧ ReachP cfg (openDisk I).1 :=
  c09_lives_merge_partial cfg hs s h sd0 hd hfs [] trivial op hop c hc I hp

/-- the next life starts from the recovered store with everything on the disk durable -/
theorem c09_lives_next_life (d : Disk) : (allSynced2 d).disk = d ∧ FullySynced2 (allSynced2 d) :=
  ⟨rfl, fullySynced2_all d⟩

/-- with `sync = always` everything (data and hint files) is durable whenever an operation —
    merge passes included — has returned -/
theorem c09_lives_boundary_synced (cfg : Cfg) (hs : cfg.syncAlways = true) (s : St) (h : ReachP cfg s)
    (sd0 : SDisk2) (hd : sd0.disk = s.disk) (hfs : FullySynced2 sd0) (ops : List TOp) (hv : ValidOps cfg s ops) :
    (syncCalls2 sd0 (traceOf cfg s ops)).disk = (runC cfg s ops).disk ∧
      FullySynced2 (syncCalls2 sd0 (traceOf cfg s ops)) :=
  runC_sync2 cfg hs ops sd0 hd hfs

/-- **what half-written merge outputs amount to.**  A data file and its hint file cut back
    independently (to `kD` records and `kH` entries; `tail` bytes of a partial record remain,
    fewer than the first lost record has): the entries the scan accepts describe exactly as many
    records of what is left of the data file.  An entry whose record is missing or incomplete
    points beyond the end of the file (D5). -/
theorem c09_lives_cut_back (fid : Nat) (rs : List Rec) (hs : List Hint)
    (hex : hintEvs fid hs = evData fid (rs.take hs.length) 0) (kD kH tail : Nat)
    (htail : ∀ r, rs[kD]? = some r → tail < r.len) :
    hintEvs fid (accLen (fileSize (rs.take kD) + tail) (hs.take kH)) =
      evData fid ((rs.take kD).take (accLen (fileSize (rs.take kD) + tail) (hs.take kH)).length) 0 :=
  hp_image hex kD kH tail htail

/-! ### non-vacuity, and the tail of a file that loses nothing -/

/-- an image in which nothing is lost (every `SDisk2` has one) -/
theorem powerLoss3_self (sd : SDisk2) :
    PowerLoss3 sd (lossImage2 sd.disk (fun id => max (sd.dOf id) (dataOf sd.disk id).length)
      (fun id => sd.hOf id) sd.disk.tails) := by
  refine ⟨_, _, _, fun id => Nat.le_max_left _ _, fun id => Nat.le_refl _, ?_, fun _ _ => rfl, rfl⟩
  intro id r hr
  rw [List.getElem?_eq_none (Nat.le_max_right _ _)] at hr
  cases hr

/-- `pImg` of Props/C09.lean (merge of file 0 of `pSt`, the power fails after the hint append of the
    copied record; output data file 3 lost its record — 5 bytes of it remain — hint file 3 kept its
    entry) is an image of this file -/
theorem pImg_powerLoss3 : PowerLoss3 (syncCalls2 (allSynced2 pSt.disk) pCut) pImg := by
  rw [pSd]
  refine ⟨fun id => if id = 3 then 0 else 1, fun _ => 1, [(3, 5)], SDisk2.dOf_le (by decide),
    SDisk2.hOf_le (by decide), tailOk_of_files (by decide), ?_, rfl⟩
  intro id hlen
  by_cases e : id = 3
  · subst e
    simp [dataOf, AL.get] at hlen
  · have e' : ¬ 3 = id := fun h => e h.symm
    simp [AL.get, e']

/-- the store recovered from `pImg`: a reachable state of this file whose hint file 3 lists a
    record that is gone -/
def pS1 : St := (openDisk pImg).1

theorem pS1_reach : ReachP pCfg pS1 := by
  have hm : ReachM pCfg pSt := .step (.put 0 [2] [20]) (.step (.put 0 [1] [10]) .fresh trivial) trivial
  have h0 : ReachP pCfg pSt := hm.toReachL.toReachP
  exact .power (allSynced2 pSt.disk) [] (.merge [0] [[1], [2]]) pCut pImg h0 rfl rfl (fullySynced2_all _) trivial
    ⟨by decide, by decide, by decide, noHazard_of_noStaleValue (by decide)⟩
    (.boundary _ [.fsync ⟨.data, 3⟩, .fsync ⟨.hint, 3⟩, .create ⟨.data, 4⟩, .create ⟨.hint, 4⟩, .fsync ⟨.data, 4⟩,
      .fsync ⟨.hint, 4⟩, .unlink ⟨.data, 0⟩, .create ⟨.data, 5⟩] (by decide))
    pImg_powerLoss3

theorem pS1_eq : pS1 = (openDiskWith [0, 1, 2, 3] pImg).1 := by
  unfold pS1; rw [openDisk_eq_with (by decide)]; rfl

/-- its hint files are not exact: outside the theory of Props/C09.lean -/
example : ¬ HintsExact pS1.disk := by
  rw [pS1_eq]
  intro h
  have := h 3 [⟨0, 27, 0, [1]⟩] (by decide)
  revert this
  decide

/-- second life: a set, then a merge of file 0 and the stale output 3; the power fails after the
    hint file of the stale output has been removed -/
def pCut2 : List Call :=
  [.create ⟨.data, 6⟩, .create ⟨.hint, 6⟩, .append ⟨.data, 6⟩ (.ofRec ⟨0, [1], some [10]⟩),
   .append ⟨.hint, 6⟩ (.ofHint ⟨0, 27, 0, [1]⟩), .fsync ⟨.data, 6⟩, .fsync ⟨.hint, 6⟩, .create ⟨.data, 7⟩,
   .create ⟨.hint, 7⟩, .fsync ⟨.data, 7⟩, .fsync ⟨.hint, 7⟩, .unlink ⟨.data, 0⟩, .unlink ⟨.hint, 3⟩]

/-- the hypotheses of `c09_lives_merge_partial` (and of `c09_lives_op_durable_partial`,
    `c09_lives_boundary_synced`) are satisfiable in the life after the power failure inside the
    merge: a set, then a second merge pass — which selects the stale output — cut inside its
    removal phase, with an image -/
example : ReachP pCfg pS1 ∧ (allSynced2 pS1.disk).disk = pS1.disk ∧ FullySynced2 (allSynced2 pS1.disk) ∧
    ValidOps pCfg pS1 [.put 1 [3] [30]] ∧
    opOk (runC pCfg pS1 [.put 1 [3] [30]]) (.merge [0, 3] [[1], [2], [3]]) ∧
    Cut (stepC pCfg (runC pCfg pS1 [.put 1 [3] [30]]) (.merge [0, 3] [[1], [2], [3]])).2 pCut2 ∧
    ∃ I, PowerLoss3 (syncCalls2 (allSynced2 pS1.disk) (traceOf pCfg pS1 [.put 1 [3] [30]] ++ pCut2)) I := by
  refine ⟨pS1_reach, rfl, fullySynced2_all _, ⟨trivial, trivial⟩, ?_, ?_, _, powerLoss3_self _⟩
  · rw [pS1_eq]
    exact ⟨by decide, by decide, by decide, noHazard_of_noStaleValue (by decide)⟩
  · rw [pS1_eq]
    exact .boundary _ [.unlink ⟨.data, 3⟩, .create ⟨.data, 8⟩] (by decide)

/-- hypotheses of `c09_lives_merge_durable_prefixes_partial` in the same instance -/
example : ∀ done, done <+: [0, 3] → NoHazard (runC pCfg pS1 [.put 1 [3] [30]]) done := by
  rw [pS1_eq]
  have hall : ∀ e ∈ allEvs (runC pCfg (openDiskWith [0, 1, 2, 3] pImg).1 [.put 1 [3] [30]]).disk.data,
      e.tomb = false →
      (AL.get e.key (runC pCfg (openDiskWith [0, 1, 2, 3] pImg).1 [.put 1 [3] [30]]).keydir).isSome = true := by
    decide
  intro done _
  apply noHazard_of_noStaleValue
  intro e he ht
  exact hall e (List.mem_filter.mp he).1 ht

/-- hypotheses of `c09_lives_cut_back`: two records, both hint entries survive, the second record
    does not (3 bytes of it remain): the scan accepts one entry -/
example : hintEvs 7 [⟨0, 27, 0, [1]⟩, ⟨0, 27, 27, [2]⟩] =
      evData 7 (([⟨0, [1], some [10]⟩, ⟨0, [2], some [20]⟩] : List Rec).take 2) 0 ∧
    (∀ r, ([⟨0, [1], some [10]⟩, ⟨0, [2], some [20]⟩] : List Rec)[1]? = some r → 3 < r.len) ∧
    accLen (fileSize (([⟨0, [1], some [10]⟩, ⟨0, [2], some [20]⟩] : List Rec).take 1) + 3)
      (([⟨0, 27, 0, [1]⟩, ⟨0, 27, 27, [2]⟩] : List Hint).take 2) = [⟨0, 27, 0, [1]⟩] := by
  refine ⟨by decide, ?_, by decide⟩
  intro r hr
  simp only [List.getElem?_cons_succ, List.getElem?_cons_zero, Option.some.injEq] at hr
  subst hr
  decide

/-- **Why a file that loses nothing must keep its length.**  `pS1` is a reachable state whose
    directory is durable.  With no operation in flight, `PowerLoss2` allows the image of its
    directory in which nothing is lost but the invisible tail of the stale output 3 is 100 bytes
    instead of 5.  In that image the dangling hint entry of file 3 fits inside the file, the scan
    accepts it, and the key `[1]` reads a location that holds no record.  (The image is not a
    `PowerLoss3` image.) -/
def pD1 : Disk :=
  { data := [(0, [⟨0, [1], some [10]⟩]), (1, [⟨0, [2], some [20]⟩]), (2, []), (3, []), (4, [])],
    hint := [(3, [⟨0, 27, 0, [1]⟩])], tails := [(3, 5)] }

def pImgBad : Disk := { pD1 with tails := [(3, 100)] }

theorem c09_lives_tail_counterexample :
    ReachP pCfg pS1 ∧ pS1.disk = pD1 ∧ FullySynced2 (allSynced2 pD1) ∧
    PowerLoss2 (syncCalls2 (allSynced2 pD1) []) pImgBad ∧
    get pS1 [1] = .value [10] ∧ get (openDisk pImgBad).1 [1] = .corrupt := by
  refine ⟨pS1_reach, by rw [pS1_eq]; rfl, fullySynced2_all _, ?_, ?_, ?_⟩
  · exact ⟨fun _ => 1, fun _ => 1, [(3, 100)], SDisk2.dOf_le (by decide), SDisk2.hOf_le (by decide),
      tailOk_of_files (by decide), rfl⟩
  · rw [pS1_eq]; decide
  · unfold pImgBad
    rw [openDisk_eq_with (by decide)]
    decide

/-- hypotheses of `c09_lives_op_durable_partial`: a set in the life after the power failure
    inside the merge, the power failing before its first call -/
example : ReachP pCfg pS1 ∧ opOk pS1 (.put 1 [3] [30]) ∧ Cut (stepC pCfg pS1 (.put 1 [3] [30])).2 [] ∧
    ∃ I, PowerLoss3 (syncCalls2 (allSynced2 pS1.disk) []) I :=
  ⟨pS1_reach, trivial, Cut.nil _, _, powerLoss3_self _⟩

/-- the lives of Props/C03Lives.lean are reachable here: hypothesis of `c09_lives_reachL` -/
example : ReachL lvCfg lvS1 := lv_reach1

end Store
