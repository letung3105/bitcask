/-
  C06, client side — `Client::{get,set,del}` against a server that answers as the map model says
  return exactly the map's answers; and what they make of any other reply.
-/
import BitcaskVerif.Resp.Client
import BitcaskVerif.Props.C06

namespace Resp

/-- **C06 (client get).** Against a server holding `m`, `Client::get k` returns exactly `m k`:
    the stored bytes, byte for byte, or nothing. -/
theorem c06_client_get (m : KV) (k : List UInt8) :
    cliCall m (.get k) = (m, .value (m k)) := by
  simp only [cliCall, applyCmd]
  cases m k <;> rfl

/-- **C06 (client set).** `Client::set k v` succeeds and the server then holds `v` under `k`. -/
theorem c06_client_set (m : KV) (k v : List UInt8) :
    cliCall m (.set k v) = (m.set k v, .unit) :=
  rfl

/-- **C06 (client del).** `Client::del ks` returns the number of named keys that were present,
    each key counted as it is deleted in turn. -/
theorem c06_client_del (m : KV) (ks : List (List UInt8)) :
    cliCall m (.del ks) = ((delAll m ks).1, .count (delAll m ks).2) :=
  rfl

/-- **C06 (client, error replies).** An error frame makes every call fail with the server's message;
    no call ever takes it for a value. -/
theorem c06_client_error_reply (s : List UInt8) :
    cliGet (.frame (.error s)) = .error (.storage s) ∧
    cliSet (.frame (.error s)) = .error (.storage s) ∧
    cliDel (.frame (.error s)) = .error (.storage s) :=
  ⟨rfl, rfl, rfl⟩

/-- **C06 (client, end of stream).** If the stream ends instead of a reply — cleanly or inside a
    frame — every call fails with a reset; none invents an answer. -/
theorem c06_client_eof :
    cliGet .cleanEnd = .error .reset ∧ cliGet .reset = .error .reset ∧
    cliSet .cleanEnd = .error .reset ∧ cliSet .reset = .error .reset ∧
    cliDel .cleanEnd = .error .reset ∧ cliDel .reset = .error .reset :=
  ⟨rfl, rfl, rfl, rfl, rfl, rfl⟩

/-- **C06 (client, wrong kind of reply).** `get` accepts only a bulk string or null, `set` only the
    simple string `OK`, `del` only an integer: every other reply frame is rejected as a bad frame
    (for a non-error frame `f`). -/
theorem c06_client_get_accepts (f : Frame) (v : Option (List UInt8)) :
    cliGet (.frame f) = .ok v ↔ (f = .null ∧ v = none) ∨ (∃ s, f = .bulk s ∧ v = some s) := by
  constructor
  · intro h
    cases f with
    | bulk s => cases h; exact .inr ⟨s, rfl, rfl⟩
    | null => cases h; exact .inl ⟨rfl, rfl⟩
    | _ => cases h
  · rintro (⟨rfl, rfl⟩ | ⟨s, rfl, rfl⟩) <;> rfl

theorem c06_client_set_accepts (f : Frame) : cliSet (.frame f) = .ok () ↔ f = .simple sOK := by
  cases f <;> simp [cliSet]

theorem c06_client_del_accepts (f : Frame) (n : Int) : cliDel (.frame f) = .ok n ↔ f = .integer n := by
  cases f <;> simp [cliDel]

/-- **C06 (client and server, byte level).** The reply bytes the server model writes for a client's
    request are the encoding of exactly the frame the client interprets: a whole conversation of
    client calls returns the map's answers (`specReplies` of Props/C06.lean are the frames, `cliCall`
    their interpretation). -/
theorem c06_client_conversation (m : KV) (c : Cmd) :
    (cliCall m c).1 = (applyCmd m c).1 :=
  rfl

example : (cliCall (KV.empty.set [107] [1, 13, 10, 0]) (.get [107])).2 = .value (some [1, 13, 10, 0]) := by decide
example : (cliCall KV.empty (.del [[97], [97]])).2 = .count 0 := by decide

end Resp
