/-
  C20 seen by a client of the server: a command on whose behalf a store call failed is never acknowledged, an
  acknowledging reply is true of the store (of what the running server reads and of what a restart recovers),
  and a refused command touches no key it does not name and leaves each key it names with its old value or the
  value the command gives it. Model: `Resp/ServerFault.lean`.
-/
import BitcaskVerif.Resp.ServerFault

namespace Resp

theorem delAll_get (m : KV) (ks : List (List UInt8)) (k : List UInt8) :
    (k ∉ ks ∧ (delAll m ks).1 k = m k) ∨ (k ∈ ks ∧ (delAll m ks).1 k = none) := by
  induction ks generalizing m with
  | nil => exact .inl ⟨nofun, rfl⟩
  | cons k0 ks ih =>
    refine (ih (m.del k0)).elim (fun ⟨h1, h2⟩ => ?_) fun ⟨h1, h2⟩ => .inr ⟨List.mem_cons_of_mem _ h1, h2⟩
    by_cases e : k = k0
    · exact .inr ⟨e ▸ List.mem_cons_self, h2.trans (if_pos e)⟩
    · exact .inl ⟨fun h => (List.mem_cons.mp h).elim e h1, h2.trans (if_neg e)⟩

theorem delAll_of_mem (m : KV) {ks : List (List UInt8)} {k : List UInt8} (h : k ∈ ks) :
    (delAll m ks).1 k = none :=
  (delAll_get m ks k).elim (fun h' => absurd h h'.1) (·.2)

theorem delAll_of_not_mem (m : KV) {ks : List (List UInt8)} {k : List UInt8} (h : k ∉ ks) :
    (delAll m ks).1 k = m k :=
  (delAll_get m ks k).elim (·.2) (fun h' => absurd h'.1 h)

theorem applyCmd_other (m : KV) (c : Cmd) (k : List UInt8) (hk : k ∉ c.keys) :
    (applyCmd m c).1 k = m k := by
  cases c with
  | set k0 v => exact if_neg fun e => hk (by rw [e]; exact List.mem_cons_self)
  | get k0 => rfl
  | del ks => exact delAll_of_not_mem m hk

theorem fault_of_headD {rs : List CallRes} (n : Nat) (h : rs.headD .ok ≠ .ok) :
    ∃ r ∈ rs.take (n + 1), r ≠ .ok := by
  cases rs with
  | nil => exact absurd rfl h
  | cons r rs => exact ⟨r, List.mem_cons_self, h⟩

theorem fault_of_tail {rs : List CallRes} {n : Nat} (h : ∃ r ∈ rs.tail.take n, r ≠ .ok) :
    ∃ r ∈ rs.take (n + 1), r ≠ .ok := by
  obtain ⟨r, hr, hne⟩ := h
  cases rs with
  | nil => cases n <;> cases hr
  | cons r0 rs => exact ⟨r, List.mem_cons_of_mem _ hr, hne⟩

theorem storeDelF_some {s s1 : SF} {k : List UInt8} {r : CallRes} {p : Bool}
    (h : storeDelF s k r = (s1, some p)) : s1 = ⟨s.live.del k, s.disk.del k⟩ ∧ p = (s.live k).isSome := by
  cases r <;> cases h
  exact ⟨rfl, rfl⟩

theorem storeDelF_none {s s1 : SF} {k : List UInt8} {r : CallRes} (h : storeDelF s k r = (s1, none)) :
    r ≠ .ok ∧ s1.live = s.live ∧ (s1.disk = s.disk ∨ s1.disk = s.disk.del k) := by
  cases r <;> cases h
  · exact ⟨nofun, rfl, .inl rfl⟩
  · exact ⟨nofun, rfl, .inr rfl⟩

/-- a DEL, refused or not, has carried out its deletions for a first part of its keys: `i` of them in what the
    running server reads, `j` of them in the files; it is acknowledged only with all of them carried out, and
    refused only after a failing call -/
theorem delAllF_prefix {s s' : SF} {ks : List (List UInt8)} {rs : List CallRes} {o : Option Nat}
    (h : delAllF s ks rs = (s', o)) :
    ∃ i j, s'.live = (delAll s.live (ks.take i)).1 ∧ s'.disk = (delAll s.disk (ks.take j)).1 ∧
      (∀ n, o = some n → ks.take i = ks ∧ ks.take j = ks ∧ n = (delAll s.live ks).2) ∧
      (o = none → ∃ r ∈ rs.take ks.length, r ≠ .ok) := by
  revert s' o
  fun_induction delAllF s ks rs with
  | case1 s rs =>
    intro s' o h; cases h
    exact ⟨0, 0, rfl, rfl, fun n h => ⟨rfl, rfl, (Option.some.inj h).symm⟩, nofun⟩
  | case2 s k ks rs s1 h1 =>
    intro s' o h; cases h
    obtain ⟨hf, hl, hd⟩ := storeDelF_none h1
    exact hd.elim (fun hd => ⟨0, 0, hl, hd, nofun, fun _ => fault_of_headD _ hf⟩)
      fun hd => ⟨0, 1, hl, hd, nofun, fun _ => fault_of_headD _ hf⟩
  | case3 s k ks rs s1 present h1 s2 n h2 ih =>
    intro s' o h; cases h
    obtain ⟨i, j, hl, hd, hsome, hnone⟩ := ih h2
    obtain ⟨rfl, rfl⟩ := storeDelF_some h1
    refine ⟨i + 1, j + 1, hl, hd, fun n' hn' => ?_, fun h => ?_⟩
    · cases n with
      | none => cases hn'
      | some n =>
        obtain ⟨e1, e2, e3⟩ := hsome n rfl
        cases hn'
        exact ⟨congrArg (k :: ·) e1, congrArg (k :: ·) e2, by rw [e3]; rfl⟩
    · cases n with
      | none => exact fault_of_tail (hnone rfl)
      | some n => cases h

theorem delAll_take_old_or_new (m : KV) (ks : List (List UInt8)) (i : Nat) (k : List UInt8) :
    (delAll m (ks.take i)).1 k = m k ∨ (delAll m (ks.take i)).1 k = (delAll m ks).1 k :=
  (delAll_get m (ks.take i) k).elim (fun h => .inl h.2) fun h =>
    .inr (h.2.trans (delAll_of_mem m (List.mem_of_mem_take h.1)).symm)

theorem storeSetF_true {s s1 : SF} {k v : List UInt8} {r : CallRes} (h : storeSetF s k v r = (s1, true)) :
    s1 = ⟨s.live.set k v, s.disk.set k v⟩ := by
  cases r <;> cases h
  rfl

theorem storeSetF_false {s s1 : SF} {k v : List UInt8} {r : CallRes} (h : storeSetF s k v r = (s1, false)) :
    r ≠ .ok ∧ s1.live = s.live ∧ (s1.disk = s.disk ∨ s1.disk = s.disk.set k v) := by
  cases r <;> cases h
  · exact ⟨nofun, rfl, .inl rfl⟩
  · exact ⟨nofun, rfl, .inr rfl⟩

/-- **an acknowledging reply is true of the store**: when a reply frame is written, the command has been carried
    out in full, in what the running server reads and in what a restart recovers, and the reply is the one the
    key-value map gives -/
theorem c20_server_ack_truthful (s s' : SF) (c : Cmd) (rs : List CallRes) (f : Frame)
    (h : applyCmdF s c rs = (s', some f)) :
    s'.live = (applyCmd s.live c).1 ∧ s'.disk = (applyCmd s.disk c).1 ∧ f = (applyCmd s.live c).2 := by
  revert h
  fun_cases applyCmdF s c rs with
  | case1 k v s1 h1 => intro h; cases h; cases storeSetF_true h1; exact ⟨rfl, rfl, rfl⟩
  | case2 => nofun
  | case3 k hr => intro h; cases h; exact ⟨rfl, rfl, rfl⟩
  | case4 => nofun
  | case5 ks s2 n hd =>
    intro h
    obtain ⟨i, j, hl, hdk, hsome, _⟩ := delAllF_prefix hd
    cases n with
    | none => cases h
    | some n =>
      cases h
      obtain ⟨e1, e2, e3⟩ := hsome n rfl
      rw [e1] at hl; rw [e2] at hdk
      exact ⟨hl, hdk, congrArg _ (congrArg _ e3)⟩

/-- an acknowledged DEL: every key it names is gone, in the running server and after a restart -/
theorem c20_server_acked_del_all_gone (s s' : SF) (ks : List (List UInt8)) (rs : List CallRes) (f : Frame)
    (h : applyCmdF s (.del ks) rs = (s', some f)) (k : List UInt8) (hk : k ∈ ks) :
    s'.live k = none ∧ s'.disk k = none := by
  obtain ⟨h1, h2, _⟩ := c20_server_ack_truthful _ _ _ _ _ h
  rw [h1, h2]
  exact ⟨delAll_of_mem _ hk, delAll_of_mem _ hk⟩

/-- **a command is refused only if one of its store calls failed** -/
theorem c20_server_refused_only_on_fault (s s' : SF) (c : Cmd) (rs : List CallRes)
    (h : applyCmdF s c rs = (s', none)) : ∃ r ∈ rs.take c.calls, r ≠ .ok := by
  revert h
  fun_cases applyCmdF s c rs with
  | case1 => nofun
  | case2 k v s1 h1 => exact fun _ => fault_of_headD 0 (storeSetF_false h1).1
  | case3 => nofun
  | case4 k hr => exact fun _ => fault_of_headD 0 hr
  | case5 ks s2 n hd =>
    intro h
    cases n with
    | none =>
      obtain ⟨_, _, _, _, _, hnone⟩ := delAllF_prefix hd
      exact hnone rfl
    | some n => cases h

/-- **without a failing call the server is the key-value map** -/
theorem c20_server_no_fault (s : SF) (c : Cmd) (rs : List CallRes) (h : ∀ r ∈ rs.take c.calls, r = .ok) :
    ∃ s', applyCmdF s c rs = (s', some (applyCmd s.live c).2) ∧
      s'.live = (applyCmd s.live c).1 ∧ s'.disk = (applyCmd s.disk c).1 := by
  generalize hres : applyCmdF s c rs = res
  obtain ⟨s', o⟩ := res
  cases o with
  | none =>
    obtain ⟨r, hr, hne⟩ := c20_server_refused_only_on_fault _ _ _ _ hres
    exact absurd (h r hr) hne
  | some f =>
    obtain ⟨h1, h2, h3⟩ := c20_server_ack_truthful _ _ _ _ _ hres
    exact ⟨s', by rw [h3], h1, h2⟩

theorem applyCmdF_old_or_new (s : SF) (c : Cmd) (rs : List CallRes) (k : List UInt8) :
    ((applyCmdF s c rs).1.live k = s.live k ∨ (applyCmdF s c rs).1.live k = (applyCmd s.live c).1 k) ∧
    ((applyCmdF s c rs).1.disk k = s.disk k ∨ (applyCmdF s c rs).1.disk k = (applyCmd s.disk c).1 k) := by
  fun_cases applyCmdF s c rs with
  | case1 k0 v s1 h1 => cases storeSetF_true h1; exact ⟨.inr rfl, .inr rfl⟩
  | case2 k0 v s1 h1 =>
    obtain ⟨_, hl, hd⟩ := storeSetF_false h1
    exact ⟨.inl (congrFun hl k), hd.imp (congrFun · k) (congrFun · k)⟩
  | case3 => exact ⟨.inl rfl, .inl rfl⟩
  | case4 => exact ⟨.inl rfl, .inl rfl⟩
  | case5 ks s2 n hd =>
    obtain ⟨i, j, hl, hdk, _, _⟩ := delAllF_prefix hd
    show (s2.live k = _ ∨ s2.live k = _) ∧ (s2.disk k = _ ∨ s2.disk k = _)
    rw [hl, hdk]
    exact ⟨delAll_take_old_or_new _ ks i k, delAll_take_old_or_new _ ks j k⟩

/-- **a refused command affects no other key**: a key the command does not name reads as before, in the running
    server and after a restart (this holds whether or not the command is refused) -/
theorem c20_server_other_keys (s : SF) (c : Cmd) (rs : List CallRes) (k : List UInt8) (hk : k ∉ c.keys) :
    (applyCmdF s c rs).1.live k = s.live k ∧ (applyCmdF s c rs).1.disk k = s.disk k :=
  (applyCmdF_old_or_new s c rs k).imp (·.elim id (·.trans (applyCmd_other _ c k hk)))
    (·.elim id (·.trans (applyCmd_other _ c k hk)))

/-- **a refused command may or may not have taken effect**: every key reads its old value or the value the
    command gives it; the running server never shows a refused SET at all -/
theorem c20_server_refused_old_or_new (s s' : SF) (c : Cmd) (rs : List CallRes)
    (h : applyCmdF s c rs = (s', none)) (k : List UInt8) :
    (s'.live k = s.live k ∨ s'.live k = (applyCmd s.live c).1 k) ∧
    (s'.disk k = s.disk k ∨ s'.disk k = (applyCmd s.disk c).1 k) := by
  have := applyCmdF_old_or_new s c rs k
  rwa [h] at this

/-- the running server never shows anything of a refused SET -/
theorem c20_server_refused_set_invisible (s s' : SF) (k v : List UInt8) (rs : List CallRes)
    (h : applyCmdF s (.set k v) rs = (s', none)) : s'.live = s.live := by
  rw [applyCmdF] at h
  split at h
  · cases h
  · next s1 h1 => cases h; exact (storeSetF_false h1).2.1

def ackedPrefix (s : SF) : List (Cmd × List CallRes) → List Cmd
  | [] => []
  | (c, rs) :: rest =>
    match applyCmdF s c rs with
    | (_, none) => []
    | (s1, some _) => c :: ackedPrefix s1 rest

/-- **every reply a connection receives is true**: the replies written are exactly the key-value map's replies to
    the acknowledged commands, in order, and if no call of the run failed after the last of them the running
    server holds exactly what those commands give -/
theorem c20_server_replies (s : SF) (run : List (Cmd × List CallRes)) :
    (serveCmdsF s run).2.1 = ((ackedPrefix s run).foldl
        (fun (acc : KV × List Frame) c => ((applyCmd acc.1 c).1, acc.2 ++ [(applyCmd acc.1 c).2])) (s.live, [])).2 := by
  suffices H : ∀ (pre : List Frame),
      pre ++ (serveCmdsF s run).2.1 = ((ackedPrefix s run).foldl
        (fun (acc : KV × List Frame) c => ((applyCmd acc.1 c).1, acc.2 ++ [(applyCmd acc.1 c).2])) (s.live, pre)).2 from
    H []
  fun_induction serveCmdsF s run with
  | case1 s => exact List.append_nil
  | case2 s c rs rest s1 hres => intro pre; simp only [ackedPrefix, hres, List.foldl_nil, List.append_nil]
  | case3 s c rs rest s1 f hres s2 fs r hrec ih =>
    intro pre
    obtain ⟨h1, _, h3⟩ := c20_server_ack_truthful _ _ _ _ _ hres
    rw [hrec] at ih
    simp only [ackedPrefix, hres, List.foldl_cons, ← h1, ← h3, ← ih, List.append_assoc, List.singleton_append]

/-- a connection whose handler is still running after a run has had every one of its commands acknowledged -/
theorem c20_server_running_all_acked (s : SF) (run : List (Cmd × List CallRes))
    (h : (serveCmdsF s run).2.2 = true) : ackedPrefix s run = run.map Prod.fst := by
  fun_induction serveCmdsF s run with
  | case1 => rfl
  | case2 => cases h
  | case3 s c rs rest s1 f hres s2 fs r hrec ih =>
    rw [hrec] at ih
    simp only [ackedPrefix, hres, List.map_cons, ih h]

/-! ### the premises are met: a DEL of three keys whose second call fails after its entry reached the file -/

example :
    let s0 : SF := ⟨(KV.empty.set [97] [49]).set [98] [50], (KV.empty.set [97] [49]).set [98] [50]⟩
    let r := applyCmdF s0 (.del [[97], [98], [99]]) [.ok, .failApplied]
    r.2 = none ∧ r.1.live [97] = none ∧ r.1.live [98] = some [50] ∧ r.1.disk [98] = none := by
  decide

example :
    let s0 : SF := ⟨KV.empty.set [97] [49], KV.empty.set [97] [49]⟩
    applyCmdF s0 (.del [[97], [98]]) [] |>.2 = some (.integer 1) := by
  simp [applyCmdF, delAllF, storeDelF, KV.del, KV.set, KV.empty]

end Resp
