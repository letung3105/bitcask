/-
  C20 — a failed disk operation is reported and leaves the store consistent (running process).

  Fault-aware writer `putF` / `deleteF` (`Store/FaultModel.lean`): one file-system call of
  `Writer::write` fails (`Fault`).  The failing operation returns an error, the invariant of the
  store is kept, no key — the failed operation's own key included — reads differently afterwards,
  and every later fault-free operation behaves exactly as on the abstract map; for whole
  histories with any number of failed writes the store refines the map on which failed
  operations have no effect (`c20_refines`).

  After a restart (`c20_restart_*`): the store reopened after a failed operation is — index,
  counters and contents — the store reopened after the same operation *without* the fault
  (`appendSmall`, `fsync`, `create`: the operation has taken effect) or the store reopened without
  the operation (`appendLarge`: it has not).  What a restart of a fault-free state `s` reads is
  `reopen_abs` / `reopen_rinv` (`Store/RecInv.lean`, from `RInv s` and `Full s`), which this file does
  not import; `c20_restart_other_keys_partial` shows how it plugs in.  Restarts after a failed merge
  pass are in `Props/C20Merge.lean`.  `c20_disk_*` spell out the directory contents after each fault.
-/
import BitcaskVerif.Store.FaultRun

namespace Store
open Store.Tr
/-- **C20 (reported).** Every put / delete during which a call fails returns the error. -/
theorem c20_reported (cfg : Cfg) (s : St) (ts : Int) (k : Key) (v : Val) (f : Fault) :
    (putF cfg s ts k v (some f)).2 = false ∧ (deleteF cfg s ts k (some f)).2 = none := ⟨rfl, rfl⟩

/-- and a put / delete without a fault is the plain operation and returns `Ok` -/
theorem c20_no_fault (cfg : Cfg) (s : St) (ts : Int) (k : Key) (v : Val) :
    putF cfg s ts k v none = ((put cfg s ts k v).1, true) ∧
    deleteF cfg s ts k none = ((delete cfg s ts k).1, some (delete cfg s ts k).2.1) := ⟨rfl, rfl⟩

/-- **C20 (invariant).** With or without a fault the store invariant is preserved. -/
theorem c20_inv (cfg : Cfg) (s : St) (ts : Int) (k : Key) (v : Val) (fault : Option Fault) (h : Inv s) :
    Inv (putF cfg s ts k v fault).1 ∧ Inv (deleteF cfg s ts k fault).1 := by
  cases fault with
  | none => simp only [putF, deleteF]; exact ⟨put_inv cfg s ts k v h, delete_inv cfg s ts k h⟩
  | some f => exact ⟨writeF_inv s _ f h, writeF_inv s _ f h⟩

/-- **C20 (other keys).** A failed put / delete of `k` changes what no other key reads. -/
theorem c20_other_keys (cfg : Cfg) (s : St) (ts : Int) (k : Key) (v : Val) (f : Fault) (h : Inv s)
    (k' : Key) (_ : k' ≠ k) :
    (putF cfg s ts k v (some f)).1.abs k' = s.abs k' ∧ (deleteF cfg s ts k (some f)).1.abs k' = s.abs k' :=
  ⟨congrFun (writeF_abs s _ f h) k', congrFun (writeF_abs s _ f h) k'⟩

/-- **C20 (failed key).** In the running process the failed operation has not taken effect: its
    key reads what it read before. -/
theorem c20_failed_key (cfg : Cfg) (s : St) (ts : Int) (k : Key) (v : Val) (f : Fault) (h : Inv s) :
    (putF cfg s ts k v (some f)).1.abs k = s.abs k ∧ (deleteF cfg s ts k (some f)).1.abs k = s.abs k :=
  ⟨congrFun (writeF_abs s _ f h) k, congrFun (writeF_abs s _ f h) k⟩

/-- both together: the abstraction is unchanged and no read is ever `corrupt` -/
theorem c20_abs (cfg : Cfg) (s : St) (ts : Int) (k : Key) (v : Val) (f : Fault) (h : Inv s) :
    (putF cfg s ts k v (some f)).1.abs = s.abs ∧ (deleteF cfg s ts k (some f)).1.abs = s.abs ∧
    (∀ k', get (putF cfg s ts k v (some f)).1 k' = get s k') ∧
    (∀ k', get (deleteF cfg s ts k (some f)).1 k' = get s k') := by
  have hp : Inv (putF cfg s ts k v (some f)).1 := writeF_inv s _ f h
  have hd : Inv (deleteF cfg s ts k (some f)).1 := writeF_inv s _ f h
  have ap : (putF cfg s ts k v (some f)).1.abs = s.abs := writeF_abs s _ f h
  have ad : (deleteF cfg s ts k (some f)).1.abs = s.abs := writeF_abs s _ f h
  refine ⟨ap, ad, ?_, ?_⟩
  · intro k'; rw [get_abs _ k' hp, get_abs _ k' h, ap]
  · intro k'; rw [get_abs _ k' hd, get_abs _ k' h, ad]

/-- **C20 (later operations).** After a failed put (likewise after a failed delete) a fault-free
    put / delete / get behaves exactly as on the map read before the failure. -/
theorem c20_later_ops_ok (cfg : Cfg) (s : St) (ts : Int) (k : Key) (v : Val) (f : Fault) (h : Inv s)
    (s' : St) (hs' : s' = (putF cfg s ts k v (some f)).1 ∨ s' = (deleteF cfg s ts k (some f)).1)
    (ts' : Int) (k' : Key) (v' : Val) :
    (put cfg s' ts' k' v').1.abs = s.abs.set k' v' ∧
    (delete cfg s' ts' k').1.abs = s.abs.del k' ∧ (delete cfg s' ts' k').2.1 = (s.abs k').isSome ∧
    get s' k' = (match s.abs k' with | some x => .value x | none => .absent) ∧
    Inv (put cfg s' ts' k' v').1 ∧ Inv (delete cfg s' ts' k').1 := by
  have hi : Inv s' := by
    rcases hs' with e | e <;> rw [e] <;> exact writeF_inv s _ f h
  have ha : s'.abs = s.abs := by
    rcases hs' with e | e <;> rw [e] <;> exact writeF_abs s _ f h
  obtain ⟨d1, d2⟩ := delete_abs cfg s' ts' k' hi
  refine ⟨?_, ?_, ?_, ?_, put_inv cfg s' ts' k' v' hi, delete_inv cfg s' ts' k' hi⟩
  · rw [put_abs cfg s' ts' k' v' hi, ha]
  · rw [d1, ha]
  · rw [d2, ha]
  · rw [get_abs s' k' hi, ha]; cases s.abs k' <;> rfl

/-- **C20 (histories).** For every history in which any of the puts and deletes may fail with any
    of the modelled faults: every operation returns exactly what the abstract map returns on which
    failed operations have no effect (so each failure is reported, and every earlier and later
    acknowledged operation reads correctly), the invariant holds at the end, and the final state
    reads as the final map. -/
theorem c20_refines_from (cfg : Cfg) (ops : List (Op × Option Fault)) : ∀ (s : St), Inv s → ValidF cfg s ops →
    (runF cfg s ops).2 = (Map.runF s.abs ops).2 ∧ Inv (runF cfg s ops).1 ∧
      (runF cfg s ops).1.abs = (Map.runF s.abs ops).1 := by
  induction ops with
  | nil => intro s h _; exact ⟨rfl, h, rfl⟩
  | cons x ops ih =>
    obtain ⟨op, fl⟩ := x
    intro s h hv
    obtain ⟨i1, i2, i3⟩ := stepF_refines cfg s op fl h hv.1
    obtain ⟨j1, j2, j3⟩ := ih (stepF cfg s op fl).1 i1 hv.2
    simp only [runF, Map.runF]
    rw [i3] at j1 j3
    refine ⟨?_, j2, j3⟩
    rw [j1, i2]

theorem c20_refines (cfg : Cfg) (ops : List (Op × Option Fault)) (hv : ValidF cfg fresh ops) :
    (runF cfg fresh ops).2 = (Map.runF Map.empty ops).2 := by
  have := (c20_refines_from cfg ops fresh fresh_inv hv).1
  rw [fresh_abs] at this
  exact this

/-- **`fsync` fault**: the only change of the directory is the failed operation's own record at
    the end of the active file. -/
theorem c20_disk_fsync (s : St) (r : Rec) :
    dataOf (writeF s r .fsync).disk s.active = dataOf s.disk s.active ++ [r] ∧
    (∀ fid, fid ≠ s.active → AL.get fid (writeF s r .fsync).disk.data = AL.get fid s.disk.data) ∧
    (writeF s r .fsync).disk.hint = s.disk.hint ∧ (writeF s r .fsync).disk.tails = s.disk.tails ∧
    (writeF s r .fsync).active = s.active :=
  ⟨dataOf_set_same _ _ _, fun _ hf => AL.get_set_other hf _ _, rfl, rfl, rfl⟩

/-- **`appendSmall` fault**: the only new record is the failed operation's own record at the end of
    the old active file; the new active file is empty; nothing else changes. -/
theorem c20_disk_appendSmall (s : St) (r : Rec) :
    dataOf (writeF s r .appendSmall).disk s.active = dataOf s.disk s.active ++ [r] ∧
    dataOf (writeF s r .appendSmall).disk (s.active + 1) = [] ∧
    (∀ fid, fid ≠ s.active → fid ≠ s.active + 1 →
      AL.get fid (writeF s r .appendSmall).disk.data = AL.get fid s.disk.data) ∧
    (writeF s r .appendSmall).disk.hint = s.disk.hint ∧ (writeF s r .appendSmall).disk.tails = s.disk.tails ∧
    (writeF s r .appendSmall).active = s.active + 1 := by
  refine ⟨?_, dataOf_set_same _ _ _, fun fid h1 h2 => ?_, rfl, rfl, rfl⟩
  · exact (dataOf_set_other (appendDisk s r) (Nat.succ_ne_self s.active).symm []).trans (dataOf_set_same _ _ _)
  · exact (AL.get_set_other h2 _ _).trans (AL.get_set_other h1 _ _)

/-- **`appendLarge` fault**: no record is added anywhere; the old active file gets `hdr` bytes of
    tail; the new active file is empty. -/
theorem c20_disk_appendLarge (s : St) (r : Rec) (hdr : Nat) :
    (∀ fid, fid ≠ s.active + 1 → AL.get fid (writeF s r (.appendLarge hdr)).disk.data = AL.get fid s.disk.data) ∧
    dataOf (writeF s r (.appendLarge hdr)).disk (s.active + 1) = [] ∧
    (writeF s r (.appendLarge hdr)).disk.hint = s.disk.hint ∧
    (AL.get s.active (writeF s r (.appendLarge hdr)).disk.tails).getD 0 = (AL.get s.active s.disk.tails).getD 0 + hdr ∧
    (∀ fid, fid ≠ s.active → AL.get fid (writeF s r (.appendLarge hdr)).disk.tails = AL.get fid s.disk.tails) ∧
    (writeF s r (.appendLarge hdr)).active = s.active + 1 := by
  refine ⟨fun _ h1 => AL.get_set_other h1 _ _, dataOf_set_same _ _ _, rfl, ?_,
    fun _ h1 => AL.get_set_other h1 _ _, rfl⟩
  show (AL.get s.active (AL.set s.active _ s.disk.tails)).getD 0 = _
  rw [AL.get_set_same]; rfl

/-- **`create` fault**: as for `fsync`, the only change of the directory is the failed operation's
    own record at the end of the active file, which stays active. -/
theorem c20_disk_create (s : St) (r : Rec) :
    dataOf (writeF s r .create).disk s.active = dataOf s.disk s.active ++ [r] ∧
    (∀ fid, fid ≠ s.active → AL.get fid (writeF s r .create).disk.data = AL.get fid s.disk.data) ∧
    (writeF s r .create).disk.hint = s.disk.hint ∧ (writeF s r .create).disk.tails = s.disk.tails ∧
    (writeF s r .create).active = s.active :=
  ⟨dataOf_set_same _ _ _, fun _ hf => AL.get_set_other hf _ _, rfl, rfl, rfl⟩

/-- **C20 (restart, the operation has taken effect).** After a put / delete failed with
    `appendSmall`, `fsync` or `create`, a restart yields exactly the store — index, counters, what
    every key reads — that a restart after the same operation without the fault yields. -/
theorem c20_restart_taken (cfg : Cfg) (s : St) (ts : Int) (k : Key) (v : Val) (f : Fault) (h : IdInv s)
    (hf : ∀ hdr, f ≠ .appendLarge hdr) :
    ((reopen (putF cfg s ts k v (some f)).1).1.keydir = (reopen (put cfg s ts k v).1).1.keydir ∧
     (reopen (putF cfg s ts k v (some f)).1).1.stats = (reopen (put cfg s ts k v).1).1.stats ∧
     (reopen (putF cfg s ts k v (some f)).1).1.bad = (reopen (put cfg s ts k v).1).1.bad ∧
     (reopen (putF cfg s ts k v (some f)).1).1.abs = (reopen (put cfg s ts k v).1).1.abs) ∧
    ((reopen (deleteF cfg s ts k (some f)).1).1.keydir = (reopen (delete cfg s ts k).1).1.keydir ∧
     (reopen (deleteF cfg s ts k (some f)).1).1.stats = (reopen (delete cfg s ts k).1).1.stats ∧
     (reopen (deleteF cfg s ts k (some f)).1).1.bad = (reopen (delete cfg s ts k).1).1.bad ∧
     (reopen (deleteF cfg s ts k (some f)).1).1.abs = (reopen (delete cfg s ts k).1).1.abs) := by
  have hf' := (Fault.taken_iff f).mpr hf
  simp only [putF, deleteF]
  exact ⟨(writeF_taken s _ f h hf').reopen_eq ((write_taken cfg s _ h).congr (put_disk ..) (put_active ..)),
    (writeF_taken s _ f h hf').reopen_eq ((write_taken cfg s _ h).congr (delete_disk ..) (delete_active ..))⟩

/-- in particular the failed key reads the new value (is absent, for a delete) after the restart -/
theorem c20_restart_failed_key (cfg : Cfg) (s : St) (ts : Int) (k : Key) (v : Val) (f : Fault) (h : IdInv s)
    (hf : ∀ hdr, f ≠ .appendLarge hdr) :
    (reopen (putF cfg s ts k v (some f)).1).1.abs k = some v ∧
    (reopen (deleteF cfg s ts k (some f)).1).1.abs k = none :=
  ⟨(writeF_taken s { ts := ts, key := k, val := some v } f h ((Fault.taken_iff f).mpr hf)).failed_key,
   (writeF_taken s { ts := ts, key := k, val := none } f h ((Fault.taken_iff f).mpr hf)).failed_key⟩

/-- **C20 (restart, the operation has not taken effect).** After a put / delete failed with
    `appendLarge`, a restart yields exactly the store that a restart without the operation
    yields: the partial entry at the end of the abandoned file is invisible to the scan. -/
theorem c20_restart_untaken (cfg : Cfg) (s : St) (ts : Int) (k : Key) (v : Val) (hdr : Nat) (h : IdInv s) :
    ((reopen (putF cfg s ts k v (some (.appendLarge hdr))).1).1.keydir = (reopen s).1.keydir ∧
     (reopen (putF cfg s ts k v (some (.appendLarge hdr))).1).1.stats = (reopen s).1.stats ∧
     (reopen (putF cfg s ts k v (some (.appendLarge hdr))).1).1.bad = (reopen s).1.bad ∧
     (reopen (putF cfg s ts k v (some (.appendLarge hdr))).1).1.abs = (reopen s).1.abs) ∧
    ((reopen (deleteF cfg s ts k (some (.appendLarge hdr))).1).1.keydir = (reopen s).1.keydir ∧
     (reopen (deleteF cfg s ts k (some (.appendLarge hdr))).1).1.stats = (reopen s).1.stats ∧
     (reopen (deleteF cfg s ts k (some (.appendLarge hdr))).1).1.bad = (reopen s).1.bad ∧
     (reopen (deleteF cfg s ts k (some (.appendLarge hdr))).1).1.abs = (reopen s).1.abs) := by
  simp only [putF, deleteF]
  exact ⟨reopen_writeF_large s _ hdr h, reopen_writeF_large s _ hdr h⟩

/- **C20 (restart, other keys)** at full strength reads: for every key `k' ≠ k`,
   `(reopen (putF cfg s ts k v (some f)).1).1.abs k' = s.abs k'`.  This needs that a restart of the
   fault-free state `s` reads `s.abs` and rebuilds valid entries (`(reopen s).1.abs = s.abs`,
   `Inv (reopen s).1`): `reopen_abs` and `reopen_rinv` of `Store/RecInv.lean`, for states with
   `RInv s` and `Full s`, which the faulty run here is not shown to keep.  Proved here:
   the failed operation does not disturb it — relative to a restart without the failed operation,
   under the hypothesis that that restart's entry for `k'` is valid. -/
theorem c20_restart_other_keys_partial (cfg : Cfg) (s : St) (ts : Int) (k : Key) (v : Val) (f : Fault)
    (h : IdInv s) (k' : Key) (hk : k' ≠ k)
    (hloc : ∀ loc, AL.get k' (reopen s).1.keydir = some loc → LocOk (reopen s).1.disk k' loc) :
    (reopen (putF cfg s ts k v (some f)).1).1.abs k' = (reopen s).1.abs k' ∧
    (reopen (deleteF cfg s ts k (some f)).1).1.abs k' = (reopen s).1.abs k' :=
  ⟨reopen_writeF_other_key s { ts := ts, key := k, val := some v } f h k' hk hloc,
   reopen_writeF_other_key s { ts := ts, key := k, val := none } f h k' hk hloc⟩

/-- the hypothesis of `c20_restart_other_keys_partial` is satisfiable with a key that is present:
    `s` = a fresh store after a put of `[1]` whose fsync failed, `k' = [1]` -/
example : ∃ (s : St) (k' : Key), IdInv s ∧ (reopen s).1.abs k' = some [10] ∧
    ∀ loc, AL.get k' (reopen s).1.keydir = some loc → LocOk (reopen s).1.disk k' loc :=
  have t := writeF_taken fresh ⟨0, [1], some [10]⟩ .fsync fresh_idinv rfl
  ⟨_, [1], t.idinv, t.failed_key, t.locOk⟩

/-- **C20 (restart, histories without merge).** After any history of puts, deletes and gets from a
    fresh store in which any of the writes may have failed with any of the modelled faults, a
    restart reads exactly the durable map: every successful write is durable, a failed one iff its
    entry reached the file completely (`Fault.taken`); and no read after the restart hits a bad
    location. -/
theorem c20_restart_refines (cfg : Cfg) (ops : List (Op × Option Fault)) (hm : NoMerge ops) :
    (reopen (runF cfg fresh ops).1).1.abs = Map.runDur Map.empty ops ∧
    ∀ k, get (reopen (runF cfg fresh ops).1).1 k ≠ .corrupt := by
  obtain ⟨a, b⟩ := runF_dur cfg ops fresh fresh_durInv hm
  rw [fresh_dur_abs] at b
  exact ⟨b, a.reads_sound⟩

/-- **C20 (restart, truthful).** In a history of puts, deletes and gets with failed writes, from
    any state whose restart is healthy and reads what the running store reads (as the recovery
    theory establishes for fault-free histories, merges included): every key whose last put / delete
    was acknowledged — in particular every key never touched by a failed operation — reads after
    the restart exactly what it read in the running process; only a key whose last write *failed*
    may read differently (namely the failed write's value, `c20_restart_refines`). -/
theorem c20_restart_truthful_from (cfg : Cfg) (s : St) (ops : List (Op × Option Fault)) (hm : NoMerge ops)
    (hi : Inv s) (hd : DurInv s) (he : (reopen s).1.abs = s.abs) (k : Key)
    (hk : dirtyAfter k false ops = false) :
    (reopen (runF cfg s ops).1).1.abs k = (runF cfg s ops).1.abs k ∧
    (reopen (runF cfg s ops).1).1.abs = Map.runDur s.abs ops := by
  have h1 := (c20_refines_from cfg ops s hi (validF_of_noMerge cfg ops s hm)).2.2
  obtain ⟨_, b⟩ := runF_dur cfg ops s hd hm
  rw [he] at b
  refine ⟨?_, b⟩
  rw [b, h1]
  exact (dur_agree k ops false s.abs s.abs (fun _ => rfl) hk).symm

/-- **C20 (restart, truthful).** In such a history every key whose last put / delete was
    acknowledged — in particular every key never touched by a failed operation — reads after the
    restart exactly what it read in the running process; only a key whose last write *failed* may
    read differently (namely the failed write's value, `c20_restart_refines`). -/
theorem c20_restart_truthful (cfg : Cfg) (ops : List (Op × Option Fault)) (hm : NoMerge ops) (k : Key)
    (hk : dirtyAfter k false ops = false) :
    (reopen (runF cfg fresh ops).1).1.abs k = (runF cfg fresh ops).1.abs k :=
  (c20_restart_truthful_from cfg fresh ops hm fresh_inv fresh_durInv (fresh_dur_abs.trans fresh_abs.symm) k hk).1

/-- **C20 (histories with restarts, without merge).** For every history of puts, deletes, gets —
    any write may fail with any modelled fault — and restarts at arbitrary places, from a fresh
    store: every operation returns what the two-map specification returns (`m`: acknowledged
    contents, `d`: durable contents; a restart continues with `d`), i.e. every failure is
    reported, every read in the running process returns the last acknowledged write, and every
    read after a restart returns the last write whose entry reached its file completely — which is
    the last acknowledged one unless a later write to the same key failed.  No read ever hits a
    bad location. -/
theorem c20_history (cfg : Cfg) (es : List HEv) (hm : ∀ e, e ∈ es → e.isMerge = false) :
    (runH cfg fresh es).2 = (SpecSt.run { m := Map.empty, d := Map.empty } es).2 ∧
    (runH cfg fresh es).1.abs = (SpecSt.run { m := Map.empty, d := Map.empty } es).1.m ∧
    (∀ k, get (runH cfg fresh es).1 k ≠ .corrupt) := by
  obtain ⟨a, b⟩ := runH_refines cfg es fresh _ fresh_hrel hm
  exact ⟨a, b.abs, get_not_corrupt b.inv⟩

/-- `c20_consistent` of DESIGN.md, for histories without merge (with merges the running-process
    half is `c20_refines`; for the restart half see the comment after this theorem) -/
theorem c20_consistent_partial (cfg : Cfg) (es : List HEv) (hm : ∀ e, e ∈ es → e.isMerge = false) :
    (runH cfg fresh es).2 = (SpecSt.run { m := Map.empty, d := Map.empty } es).2 ∧
    (runH cfg fresh es).1.abs = (SpecSt.run { m := Map.empty, d := Map.empty } es).1.m ∧
    (∀ k, get (runH cfg fresh es).1 k ≠ .corrupt) := c20_history cfg es hm

/- Not proved for the restart clause of C20: a restart after a history that has both failed writes
   and merges (the durable map after a merge depends on the hint files and on which files were
   selected).  Proved are the two halves: restarts after failed writes without merges
   (`c20_history`), and restarts after a failed merge pass followed by fault-free operations,
   merges included (`c20_merge_restart_partial`, `c20_merge_then_ops_restart_partial` in
   `Props/C20Merge.lean`).  `c20_restart_truthful_from` is the interface between them: it takes the
   three hypotheses `Inv s`, `DurInv s`, `(reopen s).1.abs = s.abs` (the last is `reopen_abs` of
   `Store/RecInv.lean`) about the state in which the merge-free suffix starts; `fresh` satisfies
   them (`fresh_inv`, `fresh_durInv`, `fresh_dur_abs`). -/

/-! ### non-vacuity: the D10 / D11 workloads on the repaired model

D10: the rollover switched the active id before the new file was created, so a failed create left
later entries indexed under a file that does not exist.  D11: a failed large append left a partial
entry in mid-file, which the next startup scan mis-parses.  See DESIGN.md §9.3. -/

def c20Cfg : Cfg := { maxFile := 40, syncAlways := true }

/-- `set a; set b [create fails]; set c; get c; get b; del a [fsync fails]; get a` -/
def c20Ops : List (Op × Option Fault) :=
  [(.put [1] [10], none), (.put [2] [20], some .create), (.put [3] [30], none), (.get [3], none),
   (.get [2], none), (.del [1], some .fsync), (.get [1], none),
   (.put [4] [40], some .appendSmall), (.put [5] [50], some (.appendLarge 30)), (.put [4] [41], none),
   (.merge [0, 1] [[1], [3], [4]], none), (.get [4], none), (.get [1], none)]

example : ValidF c20Cfg fresh c20Ops := by
  simp only [c20Ops, ValidF, and_true, true_and]
  decide

example : (runF c20Cfg fresh c20Ops).2 =
    [.done .done, .error, .done .done, .done (.read (.value [30])), .done (.read .absent), .error,
     .done (.read (.value [10])), .error, .error, .done .done, .done .done,
     .done (.read (.value [41])), .done (.read (.value [10]))] := by decide

example : Fault.possible c20Cfg (runF c20Cfg fresh (c20Ops.take 1)).1 ⟨0, [2], some [20]⟩ .create = true := by decide
example : Fault.possible c20Cfg fresh ⟨0, [1], none⟩ .fsync = true := by decide

/-- Observation (not a theorem target): after a failed fsync the byte counter lags behind the real
    file length (`written_bytes` is only advanced after `sync()` returned), so the size bound of
    C14 (`c14_size_bound`) is a property of fault-free histories: every failed fsync lets the
    active file grow by one more entry beyond the configured maximum. -/
example : ((putF { syncAlways := true } fresh 0 [1] [10] (some .fsync)).1.written,
    fileSize (dataOf (putF { syncAlways := true } fresh 0 [1] [10] (some .fsync)).1.disk 0)) = (0, 27) := by decide

/-- merge-free history: key `[1]` acknowledged, then a failed (fsync) overwrite of `[2]`, a failed
    large put of `[3]`, an acknowledged delete of `[1]` after a failed put of it -/
def c20Ops2 : List (Op × Option Fault) :=
  [(.put [1] [10], none), (.put [2] [20], none), (.put [2] [21], some .fsync),
   (.put [3] [30], some (.appendLarge 12)), (.put [1] [11], some .appendSmall), (.del [1], none),
   (.put [4] [40], some .create)]

example : NoMerge c20Ops2 := by decide
example : (dirtyAfter [1] false c20Ops2, dirtyAfter [2] false c20Ops2, dirtyAfter [3] false c20Ops2,
    dirtyAfter [4] false c20Ops2, dirtyAfter [5] false c20Ops2) = (false, true, true, true, false) := by decide
/-- in the running process: `[1]` deleted, `[2]` still the acknowledged value, `[3]`, `[4]` absent -/
example : ((Map.runF Map.empty c20Ops2).1 [1], (Map.runF Map.empty c20Ops2).1 [2],
    (Map.runF Map.empty c20Ops2).1 [3], (Map.runF Map.empty c20Ops2).1 [4]) = (none, some [20], none, none) := by
  decide
/-- after a restart: `[1]` deleted (truthful), `[2]` and `[4]` have the failed writes' values,
    `[3]` is absent -/
example : (Map.runDur Map.empty c20Ops2 [1], Map.runDur Map.empty c20Ops2 [2],
    Map.runDur Map.empty c20Ops2 [3], Map.runDur Map.empty c20Ops2 [4]) = (none, some [21], none, some [40]) := by
  decide

/-- a history with restarts: the acknowledged put of `[1]` survives; the put of `[2]` whose fsync
    failed reads absent before and `[21]` after the restart; the failed large put of `[3]` is gone -/
def c20Hist : List HEv :=
  [.op (.put [1] [10]) none, .op (.put [2] [21]) (some .fsync), .op (.put [3] [30]) (some (.appendLarge 9)),
   .op (.get [2]) none, .restart, .op (.get [1]) none, .op (.get [2]) none, .op (.get [3]) none,
   .op (.del [1]) (some .create), .op (.get [1]) none, .restart, .op (.get [1]) none]

example : ∀ e, e ∈ c20Hist → e.isMerge = false := by decide
example : (SpecSt.run { m := Map.empty, d := Map.empty } c20Hist).2 =
    [some (.done .done), some .error, some .error, some (.done (.read .absent)), none,
     some (.done (.read (.value [10]))), some (.done (.read (.value [21]))), some (.done (.read .absent)),
     some .error, some (.done (.read (.value [10]))), none, some (.done (.read .absent))] := by decide

end Store
