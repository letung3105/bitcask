/-
  C03 — a crash at any instant loses no acknowledged write and corrupts nothing.

  If the process is killed at any point (inside a write, at a file rollover, inside recovery
  itself, ...), the directory it leaves behind can always be opened, the opened store contains
  every set and delete that had returned before the kill, and the single operation in flight is
  either fully applied or not applied at all.

  Failure model: a killed process leaves exactly the effects of a prefix of its file-system
  calls, the last of which — if it is an append — may be torn at ANY byte (`Cut`, Store/
  CutLemmas.lean: `Payload.raw bs` with `bs.length <` the entry's length; this covers every byte
  prefix of the entry's encoding, see `encRec_length`).  The frame theorems `c03_frame_*` show
  that the call list an operation returns is exactly its effect on the directory, so cuts of the
  call list are cuts of the real effect sequence.

  Helper lemmas: Store/CutLemmas.lean (cuts, frame lemmas), Store/CutRecover.lean (what `openDisk`
  recovers from a cut directory), Store/CutHistory.lean (lives), Store/CutMerge.lean (copy phase
  of a merge), Store/CutUnlink.lean (unlink phase, whole merge), Store/CutHazard.lean (ascending
  removal order).
-/
import BitcaskVerif.Store.CutHistory
import BitcaskVerif.Store.CutHazard
import BitcaskVerif.Store.CodecLemmas

namespace Store

open Tr

/-! ### the call list of an operation is its effect on the directory -/

theorem c03_frame_put (cfg : Cfg) (s : St) (ts : Int) (k : Key) (v : Val) :
    applyCalls s.disk (put cfg s ts k v).2 = (put cfg s ts k v).1.disk := by
  rw [put_disk, put_calls]; exact write_frame cfg s _

theorem c03_frame_delete (cfg : Cfg) (s : St) (ts : Int) (k : Key) :
    applyCalls s.disk (delete cfg s ts k).2.2 = (delete cfg s ts k).1.disk := by
  rw [delete_disk, delete_calls]; exact write_frame cfg s _

theorem c03_frame_merge (cfg : Cfg) (s : St) (sel : List Nat) (order : List Key) :
    applyCalls s.disk (mergeWith cfg s sel order).2 = (mergeWith cfg s sel order).1.disk :=
  mergeWith_frame cfg s sel order

theorem c03_frame_open (d : Disk) : applyCalls d (openDisk d).2 = (openDisk d).1.disk := rfl

/-- **C03 (set).** In every state reachable by sets, deletes, reopens, kills and recoveries, for
    every cut `c` of the calls of `put k v` (call boundaries and every byte position inside the
    append): the directory opens to a store satisfying the store invariant (reads are sound), and
    it reads either exactly as before the `put` or exactly as after it. -/
theorem c03_put_cut (cfg : Cfg) (s : St) (h : ReachC cfg s) (ts : Int) (k : Key) (v : Val) (c : List Call)
    (hc : Cut (put cfg s ts k v).2 c) :
    ((openDisk (applyCalls s.disk c)).1.abs = s.abs ∨
     (openDisk (applyCalls s.disk c)).1.abs = s.abs.set k v) ∧
    Inv (openDisk (applyCalls s.disk c)).1 := by
  exact recovers_or (put_cut_recovers cfg (reachC_rinv h).1 (reachC_rinv h).2 ts k v hc)

/-- **C03 (delete).** -/
theorem c03_delete_cut (cfg : Cfg) (s : St) (h : ReachC cfg s) (ts : Int) (k : Key) (c : List Call)
    (hc : Cut (delete cfg s ts k).2.2 c) :
    ((openDisk (applyCalls s.disk c)).1.abs = s.abs ∨
     (openDisk (applyCalls s.disk c)).1.abs = s.abs.del k) ∧
    Inv (openDisk (applyCalls s.disk c)).1 := by
  exact recovers_or (delete_cut_recovers cfg (reachC_rinv h).1 (reachC_rinv h).2 ts k hc)

/-- **C03 (crash during recovery itself).** `reopen` issues one call (it creates the next active
    file); whether or not it happened, the directory opens again to the same contents. -/
theorem c03_reopen_cut (cfg : Cfg) (s : St) (h : ReachC cfg s) (c : List Call) (hc : Cut (reopen s).2 c) :
    (openDisk (applyCalls s.disk c)).1.abs = s.abs ∧ Inv (openDisk (applyCalls s.disk c)).1 :=
  have r := reopen_cut_recovers (reachC_rinv h).1 (reachC_rinv h).2 hc
  ⟨r.2.2, r.1.inv⟩

/-- the states of C02 (`ReachPD`) are among those of `c03_put_cut` / `c03_delete_cut` -/
theorem c03_reachPD (cfg : Cfg) (s : St) (h : ReachPD cfg s) : ReachC cfg s := h.toReachC

/-- **C03 for states reached with merges** (`Reach`): the same statements hold provided nothing
    absent is resurrectable in `s` (`Full s`; it can fail only after a merge that dropped a
    tombstone shadowing an older value, defect D3 — `mergeWith_full_iff`). -/
theorem c03_put_cut_reach_partial (cfg : Cfg) (s : St) (h : Reach cfg s) (hf : Full s) (ts : Int) (k : Key)
    (v : Val) (c : List Call) (hc : Cut (put cfg s ts k v).2 c) :
    ((openDisk (applyCalls s.disk c)).1.abs = s.abs ∨
     (openDisk (applyCalls s.disk c)).1.abs = s.abs.set k v) ∧
    Inv (openDisk (applyCalls s.disk c)).1 := by
  exact recovers_or (put_cut_recovers cfg (reach_rinv h) hf ts k v hc)

theorem c03_delete_cut_reach_partial (cfg : Cfg) (s : St) (h : Reach cfg s) (hf : Full s) (ts : Int) (k : Key)
    (c : List Call) (hc : Cut (delete cfg s ts k).2.2 c) :
    ((openDisk (applyCalls s.disk c)).1.abs = s.abs ∨
     (openDisk (applyCalls s.disk c)).1.abs = s.abs.del k) ∧
    Inv (openDisk (applyCalls s.disk c)).1 := by
  exact recovers_or (delete_cut_recovers cfg (reach_rinv h) hf ts k hc)

/-- **C03 (one life, merge-free histories).** From any state `s` reachable by merge-free
    operations, kills and recoveries: after the acknowledged operations `ops` and a kill at any
    cut `c` of the next operation `op`, the recovered store reads as the abstract map after the
    acknowledged operations, with `op` applied or not applied; it satisfies the store invariant,
    no read hits a bad location, and it is again such a reachable state — so the statement
    applies to the next life as well ("crash, recover, continue"). -/
theorem c03_history_partial (cfg : Cfg) (s : St) (h : ReachC cfg s) (ops : List TOp)
    (hops : ∀ o ∈ ops, mergeFree o) (op : TOp) (hop : mergeFree op) (c : List Call)
    (hc : Cut (stepC cfg (runC cfg s ops) op).2 c) :
    ((openDisk (applyCalls (runC cfg s ops).disk c)).1.abs = specRun s.abs ops ∨
     (openDisk (applyCalls (runC cfg s ops).disk c)).1.abs = specOp (specRun s.abs ops) op) ∧
    Inv (openDisk (applyCalls (runC cfg s ops).disk c)).1 ∧
    (∀ k, get (openDisk (applyCalls (runC cfg s ops).disk c)).1 k ≠ .corrupt) ∧
    ReachC cfg (openDisk (applyCalls (runC cfg s ops).disk c)).1 := by
  have hv : ValidLife cfg s ⟨ops, op, c⟩ := ⟨hops, hop, hc⟩
  obtain ⟨a, b⟩ := crashLife_spec cfg h ⟨ops, op, c⟩ hv
  exact ⟨b, (reachC_rinv a).1.inv, fun k => get_not_corrupt (reachC_rinv a).1.inv k, a⟩

/-- **C03 (any number of lives, merge-free histories).** Starting from a fresh store, after any
    sequence of lives — each a list of acknowledged sets / deletes / reads / reopens followed by
    a kill at any cut of one more operation, then recovery — the store satisfies the invariant
    and its contents are among those the specification allows: in every life all acknowledged
    operations applied, the one in flight applied or not. -/
theorem c03_lives_partial (cfg : Cfg) (lives : List Life) (hv : ValidLives cfg fresh lives) :
    SpecLives Map.empty lives (runLives cfg fresh lives).abs ∧ Inv (runLives cfg fresh lives) ∧
      ∀ k, get (runLives cfg fresh lives) k ≠ .corrupt := by
  obtain ⟨a, b⟩ := runLives_spec cfg lives ReachC.fresh hv
  rw [fresh_abs] at b
  exact ⟨b, (reachC_rinv a).1.inv, fun k => get_not_corrupt (reachC_rinv a).1.inv k⟩

/-- **C03 (merge), general form.** `s` reachable by sets, deletes, merges and reopens; `sel` any
    list of existing file ids, `order` any iteration order covering the KeyDir.  If for every
    prefix `done` of `sel` (the files already removed at the moment of the kill; `done = []` says
    that nothing absent is resurrectable in `s` itself) the files outside `done` do not
    resurrect an absent key, then EVERY cut of the merge pass — creation of the outputs, every
    data append / hint append (torn at any byte), output rollover, the fsyncs, each unlink, the
    creation of the new active file — leaves a directory that opens to a store satisfying the
    invariant and reading exactly as before the merge. -/
theorem c03_merge_cut_prefixes_partial (cfg : Cfg) (s : St) (h : Reach cfg s) (sel : List Nat)
    (order : List Key) (hsel : ∀ id, id ∈ sel → id ≤ s.active) (hcov : Covers order s)
    (hz : ∀ done, done <+: sel → NoHazard s done) (c : List Call)
    (hc : Cut (mergeWith cfg s sel order).2 c) :
    (openDisk (applyCalls s.disk c)).1.abs = s.abs ∧ Inv (openDisk (applyCalls s.disk c)).1 :=
  have r := mergeWith_cut_recovers cfg (reach_rinv h) sel order hsel hcov hz hc
  ⟨r.2, r.1⟩

/-- **C03 (merge).** With the selected files in ascending id order (as `selectFiles` yields them
    and as the code removes them), it suffices that nothing absent is resurrectable in `s`
    (`Full s`) and that the complete selection is hazard-free (`NoHazard s sel`, the hypothesis
    of C05's restart theorem, defect D3): every cut of the merge pass opens to exactly the
    contents before the merge.  (`Full s` is needed as soon as `s` itself was produced by a
    hazardous merge: then already `reopen s` differs from `s`, `c05_restart_iff`.) -/
theorem c03_merge_cut_partial (cfg : Cfg) (s : St) (h : Reach cfg s) (sel : List Nat) (order : List Key)
    (hsel : ∀ id, id ∈ sel → id ≤ s.active) (hcov : Covers order s) (hsorted : sel.Pairwise (· ≤ ·))
    (hf : Full s) (hz : NoHazard s sel) (c : List Call) (hc : Cut (mergeWith cfg s sel order).2 c) :
    (openDisk (applyCalls s.disk c)).1.abs = s.abs ∧ Inv (openDisk (applyCalls s.disk c)).1 :=
  c03_merge_cut_prefixes_partial cfg s h sel order hsel hcov
    (fun _ hd => noHazard_prefix_of_sorted (reach_rinv h).asc hf hsorted hz hd) c hc

/-- **C03 (merge, copy phase only) needs no hazard hypothesis about `sel`**: up to the last call
    before the first unlink all sources are intact; only `Full s` is needed. -/
theorem c03_merge_copy_cut_partial (cfg : Cfg) (s : St) (h : Reach cfg s) (hf : Full s) (sel : List Nat)
    (order : List Key) (hsel : ∀ id, id ∈ sel → id ≤ s.active) (c : List Call)
    (hc : Cut (mergeLoop cfg s sel order).calls c) :
    (openDisk (applyCalls s.disk c)).1.abs = s.abs ∧ Inv (openDisk (applyCalls s.disk c)).1 :=
  have r := mergeLoop_cuts cfg (reach_rinv h) hf sel hsel order hc
  ⟨r.2, r.1⟩

/-- the calls of the copy phase are a prefix of the calls of the merge pass -/
theorem c03_merge_copy_prefix (cfg : Cfg) (s : St) (sel : List Nat) (order : List Key) :
    ∃ post, (mergeWith cfg s sel order).2 = (mergeLoop cfg s sel order).calls ++ post :=
  mergeWith_calls_prefix cfg s sel order

/-- **C03 (histories with merges).** `s` reachable by sets, deletes, reads, reopens, hazard-free
    merge passes (`opOk`: existing files in ascending order, covering iteration order,
    `NoHazard`), and kills inside merge-free operations followed by recovery.  After the
    acknowledged operations `ops` (merges included) and a kill at ANY cut of the next operation
    `op` — a merge pass included — the directory opens to a store that satisfies the invariant,
    never reads a bad location, and reads as the abstract map after `ops`, with `op` applied or
    not (a merge does not change the map).  If `op` is not a merge the recovered state is again
    such a reachable state.  (After a kill inside a merge the recovered store in general does
    not satisfy `HintsExact` — an output data file may hold one record its hint file does not
    list — so further lives after that are outside this theorem.) -/
theorem c03_history_merge_partial (cfg : Cfg) (s : St) (h : ReachM cfg s) (ops : List TOp)
    (hv : ValidOps cfg s ops) (op : TOp) (hop : opOk (runC cfg s ops) op) (c : List Call)
    (hc : Cut (stepC cfg (runC cfg s ops) op).2 c) :
    ((openDisk (applyCalls (runC cfg s ops).disk c)).1.abs = specRun s.abs ops ∨
     (openDisk (applyCalls (runC cfg s ops).disk c)).1.abs = specOp (specRun s.abs ops) op) ∧
    Inv (openDisk (applyCalls (runC cfg s ops).disk c)).1 ∧
    (∀ k, get (openDisk (applyCalls (runC cfg s ops).disk c)).1 k ≠ .corrupt) ∧
    (mergeFree op → ReachM cfg (openDisk (applyCalls (runC cfg s ops).disk c)).1) := by
  obtain ⟨a, b, e⟩ := runC_rinv_ok cfg ops (reachM_rinv h).1 (reachM_rinv h).2 hv
  obtain ⟨habs, hi⟩ := recoversW_or (stepC_cut_recoversW cfg a b op hop hc)
  rw [e] at habs
  exact ⟨habs, hi, fun k => get_not_corrupt hi k, fun hm => .crash op c (reachM_runC ops h hv) hm hc⟩

def cexCfg : Cfg := { maxFile := 0 }
/-- file 0: `set [1] [10]`, file 1: `delete [1]`, file 2: active and empty -/
def cexSt : St := (delete cexCfg (put cexCfg fresh 0 [1] [10]).1 0 [1]).1
/-- the merge of both files, killed after the FIRST unlink -/
def cexCutDesc : List Call :=
  [.create ⟨.data, 3⟩, .create ⟨.hint, 3⟩, .fsync ⟨.data, 3⟩, .fsync ⟨.hint, 3⟩, .unlink ⟨.data, 1⟩]
def cexCutAsc : List Call :=
  [.create ⟨.data, 3⟩, .create ⟨.hint, 3⟩, .fsync ⟨.data, 3⟩, .fsync ⟨.hint, 3⟩, .unlink ⟨.data, 0⟩]

theorem cexSt_reach : ReachPD cexCfg cexSt := .delete _ _ (.put _ _ _ .fresh)

/-- the hypotheses of `c03_history_merge_partial` are satisfiable with an acknowledged merge and a
    merge in flight: two sets of the same key (files 0 and 1), a merge of file 0, a set, then a
    merge of files 1 and 3 that is killed -/
example : ValidOps cexCfg fresh [.put 0 [1] [10], .put 0 [1] [11], .merge [0] [[1]], .put 0 [2] [20]] ∧
    opOk (runC cexCfg fresh [.put 0 [1] [10], .put 0 [1] [11], .merge [0] [[1]], .put 0 [2] [20]])
      (.merge [1, 4] [[2], [1]]) :=
  ⟨⟨trivial, trivial, ⟨by decide, by decide, by decide, noHazard_of_noStaleValue (by decide)⟩, trivial, trivial⟩,
   ⟨by decide, by decide, by decide, noHazard_of_noStaleValue (by decide)⟩⟩

/-- **Descending removal order is unsafe**: all hypotheses of `c03_merge_cut_partial` except the
    ascending order hold, yet a kill after the first unlink (the file with the tombstone is gone,
    the file with the old value is still there) resurrects the deleted key. -/
theorem c03_merge_descending_counterexample :
    Reach cexCfg cexSt ∧ Full cexSt ∧ NoHazard cexSt [1, 0] ∧ (∀ id, id ∈ [1, 0] → id ≤ cexSt.active) ∧
    Covers [] cexSt ∧ Cut (mergeWith cexCfg cexSt [1, 0] []).2 cexCutDesc ∧
    cexSt.abs [1] = none ∧ (openDisk (applyCalls cexSt.disk cexCutDesc)).1.abs [1] = some [10] := by
  refine ⟨cexSt_reach.toReach, (reachPD_rinv cexSt_reach).2, noHazard_of_noStaleValue (by decide),
    by decide, by decide, .boundary _ [.unlink ⟨.data, 0⟩, .create ⟨.data, 4⟩] rfl, by decide, ?_⟩
  rw [openDisk_eq_with (by decide)]
  decide

/-- the hypotheses of `c03_merge_cut_partial` are satisfiable: the same state and selection in
    ascending order, killed after the first unlink -/
example : Reach cexCfg cexSt ∧ Full cexSt ∧ NoHazard cexSt [0, 1] ∧ (∀ id, id ∈ [0, 1] → id ≤ cexSt.active) ∧
    Covers [] cexSt ∧ [0, 1].Pairwise (· ≤ ·) ∧ Cut (mergeWith cexCfg cexSt [0, 1] []).2 cexCutAsc :=
  ⟨cexSt_reach.toReach, (reachPD_rinv cexSt_reach).2, noHazard_of_noStaleValue (by decide),
    by decide, by decide, by decide, .boundary _ [.unlink ⟨.data, 1⟩, .create ⟨.data, 4⟩] rfl⟩

/-- and in that instance the deleted key stays deleted (as the theorem says) -/
example : (openDisk (applyCalls cexSt.disk cexCutAsc)).1.abs [1] = none := by
  rw [openDisk_eq_with (by decide)]
  decide

/-- a merge that copies a record, killed between the data append and the hint append (torn hint
    entry): hypotheses satisfiable with a non-trivial copy phase -/
def cexSt2 : St := (put cexCfg (put cexCfg fresh 0 [1] [10]).1 0 [2] [20]).1

example : Reach cexCfg cexSt2 ∧ Full cexSt2 ∧ NoHazard cexSt2 [0] ∧ Covers [[1], [2]] cexSt2 ∧
    Cut (mergeWith cexCfg cexSt2 [0] [[1], [2]]).2
      [.create ⟨.data, 3⟩, .create ⟨.hint, 3⟩, .append ⟨.data, 3⟩ (.ofRec ⟨0, [1], some [10]⟩),
       .append ⟨.hint, 3⟩ (.raw [0, 0, 0])] :=
  have hr : ReachPD cexCfg cexSt2 := .put _ _ _ (.put _ _ _ .fresh)
  ⟨hr.toReach, (reachPD_rinv hr).2, noHazard_of_noStaleValue (by decide), by decide,
   .torn [.create ⟨.data, 3⟩, .create ⟨.hint, 3⟩, .append ⟨.data, 3⟩ (.ofRec ⟨0, [1], some [10]⟩)]
     ⟨.hint, 3⟩ (.ofHint ⟨0, 27, 0, [1]⟩)
     [.fsync ⟨.data, 3⟩, .fsync ⟨.hint, 3⟩, .create ⟨.data, 4⟩, .create ⟨.hint, 4⟩, .fsync ⟨.data, 4⟩,
      .fsync ⟨.hint, 4⟩, .unlink ⟨.data, 0⟩, .create ⟨.data, 5⟩] [0, 0, 0] rfl (by decide)⟩

/-- the number of bytes a `Cut` may leave of an entry ranges over all strict byte prefixes of its
    encoding: `payLen` is the length of the encoding -/
theorem c03_payLen_bytes (p : Payload) : payLen p = (encPayload p).length := by
  cases p with
  | ofRec r => exact (encRec_length r).symm
  | ofHint h => exact (encHint_length h).symm
  | raw bs => rfl

/-- **a torn append to a data file, at byte level**: if the file consists of the encodings of
    `rs` and the first `n` bytes (`n <` entry length) of the encoding of `r` were appended, the
    sequential decoder of the startup scan returns exactly `rs` — never an error — and `n` bytes
    remain after the last whole entry: records unchanged, `tails += n`, which is what `applyCall`
    does for `Payload.raw`. -/
theorem c03_bytes_torn_append (rs : List Rec) (hrs : ∀ x ∈ rs, x.Enc) (r : Rec) (hr : r.Enc) (n : Nat)
    (hn : n < r.len) :
    scanRecs ((rs.flatMap encRec ++ (encRec r).take n).length + 1) (rs.flatMap encRec ++ (encRec r).take n) = some rs ∧
    (rs.flatMap encRec ++ (encRec r).take n).length - fileSize rs = n := by
  obtain ⟨hl, hp⟩ := encRec_take r hr hn
  refine ⟨scanRecs_file rs hrs hp, ?_⟩
  rw [List.length_append, flatMap_encRec_length, hl, Nat.add_sub_cancel_left]

/-- **a complete append to a data file, at byte level** -/
theorem c03_bytes_whole_append (rs : List Rec) (hrs : ∀ x ∈ rs, x.Enc) (r : Rec) (hr : r.Enc) :
    scanRecs (((rs ++ [r]).flatMap encRec).length + 1) ((rs ++ [r]).flatMap encRec) = some (rs ++ [r]) ∧
    ((rs ++ [r]).flatMap encRec).length = fileSize (rs ++ [r]) := by
  have h := scanRecs_file (rs ++ [r]) (fun x hx => by
    rcases List.mem_append.mp hx with hx | hx
    · exact hrs x hx
    · rw [List.mem_singleton.mp hx]; exact hr) (p := []) rfl
  rw [List.append_nil] at h
  exact ⟨h, flatMap_encRec_length _⟩

/-- **a torn append to a hint file, at byte level**: the hint scanner returns exactly the whole
    entries, so a torn hint entry is invisible (`applyCall` ignores `Payload.raw` on hint files) -/
theorem c03_bytes_torn_hint (hs : List Hint) (hhs : ∀ x ∈ hs, x.Enc) (h : Hint) (hh : h.Enc) (n : Nat)
    (hn : n < h.size) :
    scanHintsBytes ((hs.flatMap encHint ++ (encHint h).take n).length + 1)
      (hs.flatMap encHint ++ (encHint h).take n) = some hs :=
  scanHintsBytes_file hs hhs (encHint_take h hh hn).2

/-- one data file at byte level with a torn last entry is, for the startup scan, the record-level
    directory with that many tail bytes -/
theorem c03_bytes_disk (id : Nat) (rs : List Rec) (hrs : ∀ x ∈ rs, x.Enc) (r : Rec) (hr : r.Enc) (n : Nat)
    (hn : n < r.len) (hpos : 0 < n) :
    ByteDisk.toDisk { data := [(id, rs.flatMap encRec ++ (encRec r).take n)], hint := [] } =
      some { data := [(id, rs)], hint := [], tails := [(id, n)] } := by
  obtain ⟨hl, hp⟩ := encRec_take r hr hn
  have := toDisk_single id rs hrs hp (hl.symm ▸ hpos)
  rw [hl] at this
  exact this

/-- with `sync = always` and a rollover after every entry a `put` issues three calls -/
example : (put { maxFile := 0, syncAlways := true } fresh 7 [1] [10]).2 =
    [.append ⟨.data, 0⟩ (.ofRec ⟨7, [1], some [10]⟩), .fsync ⟨.data, 0⟩, .create ⟨.data, 1⟩] := by decide

/-- a cut inside the append: 5 of the 27 bytes of the entry reached the file -/
example : Cut (put { maxFile := 0, syncAlways := true } fresh 7 [1] [10]).2
    [.append ⟨.data, 0⟩ (.raw [0, 0, 0, 0, 7])] :=
  .torn [] ⟨.data, 0⟩ (.ofRec ⟨7, [1], some [10]⟩) [.fsync ⟨.data, 0⟩, .create ⟨.data, 1⟩] [0, 0, 0, 0, 7]
    rfl (by decide)

/-- the directory it leaves: the old files plus 5 invisible bytes at the end of file 0 -/
example : applyCalls fresh.disk [.append ⟨.data, 0⟩ (.raw [0, 0, 0, 0, 7])] =
    { data := [(0, [])], hint := [], tails := [(0, 5)] } := rfl

/-- a cut between the fsync and the creation of the next file -/
example : Cut (put { maxFile := 0, syncAlways := true } fresh 7 [1] [10]).2
    [.append ⟨.data, 0⟩ (.ofRec ⟨7, [1], some [10]⟩), .fsync ⟨.data, 0⟩] :=
  .boundary _ [.create ⟨.data, 1⟩] rfl

/-- two lives: [put, delete | put torn], [reopen, put | delete cut before its append] -/
def demoLives : List Life :=
  [ ⟨[.put 1 [1] [10], .del 2 [1]], .put 3 [2] [20], [.append ⟨.data, 2⟩ (.raw [1, 2, 3])]⟩,
    ⟨[.reopen, .put 4 [1] [11]], .del 5 [1], []⟩ ]

example : ∀ l ∈ demoLives, (∀ o ∈ l.acked, mergeFree o) ∧ mergeFree l.inflight := by decide

/-- the first life is valid from a fresh store (rollover after every entry: the put in flight
    appends to file 2 and would create file 3) -/
example : ValidLife { maxFile := 0 } fresh ⟨[.put 1 [1] [10], .del 2 [1]], .put 3 [2] [20],
    [.append ⟨.data, 2⟩ (.raw [1, 2, 3])]⟩ :=
  ⟨by decide, trivial,
   .torn [] ⟨.data, 2⟩ (.ofRec ⟨3, [2], some [20]⟩) [.create ⟨.data, 3⟩] [1, 2, 3] rfl (by decide)⟩

end Store
