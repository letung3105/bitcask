/-
  C06 / C10 / C16 at BYTE level — the connection handler model `serve` (bytes in arbitrary
  segments → store, reply bytes, how the handler ended) against the map model.

  `Props/C06.lean` states C06 on the frames a connection delivers and `Props/C08.lean` shows that
  the frames do not depend on the segmentation; here the two are put together (and extended to
  truncated and to arbitrary input), so that the statements speak about the request BYTES a client
  sends and the reply BYTES it gets back.

  Vocabulary (all defined in `Resp/`):
  * `serve m segs`    — one connection served from its first byte to end of stream; `segs` are the
                        pieces in which the client's bytes arrive (one per `read_buf`), an empty
                        piece is a read that brought nothing new, the end of the list is EOF.
  * `WfCmd c`         — keys are UTF-8 and DEL names at least one key (`Props/C06.lean`).
  * `CmdFits c`       — the size side-condition: every length `write_frame` prints for the request
                        (each key, the value, the item count) is ≤ `i64::MAX`; equivalent to
                        `WfFrame (Cmd.toFrame c)` (`c06_bytes_fits_iff`). It cannot be dropped: a
                        longer length is printed by the client but rejected by `get_integer`.
  * `wire f`          — the bytes `write_frame` writes for `f`; `reqWire reqs` — the bytes a client
                        writes for the requests `reqs`, i.e. `(reqs.map Cmd.toFrame).flatMap wire`.
  * `specReplies m reqs` — final map and reply frames of the map model; `encodeAll` — their bytes.

  No theorem here restricts segments to be non-empty (`c08_stream'` does not need it either).
  Helper lemmas: `Resp/ServeBytes.lean`, `Resp/ServeBytesRead.lean`.
-/
import BitcaskVerif.Resp.ServeBytesRead

namespace Resp

/-- The size side-condition `CmdFits` says exactly that the request frame is one that
    `write_frame` writes and the peer reads back (`WfFrame`, the hypothesis of C08). -/
theorem c06_bytes_fits_iff (c : Cmd) : CmdFits c ↔ WfFrame (Cmd.toFrame c) :=
  cmdFits_iff_wfFrame c

/-- `reqWire` really is the concatenation of the encodings: every request frame encodes, and
    `reqWire reqs` is the concatenation of those byte strings, in order. -/
theorem c06_bytes_reqWire (reqs : List Cmd) (hfit : ∀ c, c ∈ reqs → CmdFits c) :
    ∃ es : List (List UInt8), (reqs.map Cmd.toFrame).map encode = es.map some ∧
      reqWire reqs = es.flatten := by
  have hw := toFrames_wf reqs hfit
  obtain ⟨es, h1, h2⟩ := encodeAll_whole (reqs.map Cmd.toFrame) (fun f hf => encode_total f (hw f hf))
  exact ⟨es, h1, (encodeAll_eq_flatMap_encode _).symm.trans h2⟩

/-- **C06 at byte level.** Let `reqs` be well-formed requests (that fit on the wire) and let the
    client's bytes — the concatenated encodings of the request frames — arrive in ANY segments
    (any boundaries, pipelined or one request at a time, empty reads allowed), followed by a clean
    end of stream. Then the handler leaves the store exactly as the map model does, writes exactly
    the concatenated encodings of the map model's replies (one per request, in request order) and
    ends with "peer closed". Neither the reply bytes nor the store depend on the segmentation. -/
theorem c06_bytes (m : KV) (reqs : List Cmd) (segs : List (List UInt8))
    (hwf : ∀ c, c ∈ reqs → WfCmd c) (hfit : ∀ c, c ∈ reqs → CmdFits c)
    (h : segs.flatten = (reqs.map Cmd.toFrame).flatMap wire) :
    serve m segs = ((specReplies m reqs).1, encodeAll (specReplies m reqs).2, .peerClosed) := by
  rw [serve, stream_clean (reqs.map Cmd.toFrame) segs (toFrames_wf reqs hfit) h, List.map_map]
  exact c06_replies m reqs hwf

/-- `c06_bytes` with the encodings named explicitly: `es[i]` is the encoding of request `i` and the
    segments concatenate to `es.flatten`. -/
theorem c06_bytes_enc (m : KV) (reqs : List Cmd) (es segs : List (List UInt8))
    (hwf : ∀ c, c ∈ reqs → WfCmd c) (hfit : ∀ c, c ∈ reqs → CmdFits c)
    (he : (reqs.map Cmd.toFrame).map encode = es.map some) (h : segs.flatten = es.flatten) :
    serve m segs = ((specReplies m reqs).1, encodeAll (specReplies m reqs).2, .peerClosed) :=
  c06_bytes m reqs segs hwf hfit (by rw [h, flatMap_wire_of_map _ es he])

/-- the reply bytes of `c06_bytes` are whole encodings: `rs[i]` is the complete encoding of the
    map model's reply to request `i`, and the handler writes `rs.flatten` -/
theorem c06_bytes_replies_enc (m : KV) (reqs : List Cmd) :
    ∃ rs : List (List UInt8), (specReplies m reqs).2.map encode = rs.map some ∧
      rs.length = reqs.length ∧ encodeAll (specReplies m reqs).2 = rs.flatten := by
  obtain ⟨rs, h1, h2⟩ := encodeAll_whole _ (specReplies_forall encode_reply_some m reqs)
  refine ⟨rs, h1, ?_, h2⟩
  have := congrArg List.length h1
  rw [List.length_map, List.length_map, specReplies_length] at this
  exact this.symm

/-- **C06 at byte level (the segmentation is irrelevant).** Two segmentations of the same
    well-formed request byte stream give the same `serve` result: same store, same reply bytes,
    same end. -/
theorem c06_bytes_segmentation_irrelevant (m : KV) (reqs : List Cmd) (segs₁ segs₂ : List (List UInt8))
    (hwf : ∀ c, c ∈ reqs → WfCmd c) (hfit : ∀ c, c ∈ reqs → CmdFits c)
    (h₁ : segs₁.flatten = reqWire reqs) (h₂ : segs₂.flatten = segs₁.flatten) :
    serve m segs₁ = serve m segs₂ := by
  rw [c06_bytes m reqs segs₁ hwf hfit h₁, c06_bytes m reqs segs₂ hwf hfit (h₂.trans h₁)]

/-- in particular: delivered one byte at a time, delivered in one piece (fully pipelined), and
    delivered one request per read all give the same result -/
theorem c06_bytes_bytewise_whole_perreq (m : KV) (reqs : List Cmd)
    (hwf : ∀ c, c ∈ reqs → WfCmd c) (hfit : ∀ c, c ∈ reqs → CmdFits c) :
    serve m ((reqWire reqs).map fun b => [b]) = serve m [reqWire reqs] ∧
      serve m ((reqs.map Cmd.toFrame).map wire) = serve m [reqWire reqs] := by
  constructor
  · exact c06_bytes_segmentation_irrelevant m reqs _ _ hwf hfit (flatten_singletons _) (by simp [flatten_singletons])
  · exact c06_bytes_segmentation_irrelevant m reqs _ _ hwf hfit (by simp [reqWire, List.flatMap_def])
      (by simp [reqWire, List.flatMap_def])

/-- **C06 at byte level (truncated stream), general form.** After the complete well-formed requests
    `reqs` the stream carries only a non-empty strict prefix `p` of the encoding of one more
    well-formed frame `f` (a request or anything else `write_frame` can write) and then ends. For
    every segmentation: the replies are exactly those to `reqs`, the store is the one after `reqs`,
    and the handler ends with "connection reset" — the partial frame is never answered and never
    applied. -/
theorem c06_bytes_prefix_frame (m : KV) (reqs : List Cmd) (f : Frame) (p : List UInt8)
    (segs : List (List UInt8))
    (hwf : ∀ c, c ∈ reqs → WfCmd c) (hfit : ∀ c, c ∈ reqs → CmdFits c)
    (hf : WfFrame f) (hp : p <+: wire f) (hne : p ≠ wire f) (hnil : p ≠ [])
    (h : segs.flatten = (reqs.map Cmd.toFrame).flatMap wire ++ p) :
    serve m segs = ((specReplies m reqs).1, encodeAll (specReplies m reqs).2, .reset) := by
  obtain ⟨e, he⟩ := encode_total f hf
  rw [wire_eq f e he] at hp hne
  rw [serve, stream_reset (reqs.map Cmd.toFrame) f e p segs (toFrames_wf reqs hfit) hf he hp hne hnil h,
    List.map_map]
  exact (serveFrames_reqs_append m reqs [.reset] hwf).trans
    (by simp only [serveFrames, List.append_nil])

/-- **C06 at byte level (the stream ends INSIDE a request).** After `reqs.length` complete
    well-formed requests the stream carries a non-empty strict prefix `p` of the encoding of the
    next request `next` and then ends. For every segmentation the reply bytes are exactly the
    encodings of the replies to `reqs` (nothing for `next`), the store is the one after `reqs`
    (`next` is not applied, not even partially), and the handler ends with the model's "connection
    reset" (`HEnd.reset`, `Err(ConnectionReset)` of `read_frame`).
    (With `p = []` the stream ends between requests: that is `c06_bytes`, ending `.peerClosed`.) -/
theorem c06_bytes_prefix (m : KV) (reqs : List Cmd) (next : Cmd) (p : List UInt8)
    (segs : List (List UInt8))
    (hwf : ∀ c, c ∈ reqs → WfCmd c) (hfit : ∀ c, c ∈ reqs → CmdFits c) (hnext : CmdFits next)
    (hp : p <+: wire (Cmd.toFrame next)) (hne : p ≠ wire (Cmd.toFrame next)) (hnil : p ≠ [])
    (h : segs.flatten = (reqs.map Cmd.toFrame).flatMap wire ++ p) :
    serve m segs = ((specReplies m reqs).1, encodeAll (specReplies m reqs).2, .reset) :=
  c06_bytes_prefix_frame m reqs (Cmd.toFrame next) p segs hwf hfit (toFrame_wf next hnext) hp hne hnil h

/-- the truncated stream seen as a prefix of a longer run: cutting the byte stream of
    `reqs ++ next :: more` anywhere strictly inside `next` yields the replies to `reqs` only, and
    they are a prefix of the replies to the whole run -/
theorem c06_bytes_prefix_of_run (m : KV) (reqs more : List Cmd) (next : Cmd) (p : List UInt8)
    (segs : List (List UInt8))
    (hwf : ∀ c, c ∈ reqs → WfCmd c) (hfit : ∀ c, c ∈ reqs → CmdFits c) (hnext : CmdFits next)
    (hp : p <+: wire (Cmd.toFrame next)) (hne : p ≠ wire (Cmd.toFrame next)) (hnil : p ≠ [])
    (h : segs.flatten = reqWire reqs ++ p) :
    (serve m segs).2.1 = encodeAll (specReplies m reqs).2 ∧
      (serve m segs).2.1 <+: encodeAll (specReplies m (reqs ++ next :: more)).2 ∧
      segs.flatten <+: reqWire (reqs ++ next :: more) := by
  rw [c06_bytes_prefix m reqs next p segs hwf hfit hnext hp hne hnil h]
  refine ⟨rfl, ?_, ?_⟩
  · rw [specReplies_append, encodeAll_append]
    exact List.prefix_append _ _
  · obtain ⟨t, ht⟩ := hp
    rw [h, reqWire_append, reqWire_cons, ← ht]
    exact ⟨t ++ reqWire more, by simp⟩

/-- the two cases together: the stream is cut anywhere before the end of `next` (possibly exactly
    between two requests); the handler ends cleanly iff the cut is between requests -/
theorem c06_bytes_cut (m : KV) (reqs : List Cmd) (next : Cmd) (p : List UInt8)
    (segs : List (List UInt8))
    (hwf : ∀ c, c ∈ reqs → WfCmd c) (hfit : ∀ c, c ∈ reqs → CmdFits c) (hnext : CmdFits next)
    (hp : p <+: wire (Cmd.toFrame next)) (hne : p ≠ wire (Cmd.toFrame next))
    (h : segs.flatten = (reqs.map Cmd.toFrame).flatMap wire ++ p) :
    serve m segs = ((specReplies m reqs).1, encodeAll (specReplies m reqs).2,
      if p = [] then .peerClosed else .reset) := by
  by_cases hnil : p = []
  · subst hnil
    simp only [↓reduceIte]
    exact c06_bytes m reqs segs hwf hfit (by simpa using h)
  · simp only [hnil, ↓reduceIte]
    exact c06_bytes_prefix m reqs next p segs hwf hfit hnext hp hne hnil h

/-- **Requests sent before garbage are still honoured.** If the byte stream starts with the
    encodings of the well-formed requests `reqs` and continues with ARBITRARY bytes `tail` (garbage,
    a truncated frame, more requests, …), then for every segmentation all of `reqs` are applied and
    answered exactly as the map model says, in order; whatever follows can only add further
    well-formed commands `more` with their replies, and the handler ends without a panic. -/
theorem c06_bytes_then_anything (m : KV) (reqs : List Cmd) (tail : List UInt8)
    (segs : List (List UInt8))
    (hwf : ∀ c, c ∈ reqs → WfCmd c) (hfit : ∀ c, c ∈ reqs → CmdFits c)
    (h : segs.flatten = (reqs.map Cmd.toFrame).flatMap wire ++ tail) :
    ∃ (more : List Cmd) (e : HEnd), (∀ c, c ∈ more → WfCmd c) ∧ e ≠ .panic ∧
      serve m segs =
        ((specReplies m (reqs ++ more)).1, encodeAll (specReplies m (reqs ++ more)).2, e) := by
  obtain ⟨rs, h1, h2⟩ := readAll_frames_then (reqs.map Cmd.toFrame) tail segs (toFrames_wf reqs hfit) h
  obtain ⟨h3, h4⟩ := serveFrames_spec (specReplies m reqs).1 rs
  refine ⟨goodPrefix rs, (serveFrames (specReplies m reqs).1 rs).2.2, goodPrefix_wf rs,
    serveFrames_no_panic _ rs h2, ?_⟩
  rw [serve, h1, List.map_map]
  exact (serveFrames_reqs_append m reqs rs hwf).trans
    (by rw [specReplies_append, encodeAll_append, h3, h4])

/-- **Shape of a run on arbitrary bytes.** Whatever bytes arrive in whatever segments, the reader
    loop returns some complete frames `fs` and then exactly one non-frame result `r` (clean end,
    reset, or frame error — never a panic); frame `i` was parsed by `parse_frame` from a buffer
    starting with `chunks[i]`, consuming exactly that chunk, and the chunks are consecutive pieces
    of the byte stream starting at its first byte. -/
theorem c10_bytes_run_shape (segs : List (List UInt8)) :
    ∃ (fs : List Frame) (r : ReadRes) (chunks : List (List UInt8)) (rest : List UInt8),
      readAll segs = fs.map .frame ++ [r] ∧ (∀ f, r ≠ .frame f) ∧ r ≠ .panic ∧
      ParsedFrom fs chunks ∧ segs.flatten = chunks.flatten ++ rest := by
  obtain ⟨fs, r, chunks, rest, h1, h2, h3, h4⟩ := readAllF_shape (segs.flatten.length + 2) #[] segs
  refine ⟨fs, r, chunks, rest, h1, h2, fun hp => readAll_no_panic segs ?_, h3, h4⟩
  rw [readAll, h1, hp]
  exact List.mem_append_right _ List.mem_cons_self

/-- that decomposition of a run is unique, so the `fs`, `r` of the theorems below are THE frames
    read and THE way reading stopped -/
theorem c10_bytes_run_shape_unique (fs fs' : List Frame) (r r' : ReadRes)
    (hr : ∀ f, r ≠ .frame f) (hr' : ∀ f, r' ≠ .frame f)
    (h : fs.map ReadRes.frame ++ [r] = fs'.map ReadRes.frame ++ [r']) : fs = fs' ∧ r = r' := by
  obtain ⟨h1, h2⟩ := List.append_inj' h rfl
  exact ⟨(List.map_inj_right fun _ _ => ReadRes.frame.inj).mp h1, (List.cons.inj h2).1⟩

/-- **The complete result of `serve` on arbitrary bytes.** If the reader loop returned the frames
    `fs` and then the non-frame result `r`, let `cmds = decodedPrefix fs` be the commands decoded
    from the leading frames up to the first frame that is not a command. Then the store, the reply
    bytes and the end are: the map model's store after `cmds`, the encodings of the map model's
    replies to `cmds`, and "command error" if some frame was not a command, else what `r` says. -/
theorem c10_bytes_serve (m : KV) (segs : List (List UInt8)) (fs : List Frame) (r : ReadRes)
    (hrun : readAll segs = fs.map .frame ++ [r]) (hr : ∀ f, r ≠ .frame f) :
    serve m segs =
      ((specReplies m (decodedPrefix fs)).1, encodeAll (specReplies m (decodedPrefix fs)).2,
        match firstCmdErr fs with
        | some e => .cmdError e
        | none => endOf r) := by
  rw [serve, hrun]
  exact serveFrames_run m fs r hr

/-- **C10 at byte level (stored data changes only through well-formed SET and DEL, and we can say
    which).** For ARBITRARY segments (any bytes at all): the reader loop returned complete frames
    `fs` and then a non-frame result `r`; `cmds` are the commands decoded from the leading frames of
    `fs` — the first `cmds.length` frames are precisely the request frames of `cmds`, every one of
    them a well-formed command, and the next frame, if there is one, is rejected by
    `Command::try_from`. The final store is the initial one with the SETs and DELs among `cmds`
    applied in order (GETs change nothing); nothing after the first malformed frame, unknown command
    or truncated frame has any effect. This names the `goodPrefix` of `c10_store`. -/
theorem c10_bytes_store (m : KV) (segs : List (List UInt8)) :
    ∃ (fs : List Frame) (r : ReadRes) (cmds : List Cmd),
      readAll segs = fs.map .frame ++ [r] ∧ (∀ f, r ≠ .frame f) ∧ r ≠ .panic ∧
      cmds = decodedPrefix fs ∧ cmds = goodPrefix (readAll segs) ∧
      fs.take cmds.length = cmds.map Cmd.toFrame ∧
      (∀ h : cmds.length < fs.length, ∃ e, Cmd.ofFrame fs[cmds.length] = .error e) ∧
      (∀ c, c ∈ cmds → WfCmd c) ∧
      (∀ c, c ∈ cmds.filter Cmd.isWrite → (∃ k v, c = .set k v) ∨ (∃ ks, c = .del ks)) ∧
      (serve m segs).1 = (cmds.filter Cmd.isWrite).foldl (fun m c => (applyCmd m c).1) m ∧
      (serve m segs).1 = cmds.foldl (fun m c => (applyCmd m c).1) m := by
  obtain ⟨fs, r, _, _, hrun, hr, hnp, _, _⟩ := c10_bytes_run_shape segs
  obtain ⟨h1, h2, h3, _⟩ := decodedPrefix_spec fs
  have hs := c10_bytes_serve m segs fs r hrun hr
  have hst : (serve m segs).1 = applyAll m (decodedPrefix fs) := by
    rw [hs]; exact specReplies_fst m _
  refine ⟨fs, r, decodedPrefix fs, hrun, hr, hnp, rfl, ?_, h1, ?_, h2, ?_, ?_, hst⟩
  · rw [hrun, goodPrefix_frames fs r hr]
  · intro h
    obtain ⟨e, he, _⟩ := h3 h
    exact ⟨e, he⟩
  · intro c hc
    exact (isWrite_iff c).mp (List.mem_filter.mp hc).2
  · rw [hst, applyAll_filter_writes]; rfl

/-- the statement of `c10_bytes_store` with everything but the store forgotten: the final store is
    the initial one after a sequence of well-formed SET / DEL commands -/
theorem c10_bytes_store_writes (m : KV) (segs : List (List UInt8)) :
    ∃ cmds : List Cmd,
      (∀ c, c ∈ cmds → WfCmd c ∧ ((∃ k v, c = .set k v) ∨ (∃ ks, c = .del ks))) ∧
      (serve m segs).1 = cmds.foldl (fun m c => (applyCmd m c).1) m := by
  obtain ⟨_, _, cmds, _, _, _, _, _, _, _, hwf, hw, hst, _⟩ := c10_bytes_store m segs
  exact ⟨cmds.filter Cmd.isWrite, fun c hc => ⟨hwf c (List.mem_filter.mp hc).1, hw c hc⟩, hst⟩

/-- **C16 at byte level (the handler never emits part of a reply).** Whatever the input — any
    bytes, any segmentation, ended anywhere — the reply byte string `serve` produces is the
    concatenation `bs.flatten` of COMPLETE encodings `bs[i]` of reply frames `frames[i]`.
    Moreover these frames are exactly the map model's replies to the commands the handler applied
    (`goodPrefix`, the commands of `c10_bytes_store`), so there is one whole reply per applied
    command — nothing for a command that was not applied, and no command applied without its
    reply — and every one of them is `+OK`, a bulk string, null or a non-negative integer. -/
theorem c16_bytes_whole_replies (m : KV) (segs : List (List UInt8)) :
    ∃ (frames : List Frame) (bs : List (List UInt8)),
      frames.map encode = bs.map some ∧ (serve m segs).2.1 = bs.flatten ∧
      frames = (specReplies m (goodPrefix (readAll segs))).2 ∧
      frames.length = (goodPrefix (readAll segs)).length ∧
      (∀ f, f ∈ frames → IsReply f) ∧
      (serve m segs).1 = (specReplies m (goodPrefix (readAll segs))).1 := by
  obtain ⟨h1, h2⟩ := serveFrames_spec m (readAll segs)
  obtain ⟨bs, h3, h4⟩ :=
    encodeAll_whole _ (specReplies_forall encode_reply_some m (goodPrefix (readAll segs)))
  exact ⟨_, bs, h3, h2.trans h4, rfl, specReplies_length _ _,
    specReplies_forall applyCmd_isReply _ _, h1⟩

/-- the plain form: the reply bytes are a concatenation of complete encodings of frames -/
theorem c16_bytes_whole_replies_plain (m : KV) (segs : List (List UInt8)) :
    ∃ frames : List Frame, (∀ f, f ∈ frames → ∃ b, encode f = some b) ∧
      (serve m segs).2.1 = (frames.map wire).flatten := by
  refine ⟨_, specReplies_forall encode_reply_some m (goodPrefix (readAll segs)), ?_⟩
  rw [serve, (serveFrames_spec m (readAll segs)).2, encodeAll_eq_flatMap_encode, List.flatMap_def]
  rfl

namespace C06BytesEx

/-- `SET a 1`, `GET a`, `DEL a a` -/
def exReqs : List Cmd := [.set [97] [49], .get [97], .del [[97], [97]]]

/-- `*3\r\n$3\r\nSET\r\n$1\r\na\r\n$1\r\n1\r\n` `*2\r\n$3\r\nGET\r\n$1\r\na\r\n`
    `*3\r\n$3\r\nDEL\r\n$1\r\na\r\n$1\r\na\r\n` -/
def exBytes : List UInt8 :=
  [42, 51, 13, 10, 36, 51, 13, 10, 83, 69, 84, 13, 10, 36, 49, 13, 10, 97, 13, 10, 36, 49, 13, 10, 49, 13, 10,
   42, 50, 13, 10, 36, 51, 13, 10, 71, 69, 84, 13, 10, 36, 49, 13, 10, 97, 13, 10,
   42, 51, 13, 10, 36, 51, 13, 10, 68, 69, 76, 13, 10, 36, 49, 13, 10, 97, 13, 10, 36, 49, 13, 10, 97, 13, 10]

/-- `+OK\r\n` `$1\r\n1\r\n` `:1\r\n` -/
def exReplies : List UInt8 := [43, 79, 75, 13, 10, 36, 49, 13, 10, 49, 13, 10, 58, 49, 13, 10]

theorem exWire : reqWire exReqs = exBytes := by decide +kernel

theorem exRepliesWire : encodeAll (specReplies KV.empty exReqs).2 = exReplies := by decide +kernel

end C06BytesEx
open C06BytesEx

example : ∀ c, c ∈ exReqs → WfCmd c := by decide
example : ∀ c, c ∈ exReqs → CmdFits c := by decide
example : reqWire exReqs = exBytes := exWire
example : (reqs : List Cmd) → reqs = exReqs → (reqs.map Cmd.toFrame).flatMap wire = exBytes := by
  intro reqs h; subst h; exact exWire
example : encodeAll (specReplies KV.empty exReqs).2 = exReplies := exRepliesWire

/-- hypotheses of `c06_bytes` are met by `SET a 1 / GET a / DEL a a` split byte by byte; the
    replies are `+OK`, `$1 1`, `:1`, the handler ends cleanly and `a` is gone from the store -/
example : serve KV.empty (exBytes.map fun b => [b]) =
    ((specReplies KV.empty exReqs).1, exReplies, .peerClosed) := by
  rw [c06_bytes KV.empty exReqs (exBytes.map fun b => [b]) (by decide) (by decide)
    ((flatten_singletons _).trans exWire.symm), exRepliesWire]

example : (specReplies KV.empty exReqs).1 [97] = none := by decide

/-- the same stream in three uneven pieces with empty reads in between, via
    `c06_bytes_segmentation_irrelevant` -/
example : serve KV.empty [exBytes.take 5, [], (exBytes.drop 5).take 40, [], [], exBytes.drop 45] =
    serve KV.empty (exBytes.map fun b => [b]) :=
  c06_bytes_segmentation_irrelevant KV.empty exReqs _ _ (by decide) (by decide)
    (by decide +kernel) (by decide +kernel)

/-- hypotheses of `c06_bytes_prefix` are met: `SET a 1` complete, then the first 9 bytes
    `*2\r\n$3\r\nG` of `GET a`, byte by byte: one `+OK`, then connection reset, `a ↦ 1` stored -/
example : serve KV.empty ((exBytes.take 36).map fun b => [b]) =
    ((specReplies KV.empty [.set [97] [49]]).1, [43, 79, 75, 13, 10], .reset) := by
  rw [c06_bytes_prefix KV.empty [.set [97] [49]] (.get [97]) ((exBytes.drop 27).take 9)
    ((exBytes.take 36).map fun b => [b]) (by decide) (by decide) (by decide)
    (by decide +kernel) (by decide +kernel) (by decide +kernel) (by decide +kernel),
    (by decide +kernel : encodeAll (specReplies KV.empty [Cmd.set [97] [49]]).2 = [43, 79, 75, 13, 10])]

example : (specReplies KV.empty [.set [97] [49]]).1 [97] = some [49] := by decide

/-- arbitrary input (C10, C16): `SET a 1`, then `GET` with two keys (not a command), then garbage.
    Only the SET is applied, only its reply is written (whole), the handler ends with a command
    error; computed directly on the model. -/
example : (serve KV.empty [exBytes.take 27 ++
      [42, 51, 13, 10, 36, 51, 13, 10, 71, 69, 84, 13, 10, 36, 49, 13, 10, 97, 13, 10, 36, 49, 13, 10, 98, 13, 10],
      [33, 33, 13, 10]]).2 = ([43, 79, 75, 13, 10], .cmdError .badArgs) := by
  decide +kernel

/-- garbage right away: nothing applied, nothing written, frame error -/
example : (serve KV.empty [[33], [33, 13, 10]]).2 = ([], .frameError .badEncoding) := by
  decide +kernel

/-- hypotheses of `c06_bytes_cut` are met with the cut exactly between `SET a 1` and `GET a` -/
example : (serve KV.empty [exBytes.take 20, exBytes.drop 20 |>.take 7]).2.2 = .peerClosed := by
  rw [c06_bytes_cut KV.empty [.set [97] [49]] (.get [97]) [] [exBytes.take 20, exBytes.drop 20 |>.take 7]
    (by decide) (by decide) (by decide) (by decide +kernel) (by decide +kernel) (by decide +kernel)]
  rfl

/-- hypotheses of `c06_bytes_then_anything` are met: `SET a 1` followed by the garbage `!!\r\n`,
    split in the middle of the SET -/
example : ∃ (more : List Cmd) (e : HEnd), (∀ c, c ∈ more → WfCmd c) ∧ e ≠ .panic ∧
    serve KV.empty [exBytes.take 11, (exBytes.drop 11).take 16 ++ [33, 33, 13, 10]] =
      ((specReplies KV.empty ([.set [97] [49]] ++ more)).1,
        encodeAll (specReplies KV.empty ([.set [97] [49]] ++ more)).2, e) :=
  c06_bytes_then_anything KV.empty [.set [97] [49]] [33, 33, 13, 10] _ (by decide) (by decide)
    (by decide +kernel)

/-- hypotheses of `c10_bytes_serve` are met: the stream `+OK\r\n$-` (a frame that is not a command,
    then a truncated frame) read as `[frame +OK, reset]` (by `c08_eof_inside`): nothing applied,
    nothing written, command error -/
example : serve KV.empty [[43, 79], [75, 13, 10, 36, 45]] = (KV.empty, [], .cmdError .badFrame) :=
  c10_bytes_serve KV.empty [[43, 79], [75, 13, 10, 36, 45]] [.simple [79, 75]] .reset
    (stream_reset [.simple [79, 75]] .null [36, 45, 49, 13, 10] [36, 45] _
      (by decide) (by decide) (by decide) (by decide) (by decide) (by decide) (by decide))
    nofun

/-- hypotheses of `c06_bytes_enc` are met: the three encodings named one by one, the stream cut
    at two arbitrary places -/
example : (serve KV.empty [exBytes.take 30, (exBytes.drop 30).take 1, exBytes.drop 31]).2 =
    (exReplies, .peerClosed) := by
  rw [c06_bytes_enc KV.empty exReqs [exBytes.take 27, (exBytes.drop 27).take 20, exBytes.drop 47]
    [exBytes.take 30, (exBytes.drop 30).take 1, exBytes.drop 31] (by decide) (by decide)
    (by decide +kernel) (by decide +kernel), exRepliesWire]

/-- `c06_bytes_bytewise_whole_perreq` on the example requests -/
example : serve KV.empty ((reqWire exReqs).map fun b => [b]) = serve KV.empty [reqWire exReqs] :=
  (c06_bytes_bytewise_whole_perreq KV.empty exReqs (by decide) (by decide)).1

/-- hypotheses of `c06_bytes_prefix_frame` are met: `SET a 1`, then `$-` (the stream ends inside
    the encoding of a null, which is not even a request) -/
example : serve KV.empty [exBytes.take 27 ++ [36], [45]] =
    ((specReplies KV.empty [.set [97] [49]]).1, encodeAll (specReplies KV.empty [.set [97] [49]]).2, .reset) :=
  c06_bytes_prefix_frame KV.empty [.set [97] [49]] .null [36, 45] _ (by decide) (by decide) (by decide)
    (by decide +kernel) (by decide +kernel) (by decide) (by decide +kernel)

/-- hypotheses of `c06_bytes_prefix_of_run` are met: the example stream cut 5 bytes into `GET a` -/
example : (serve KV.empty [exBytes.take 32]).2.1 <+: exReplies := by
  rw [← exRepliesWire]
  exact (c06_bytes_prefix_of_run KV.empty [.set [97] [49]] [.del [[97], [97]]] (.get [97])
    ((exBytes.drop 27).take 5) [exBytes.take 32] (by decide) (by decide) (by decide)
    (by decide +kernel) (by decide +kernel) (by decide +kernel) (by decide +kernel)).2.1

/-- hypotheses of `c10_bytes_run_shape_unique` are met -/
example : ([Frame.null].map ReadRes.frame ++ [ReadRes.reset] = [Frame.null].map ReadRes.frame ++ [ReadRes.reset]) ∧
    (∀ f, ReadRes.reset ≠ .frame f) := ⟨rfl, nofun⟩

/-- `CmdFits` and `WfCmd` are not trivially true -/
example : ¬ WfCmd (.del []) := by decide
example : ¬ WfCmd (.get [0xFF]) := by decide

end Resp
