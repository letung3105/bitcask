/-
  C09 — with `sync = always` an acknowledged write survives power loss, merges included.

  Failure model (the property's, not verified): creations and removals of files are persistent;
  of every file, any suffix written after that file's last completed fsync may be missing.

  (a) Trace level, all operations: with `sync = always` the append of a `put` / `delete` is
  followed by an fsync of the same file before the operation returns (and before the next file
  is created); in every merge pass — for every configuration — every append to an output file
  (data or hint) is followed by an fsync of that file before the first input file is removed,
  the pass appends only to new files above the active id and removes only selected files.
  So a merge never removes a file while a copy it has made is not yet durable (defect D4: the
  outputs are never synced).

  (b) Directory level, merge-free histories: every power-loss image — at an operation
  boundary or at any cut inside an operation — opens, contains every acknowledged operation, and
  the operation in flight applied or not; once its fsync has completed it is applied.

  (c) Directory level, merge passes and histories with merges: durability is tracked for
  data AND hint files (`SDisk2`); a power failure cuts every data file and every hint file back
  independently (`PowerLoss2`).  Every image at any cut of a merge pass opens to exactly the
  contents before the merge: a merge never removes the only durable copy of a value.

  Helper lemmas: Store/SyncLemmas.lean (a); Store/PowerMerge.lean, Store/PowerImage.lean,
  Store/PowerCuts.lean, Store/PowerAll.lean (c); Store/PowerLoss.lean, Store/PowerHistory.lean
  (b: its model is that of (c) with hint files that lose nothing, and its theorems are derived
  from those of (c)).
-/
import BitcaskVerif.Store.PowerHistory
import BitcaskVerif.Store.PowerAll

namespace Store

open Tr

/-! ### (a) order of appends, fsyncs and unlinks -/

/-- **C09 (set, call order).** With `sync = always` the calls of `put` are: append the entry to
    the active file, fsync the active file, then — only after that — create the next file if
    the size limit is exceeded. -/
theorem c09_put_synced (cfg : Cfg) (s : St) (ts : Int) (k : Key) (v : Val) (h : cfg.syncAlways = true) :
    (put cfg s ts k v).2 =
      [Call.append ⟨.data, s.active⟩ (.ofRec ⟨ts, k, some v⟩), Call.fsync ⟨.data, s.active⟩] ++
      (if s.written + (⟨ts, k, some v⟩ : Rec).len > cfg.maxFile then [Call.create ⟨.data, s.active + 1⟩] else []) := by
  rw [put_calls]; exact write_calls_sync cfg s _ h

/-- **C09 (delete, call order).** -/
theorem c09_delete_synced (cfg : Cfg) (s : St) (ts : Int) (k : Key) (h : cfg.syncAlways = true) :
    (delete cfg s ts k).2.2 =
      [Call.append ⟨.data, s.active⟩ (.ofRec ⟨ts, k, none⟩), Call.fsync ⟨.data, s.active⟩] ++
      (if s.written + (⟨ts, k, none⟩ : Rec).len > cfg.maxFile then [Call.create ⟨.data, s.active + 1⟩] else []) := by
  rw [delete_calls]; exact write_calls_sync cfg s _ h

/-- **C09 (merge, call order).** In the calls of a merge pass (any configuration, any selection,
    any iteration order) every append — to an output data file or to an output hint file — is
    followed by an fsync of the same file, and no unlink happens in between. -/
theorem c09_merge_synced (cfg : Cfg) (s : St) (sel : List Nat) (order : List Key)
    (pre : List Call) (f : FName) (p : Payload) (post : List Call)
    (h : (mergeWith cfg s sel order).2 = pre ++ Call.append f p :: post) :
    ∃ mid rest, post = mid ++ Call.fsync f :: rest ∧ ∀ c ∈ mid, ∀ g, c ≠ Call.unlink g :=
  syncedB_spec (mergeWith_synced cfg s sel order) pre f p post h

/-- the same as an executable monitor -/
theorem c09_merge_synced_monitor (cfg : Cfg) (s : St) (sel : List Nat) (order : List Key) :
    syncedB (mergeWith cfg s sel order).2 = true := mergeWith_synced cfg s sel order

/-- **C09 (merge, files touched).** A merge pass appends only to files with ids above the active
    id (its outputs) and removes only selected files; with the selection below the active id (as
    in every valid merge) it therefore never removes a file it has written to. -/
theorem c09_merge_targets (cfg : Cfg) (s : St) (sel : List Nat) (order : List Key) :
    ∀ c ∈ (mergeWith cfg s sel order).2,
      (∀ f p, c = Call.append f p → s.active < f.id) ∧ (∀ f, c = Call.unlink f → f.id ∈ sel) :=
  mergeWith_targets cfg s sel order

/-- **C09 (whole traces).** With `sync = always` the effect trace of every run of sets, deletes,
    merges and reopens passes the monitor: every append is followed by an fsync of the same file
    before the next unlink. -/
theorem c09_trace_synced (cfg : Cfg) (h : cfg.syncAlways = true) (s : St) (ops : List TOp) :
    syncedB (traceOf cfg s ops) = true := traceOf_synced cfg h ops s

/-- what the monitor says, in terms of positions in the trace -/
theorem c09_trace_synced_spec (cfg : Cfg) (h : cfg.syncAlways = true) (s : St) (ops : List TOp)
    (pre : List Call) (f : FName) (p : Payload) (post : List Call)
    (e : traceOf cfg s ops = pre ++ Call.append f p :: post) :
    ∃ mid rest, post = mid ++ Call.fsync f :: rest ∧ ∀ c ∈ mid, ∀ g, c ≠ Call.unlink g :=
  syncedB_spec (c09_trace_synced cfg h s ops) pre f p post e

/-! ### (b) power-loss images of merge-free histories -/

/-- **C09 (one operation).** `sync = always`; `s` reachable by sets, deletes, reads, reopens,
    kills and recoveries, everything in its directory durable (`sy`).  The power fails after the
    calls `c` (any cut) of the merge-free operation `op`.  Every directory `d'` the failure can
    leave opens to a store satisfying the invariant that reads as before `op` or as after `op`;
    if `op` had returned (all its calls issued), as after `op`. -/
theorem c09_op_durable_partial (cfg : Cfg) (hs : cfg.syncAlways = true) (s : St) (h : ReachC cfg s)
    (sy : List (Nat × Nat)) (hfs : FullySynced ⟨s.disk, sy⟩) (op : TOp) (hop : mergeFree op) (c : List Call)
    (hc : Cut (stepC cfg s op).2 c) (d' : Disk) (hp : PowerLoss (syncCalls ⟨s.disk, sy⟩ c) d') :
    ((openDisk d').1.abs = s.abs ∨ (openDisk d').1.abs = specOp s.abs op) ∧
    (c = (stepC cfg s op).2 → (openDisk d').1.abs = specOp s.abs op) ∧ Inv (openDisk d').1 := by
  obtain ⟨a, b⟩ := stepC_powerLoss_recovers cfg hs (reachC_rinv h).1 (reachC_rinv h).2 hfs op hop hc hp
  refine ⟨?_, fun e => (b e).2.2, ?_⟩
  · rcases a with r | r
    · exact .inl r.2.2
    · exact .inr r.2.2
  · rcases a with r | r <;> exact r.1.inv

/-- **C09 (merge-free histories).** `sync = always`; from any state `s` satisfying the recovery
    invariant in which nothing absent is resurrectable (e.g. any `ReachC` state, `reachC_rinv`)
    and whose directory is durable: after the acknowledged merge-free operations `ops` the power
    fails at any cut `c` of the next operation `op`.  Every power-loss image `d'` opens; the store
    contains every acknowledged operation, and `op` applied or not applied — applied if it had
    returned; the opened store again satisfies the hypotheses (with everything durable), so the
    statement applies to the next life as well. -/
theorem c09_durable_partial (cfg : Cfg) (hs : cfg.syncAlways = true) (s : St) (h : RInv s) (hf : Full s)
    (sy : List (Nat × Nat)) (hfs : FullySynced ⟨s.disk, sy⟩) (ops : List TOp) (hops : ∀ o ∈ ops, mergeFree o)
    (op : TOp) (hop : mergeFree op) (c : List Call) (hc : Cut (stepC cfg (runC cfg s ops) op).2 c)
    (d' : Disk) (hp : PowerLoss (syncCalls ⟨s.disk, sy⟩ (traceOf cfg s ops ++ c)) d') :
    ((openDisk d').1.abs = specRun s.abs ops ∨ (openDisk d').1.abs = specOp (specRun s.abs ops) op) ∧
    (c = (stepC cfg (runC cfg s ops) op).2 → (openDisk d').1.abs = specOp (specRun s.abs ops) op) ∧
    Inv (openDisk d').1 ∧ (∀ k, get (openDisk d').1 k ≠ .corrupt) ∧
    RInv (openDisk d').1 ∧ Full (openDisk d').1 ∧
    FullySynced ⟨(openDisk d').1.disk, allSynced (openDisk d').1.disk⟩ := by
  obtain ⟨a, b⟩ := history_powerLoss_recovers cfg hs h hf hfs ops hops op hop hc hp
  have hr : RInv (openDisk d').1 ∧ Full (openDisk d').1 := by
    rcases a with r | r <;> exact ⟨r.1, r.2.1⟩
  refine ⟨?_, fun e => (b e).2.2, hr.1.inv, fun k => get_not_corrupt hr.1.inv k, hr.1, hr.2, fullySynced_all _⟩
  rcases a with r | r
  · exact .inl r.2.2
  · exact .inr r.2.2

/-- **C09 (from a fresh store).** -/
theorem c09_durable_fresh_partial (cfg : Cfg) (hs : cfg.syncAlways = true) (ops : List TOp)
    (hops : ∀ o ∈ ops, mergeFree o) (op : TOp) (hop : mergeFree op) (c : List Call)
    (hc : Cut (stepC cfg (runC cfg fresh ops) op).2 c) (d' : Disk)
    (hp : PowerLoss (syncCalls ⟨fresh.disk, []⟩ (traceOf cfg fresh ops ++ c)) d') :
    ((openDisk d').1.abs = specRun Map.empty ops ∨ (openDisk d').1.abs = specOp (specRun Map.empty ops) op) ∧
    (c = (stepC cfg (runC cfg fresh ops) op).2 → (openDisk d').1.abs = specOp (specRun Map.empty ops) op) ∧
    Inv (openDisk d').1 := by
  have := c09_durable_partial cfg hs fresh fresh_rinv.1 fresh_rinv.2 [] fullySynced_fresh ops hops op hop c hc d' hp
  rw [fresh_abs] at this
  exact ⟨this.1, this.2.1, this.2.2.1⟩

/-- with `sync = always` everything is durable whenever a merge-free operation has returned
    (this is what makes the bookkeeping `sy` of the next operation "everything durable") -/
theorem c09_boundary_synced (cfg : Cfg) (hs : cfg.syncAlways = true) (s : St) (sy : List (Nat × Nat))
    (hfs : FullySynced ⟨s.disk, sy⟩) (ops : List TOp) (hops : ∀ o ∈ ops, mergeFree o) :
    ∃ sy', syncCalls ⟨s.disk, sy⟩ (traceOf cfg s ops) = ⟨(runC cfg s ops).disk, sy'⟩ ∧
      FullySynced ⟨(runC cfg s ops).disk, sy'⟩ := runC_sync cfg hs ops s sy hfs

/-! ### (c) power-loss images of merge passes and of histories with merges -/

/-- **C09 (merge pass), general form.** `s` reachable by sets, deletes, merges and reopens; the
    selection consists of existing files, the iteration order covers the KeyDir; for every
    prefix `done` of the selection the files outside `done` do not resurrect an absent key
    (`done = []`: nothing absent is resurrectable in `s`; cf. `c03_merge_cut_prefixes_partial`);
    when the merge starts everything in the directory is durable (`sd0`; with `sync = always`
    this holds whenever an operation has returned, `c09_boundary_synced2`).
    The power fails after the calls `c` of the merge pass — ANY cut: between two calls or inside
    an append.  Every directory `I` the failure can leave (each data file and each hint file cut
    back independently to any length at or above its durable length, possibly leaving a partial
    entry) opens to a store satisfying the invariant that reads exactly as before the merge.
    The proof uses that a hint entry whose record is missing or incomplete does not fit inside
    the data file and is ignored by the scan (defect D5), that every output
    is fsynced before the first unlink (defect D4), and that sources are removed only then. -/
theorem c09_merge_durable_prefixes_partial (cfg : Cfg) (s : St) (h : Reach cfg s) (sel : List Nat)
    (order : List Key) (hsel : ∀ id, id ∈ sel → id ≤ s.active) (hcov : Covers order s)
    (hz : ∀ done, done <+: sel → NoHazard s done) (sd0 : SDisk2) (hd : sd0.disk = s.disk)
    (hfs : FullySynced2 sd0) (c : List Call) (hc : Cut (mergeWith cfg s sel order).2 c) (I : Disk)
    (hp : PowerLoss2 (syncCalls2 sd0 c) I) :
    (openDisk I).1.abs = s.abs ∧ Inv (openDisk I).1 :=
  have r := mergeWith_powerLoss_recovers cfg (reach_rinv h) sel order hsel hcov hz hd hfs hc hp
  ⟨r.2, r.1⟩

/-- **C09 (merge pass).** With the selection in ascending order it suffices that nothing absent
    is resurrectable in `s` and that the complete selection is hazard-free (defect D3). -/
theorem c09_merge_durable_partial (cfg : Cfg) (s : St) (h : Reach cfg s) (sel : List Nat) (order : List Key)
    (hsel : ∀ id, id ∈ sel → id ≤ s.active) (hcov : Covers order s) (hsorted : sel.Pairwise (· ≤ ·))
    (hf : Full s) (hz : NoHazard s sel) (sd0 : SDisk2) (hd : sd0.disk = s.disk) (hfs : FullySynced2 sd0)
    (c : List Call) (hc : Cut (mergeWith cfg s sel order).2 c) (I : Disk)
    (hp : PowerLoss2 (syncCalls2 sd0 c) I) :
    (openDisk I).1.abs = s.abs ∧ Inv (openDisk I).1 :=
  c09_merge_durable_prefixes_partial cfg s h sel order hsel hcov
    (fun _ hd => noHazard_prefix_of_sorted (reach_rinv h).asc hf hsorted hz hd) sd0 hd hfs c hc I hp

/-- **C09 (histories with merges).** `sync = always`; `s` reachable by sets, deletes, reads,
    reopens, hazard-free merges, and kills inside merge-free operations followed by recovery
    (`ReachM`), everything in its directory durable.  After the acknowledged operations `ops`
    (merge passes included) the power fails at ANY cut `c` of the next operation `op` (a merge
    pass included).  Every power-loss image `I` opens to a store that satisfies the invariant,
    never reads a bad location, contains every acknowledged operation, and `op` applied or not —
    applied if `op` had returned. -/
theorem c09_history_durable_partial (cfg : Cfg) (hs : cfg.syncAlways = true) (s : St) (h : ReachM cfg s)
    (sd0 : SDisk2) (hd : sd0.disk = s.disk) (hfs : FullySynced2 sd0) (ops : List TOp) (hv : ValidOps cfg s ops)
    (op : TOp) (hop : opOk (runC cfg s ops) op) (c : List Call) (hc : Cut (stepC cfg (runC cfg s ops) op).2 c)
    (I : Disk) (hp : PowerLoss2 (syncCalls2 sd0 (traceOf cfg s ops ++ c)) I) :
    ((openDisk I).1.abs = specRun s.abs ops ∨ (openDisk I).1.abs = specOp (specRun s.abs ops) op) ∧
    (c = (stepC cfg (runC cfg s ops) op).2 → (openDisk I).1.abs = specOp (specRun s.abs ops) op) ∧
    Inv (openDisk I).1 ∧ (∀ k, get (openDisk I).1 k ≠ .corrupt) := by
  obtain ⟨a, b⟩ := history_powerLoss2_recovers cfg hs (reachM_rinv h).1 (reachM_rinv h).2 hd hfs ops hv op hop hc hp
  have hi : Inv (openDisk I).1 := by rcases a with r | r <;> exact r.1
  refine ⟨?_, fun e => (b e).2, hi, fun k => get_not_corrupt hi k⟩
  rcases a with r | r
  · exact .inl r.2
  · exact .inr r.2

/-- **C09 (from a fresh store, merges included).** -/
theorem c09_history_durable_fresh_partial (cfg : Cfg) (hs : cfg.syncAlways = true) (ops : List TOp)
    (hv : ValidOps cfg fresh ops) (op : TOp) (hop : opOk (runC cfg fresh ops) op) (c : List Call)
    (hc : Cut (stepC cfg (runC cfg fresh ops) op).2 c) (I : Disk)
    (hp : PowerLoss2 (syncCalls2 ⟨fresh.disk, [], []⟩ (traceOf cfg fresh ops ++ c)) I) :
    ((openDisk I).1.abs = specRun Map.empty ops ∨ (openDisk I).1.abs = specOp (specRun Map.empty ops) op) ∧
    (c = (stepC cfg (runC cfg fresh ops) op).2 → (openDisk I).1.abs = specOp (specRun Map.empty ops) op) ∧
    Inv (openDisk I).1 := by
  have := c09_history_durable_partial cfg hs fresh .fresh ⟨fresh.disk, [], []⟩ rfl fullySynced2_fresh ops hv op hop
    c hc I hp
  rw [fresh_abs] at this
  exact ⟨this.1, this.2.1, this.2.2.1⟩

/-- with `sync = always` everything (data and hint files) is durable whenever an operation —
    merge passes included — has returned -/
theorem c09_boundary_synced2 (cfg : Cfg) (hs : cfg.syncAlways = true) (s : St) (h : ReachM cfg s) (sd0 : SDisk2)
    (hd : sd0.disk = s.disk) (hfs : FullySynced2 sd0) (ops : List TOp) (hv : ValidOps cfg s ops) :
    (syncCalls2 sd0 (traceOf cfg s ops)).disk = (runC cfg s ops).disk ∧
      FullySynced2 (syncCalls2 sd0 (traceOf cfg s ops)) :=
  runC_sync2 cfg hs ops sd0 hd hfs

/-
  What is left open here.  (1) Composition after a failure INSIDE a merge pass: the store recovered
  from such an image satisfies the store invariant and reads correctly (theorems above), but in
  general not `HintsExact` (an output data file may hold records its hint file does not list, or
  the hint file entries whose records are gone), so it is outside `ReachM` and the theorems above
  do not apply to its further lives; Props/C09Lives.lean covers them, with the lives invariant in
  place of `HintsExact` and a failure model in which a file that loses nothing keeps its length.
  (2) The hazard hypothesis (defect D3) is inherited from C05 / C03.  (3) The failure model
  itself (creations and removals persistent; a file loses only a suffix written after its last
  completed fsync; the partial entry left behind is shorter than the entry) is the property's.
-/

/-! ### non-vacuity -/

/-- a put with `sync = always` and rollover, the power failing between append and fsync: the
    image without the new record and the image with it are both possible -/
def c09Cfg : Cfg := { maxFile := 0, syncAlways := true }
def c09Cut : List Call := [.append ⟨.data, 0⟩ (.ofRec ⟨7, [1], some [10]⟩)]

example : Cut (stepC c09Cfg fresh (.put 7 [1] [10])).2 c09Cut :=
  .boundary _ [.fsync ⟨.data, 0⟩, .create ⟨.data, 1⟩] (by decide)

example : PowerLoss (syncCalls ⟨fresh.disk, []⟩ c09Cut) { data := [(0, [])], hint := [], tails := [(0, 13)] } :=
  ⟨fun _ => 0, [(0, 13)], by intro id; simp [syncedOf, syncCalls, syncCall, syncedAfter, c09Cut], rfl⟩

example : PowerLoss (syncCalls ⟨fresh.disk, []⟩ c09Cut)
    { data := [(0, [⟨7, [1], some [10]⟩])], hint := [], tails := [] } :=
  ⟨fun _ => 1, [], by intro id; simp [syncedOf, syncCalls, syncCall, syncedAfter, c09Cut], rfl⟩

/-- after the fsync the record is durable: every image keeps it -/
example : syncedOf (syncCalls ⟨fresh.disk, []⟩ (c09Cut ++ [.fsync ⟨.data, 0⟩])) 0 = 1 := by decide

example : FullySynced ⟨fresh.disk, []⟩ := fullySynced_fresh

/-- the monitor rejects a merge trace without the output fsyncs (defect D4) -/
example : syncedB [.create ⟨.data, 3⟩, .create ⟨.hint, 3⟩, .append ⟨.data, 3⟩ (.ofRec ⟨0, [1], some [10]⟩),
    .append ⟨.hint, 3⟩ (.ofHint ⟨0, 27, 0, [1]⟩), .unlink ⟨.data, 0⟩, .create ⟨.data, 4⟩] = false := by decide

/-! #### a merge pass: the hint entry survives the power failure, its record does not -/

def pCfg : Cfg := { maxFile := 0, syncAlways := true }
/-- file 0: `set [1] [10]`, file 1: `set [2] [20]`, file 2: active and empty -/
def pSt : St := (put pCfg (put pCfg fresh 0 [1] [10]).1 0 [2] [20]).1
/-- the merge of file 0 up to the hint append of the copied record (before the fsyncs) -/
def pCut : List Call :=
  [.create ⟨.data, 3⟩, .create ⟨.hint, 3⟩, .append ⟨.data, 3⟩ (.ofRec ⟨0, [1], some [10]⟩),
   .append ⟨.hint, 3⟩ (.ofHint ⟨0, 27, 0, [1]⟩)]
/-- an image: output data file 3 lost its record (5 bytes of it remain), hint file 3 kept its
    entry -/
def pImg : Disk :=
  { data := [(0, [⟨0, [1], some [10]⟩]), (1, [⟨0, [2], some [20]⟩]), (2, []), (3, [])],
    hint := [(3, [⟨0, 27, 0, [1]⟩])], tails := [(3, 5)] }

theorem pSd : syncCalls2 (allSynced2 pSt.disk) pCut =
    ⟨{ data := [(0, [⟨0, [1], some [10]⟩]), (1, [⟨0, [2], some [20]⟩]), (2, []), (3, [⟨0, [1], some [10]⟩])],
       hint := [(3, [⟨0, 27, 0, [1]⟩])], tails := [] }, [(0, 1), (1, 1), (2, 0), (3, 0)], [(3, 0)]⟩ := rfl

/-- the hypotheses of `c09_merge_durable_partial` hold in this instance -/
example : Reach pCfg pSt ∧ Full pSt ∧ NoHazard pSt [0] ∧ (∀ id, id ∈ [0] → id ≤ pSt.active) ∧
    Covers [[1], [2]] pSt ∧ [0].Pairwise (· ≤ ·) ∧ FullySynced2 (allSynced2 pSt.disk) ∧
    Cut (mergeWith pCfg pSt [0] [[1], [2]]).2 pCut :=
  have hr : ReachPD pCfg pSt := .put _ _ _ (.put _ _ _ .fresh)
  ⟨hr.toReach, (reachPD_rinv hr).2, noHazard_of_noStaleValue (by decide), by decide, by decide, by decide,
   fullySynced2_all _,
   .boundary _ [.fsync ⟨.data, 3⟩, .fsync ⟨.hint, 3⟩, .create ⟨.data, 4⟩, .create ⟨.hint, 4⟩, .fsync ⟨.data, 4⟩,
      .fsync ⟨.hint, 4⟩, .unlink ⟨.data, 0⟩, .create ⟨.data, 5⟩] (by decide)⟩

example : PowerLoss2 (syncCalls2 (allSynced2 pSt.disk) pCut) pImg := by
  rw [pSd]
  -- data file 3 is cut back to its durable length, hint file 3 keeps its undurable entry
  exact ⟨fun id => if id = 3 then 0 else 1, fun _ => 1, [(3, 5)], SDisk2.dOf_le (by decide),
    SDisk2.hOf_le (by decide), tailOk_of_files (by decide), rfl⟩

/-- and the image opens to the contents before the merge (the dangling hint entry is ignored) -/
example : (openDisk pImg).1.abs [1] = some [10] ∧ (openDisk pImg).1.abs [2] = some [20] := by
  rw [openDisk_eq_with (by decide)]
  decide

end Store
