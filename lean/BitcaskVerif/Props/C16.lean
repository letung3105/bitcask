/-
  C16 — graceful shutdown terminates, keeps acknowledged data, and tears no reply.
-/
import BitcaskVerif.Conc.Shutdown

namespace Shutdown

/-- reachability by the handler's own steps and by the environment (the server signalling, the
    client delivering more complete frames) -/
inductive Reach : St → Prop where
  | init (frames : Nat) : Reach { frames := frames }
  | own {s s' : St} (len chunk : Nat) : Reach s → s' ∈ own s len chunk → Reach s'
  | signal {s : St} : Reach s → Reach { s with signalled := true }
  | deliver {s : St} (n : Nat) : Reach s → Reach { s with frames := s.frames + n }

theorem reach_inv {s : St} (h : Reach s) : Inv s := by
  induction h with
  | init f => exact ⟨rfl, Nat.le_refl 0⟩
  | own len chunk _ hm ih => exact own_inv ih hm
  | signal _ ih => exact ih
  | deliver n _ ih => exact ih

/-- whenever a handler is not inside `write_frame`, the bytes it has sent are exactly whole replies -/
theorem c16_no_tear_between {s : St} (h : Reach s) (hd : ∀ r, s.phase ≠ .writing r) : s.partialSent = 0 := by
  have := reach_inv h
  unfold Inv at this
  split at this
  · exact absurd ‹_› (hd _)
  · exact this.1

/-- **C16 (no reply is torn).** A handler ends only between replies: whenever it is not inside
    `write_frame`, in particular when it is `done`, the bytes it has sent are exactly whole replies. -/
theorem c16_no_tear {s : St} (h : Reach s) (hd : s.phase = .done) : s.partialSent = 0 :=
  c16_no_tear_between h (fun _ hr => Phase.noConfusion (hd.symm.trans hr))

/-- **C16 (every reply a client received is reflected in the store).** A reply is sent only after
    its store operation has returned; even a reply still being written belongs to an operation that
    already returned. -/
theorem c16_acked {s : St} (h : Reach s) : s.replied ≤ s.applied := by
  have := reach_inv h
  unfold Inv at this
  split at this
  · exact Nat.le_of_succ_le this
  · exact this.2

theorem c16_acked_in_flight {s : St} (h : Reach s) (r : Nat) (hw : s.phase = .writing r) :
    s.replied + 1 ≤ s.applied := by
  have := reach_inv h
  unfold Inv at this
  rw [hw] at this
  exact this

/-- **C16 (termination).** After the signal a handler that is not done can always take a step of
    its own (it never waits for the client), and every such step brings it strictly closer to
    `done`: with replies of at most `maxReply` bytes it is done after at most
    `frames·(maxReply+7) + maxReply + 5` steps, whatever the client does not do. -/
theorem c16_progress (s : St) (len chunk : Nat) (hsig : s.signalled = true) (hne : s.phase ≠ .done) :
    own s len chunk ≠ [] := by
  unfold own
  split
  · split <;> exact List.cons_ne_nil _ _
  · rw [if_pos hsig]; exact List.append_ne_nil_of_right_ne_nil _ (List.cons_ne_nil _ _)
  · exact List.cons_ne_nil _ _
  · dsimp only; split <;> exact List.cons_ne_nil _ _
  · exact absurd ‹_› hne

theorem c16_terminates {s s' : St} {len chunk maxReply : Nat} (hsig : s.signalled = true)
    (hlen : len ≤ maxReply) (hw : ∀ r, s.phase = .writing r → r ≤ maxReply + 1)
    (h : s' ∈ own s len chunk) : s'.signalled = true ∧ dist maxReply s' < dist maxReply s :=
  own_dist hsig hlen h

/-- the writing bound used above is itself an invariant of runs whose replies are ≤ maxReply -/
theorem writing_bound {s s' : St} {len chunk maxReply : Nat} (hlen : len ≤ maxReply)
    (hw : ∀ r, s.phase = .writing r → r ≤ maxReply + 1) (h : s' ∈ own s len chunk) :
    ∀ r, s'.phase = .writing r → r ≤ maxReply + 1 := by
  intro r hr
  cases mem_own h with
  | leave | select | take | notice | sendLast => cases hr
  | apply => cases hr; exact Nat.succ_le_succ hlen
  | send rem hp _ => cases hr; exact Nat.le_trans (Nat.sub_le _ _) (hw rem hp)

/-- the distance is 0 exactly at `done` -/
theorem c16_done_iff (maxReply : Nat) (s : St) (h : dist maxReply s = 0) : s.phase = .done := by
  have h := Nat.eq_zero_of_add_eq_zero_left h
  revert h
  cases s.phase with
  | done => exact fun _ => rfl
  | top => cases s.seen <;> nofun
  | _ => nofun

/-! non-vacuity: a handler blocked in a store call when the signal fires still finishes its
    command, sends the whole 5-byte reply and only then leaves -/
example : ({ signalled := true, phase := .writing 6, applied := 1 } : St) ∈
    own { signalled := true, phase := .executing } 5 0 := by decide
example : ({ signalled := true, phase := .top, applied := 1, replied := 1, partialSent := 0 } : St) ∈
    own { signalled := true, phase := .writing 2, applied := 1, partialSent := 4 } 5 9 := by decide

end Shutdown
