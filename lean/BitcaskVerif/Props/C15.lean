/-
  C15 — the connection limit holds and slots are never leaked.
  Theorems over the `ConnLimit` transition system, for every sequence of connections opening and
  ending in every way (clean close, protocol error, handler panic, server-side close), in any overlap.
-/
import BitcaskVerif.Conc.ConnLimit
import BitcaskVerif.Conc.AcceptBackoff

namespace ConnLimit

/-- **C15 (accounting).** In every reachable state each of the `max` permits is free, held by the
    listener waiting in `accept`, or owned by exactly one running handler. -/
theorem c15_inv (max : Nat) (es : List Ev) (s : St) (h : run (init max) es = some s) :
    s.permits + s.handlers.length + (if s.holding then 1 else 0) = max :=
  (run_inv (max := max) es ⟨rfl, rfl⟩ h).2

/-- **C15 (bound).** At no time are more than `max` connections being served. -/
theorem c15_bound (max : Nat) (es : List Ev) (s : St) (h : run (init max) es = some s) :
    s.handlers.length ≤ max :=
  Nat.le_trans (Nat.le_trans (Nat.le_add_left _ _) (Nat.le_add_right _ _)) (Nat.le_of_eq (c15_inv max es s h))

/-- **C15 (no leak).** Whenever every handler has ended — whatever the causes were — all `max`
    permits are available again (free, or already taken by the listener for the next accept). -/
theorem c15_no_leak (max : Nat) (es : List Ev) (s : St) (h : run (init max) es = some s)
    (hnone : s.handlers = []) : s.permits + (if s.holding then 1 else 0) = max := by
  have := c15_inv max es s h
  rwa [hnone] at this

/-- **C15 (the freed slots are usable).** While fewer than `max` connections are served and a
    client is waiting, the listener can make a step (take a permit, or accept): a waiting client
    is never locked out by connections that came and went earlier. -/
theorem c15_progress (max : Nat) (es : List Ev) (s : St) (h : run (init max) es = some s)
    (hlt : s.handlers.length < max) (hp : s.pending ≠ []) :
    (step s .acquire).isSome ∨ (step s .accept).isSome := by
  have hi := c15_inv max es s h
  cases hh : s.holding with
  | true => exact .inr (step_accept_isSome hh hp)
  | false =>
    -- no permit is with the listener, fewer than `max` with handlers: one is free
    rw [hh] at hi
    exact .inl (step_acquire_isSome hh (by simp only [Bool.false_eq_true, if_false] at hi; omega))

/-- the cause with which a handler ends is irrelevant to the accounting: every `finish` returns
    exactly one permit -/
theorem c15_finish_any_cause (s : St) (c : Nat) (w w' : Cause) :
    step s (.finish c w) = step s (.finish c w') := rfl

/-- **C15 (a failed accept costs nothing).** A failing accept(2) call — with or without the loss of the
    connection that was waiting — changes neither the free permits, nor the permit the listener holds, nor the
    connections being served: the retry runs on the permit taken before the first attempt. -/
theorem c15_accept_failure_free (s s' : St) (gone : Bool) (h : step s (.acceptFail gone) = some s') :
    s'.permits = s.permits ∧ s'.holding = s.holding ∧ s'.handlers = s.handlers ∧ s'.max = s.max := by
  cases step_eq_some h <;> exact ⟨rfl, rfl, rfl, rfl⟩

/-- ... so after any number of failed attempts the listener can still accept on that permit -/
theorem c15_accept_after_failures (s : St) (n : Nat) (s' : St)
    (h : run s (List.replicate n (.acceptFail false)) = some s') (hp : s.pending ≠ []) (hn : 0 < n) :
    (step s' .accept).isSome := by
  obtain ⟨rfl, hh⟩ := run_acceptFail_false h
  exact step_accept_isSome (hh hn) hp

/-! ### non-vacuity: three clients, limit 2 — two served, the third only after one of them ends
    (here: by a handler panic) -/

def demo : List Ev :=
  [.connect 1, .connect 2, .connect 3, .acquire, .accept, .acquire, .accept,
   .finish 1 .panic, .acquire, .accept]

example : (run (init 2) demo).map (·.handlers) = some [2, 3] := by decide
example : (run (init 2) (demo.take 7)).map (fun s => (s.handlers, s.pending, s.permits)) = some ([1, 2], [3], 0) := by decide
/-- with no permit left the listener cannot accept the third client -/
example : ((run (init 2) (demo.take 7)).bind (step · .acquire)) = none := by decide

/-- limit 2, the first accept fails three times: both clients are served all the same, a third one waits -/
example : (run (init 2) [.connect 1, .acquire, .acceptFail false, .acceptFail false, .acceptFail false, .accept,
    .connect 2, .acquire, .accept, .connect 3]).map (fun s => (s.handlers, s.pending, s.permits)) = some ([1, 2], [3], 0) := by decide

end ConnLimit

namespace AcceptBackoff

/-- **C15 (transient accept failures do not end the listener).** `k` failing accept(2) calls in a row, the last of
    which still finds the back-off `min·2^(k-1)` at or below the maximum, followed by a connection: the call of
    `Listener::accept` returns that connection after `k + 1` calls and `min·(2^k − 1)` ms of sleep (no `u64` wrap:
    `min·2^k < 2^64`). Every call of `Listener::accept` starts again from `min`, so this holds for every later burst. -/
theorem c15_backoff_survives (min max k : Nat) (rest : List Bool)
    (hw : min * 2 ^ k < 2 ^ 64) (hm : k = 0 ∨ min * 2 ^ (k - 1) ≤ max) :
    accept min max (List.replicate k false ++ true :: rest) = (.accepted, k + 1, min * (2 ^ k - 1)) :=
  loop_fails hw (le_max_of_last hm) (loop_true max _ rest)

/-- **C15 (the listener gives up exactly when the back-off has passed the maximum).** After `k` survived failures the
    `(k+1)`-th failure in a row ends the listener iff it finds `min·2^k > max`. -/
theorem c15_backoff_gives_up (min max k : Nat) (rest : List Bool)
    (hw : min * 2 ^ k < 2 ^ 64) (hm : k = 0 ∨ min * 2 ^ (k - 1) ≤ max) (hg : max < min * 2 ^ k) :
    accept min max (List.replicate k false ++ false :: rest) = (.gaveUp, k + 1, min * (2 ^ k - 1)) :=
  loop_fails hw (le_max_of_last hm) (loop_false_gt hg rest)

/-- **C15 (edge: `min_backoff_ms = 0`).** The back-off never grows: the listener retries for ever without sleeping and
    never gives up, whatever the maximum. -/
theorem c15_backoff_zero_min (max k : Nat) :
    accept 0 max (List.replicate k false) = (.waiting, k, 0) := by
  unfold accept
  simpa using loop_fails (max := max) (b := 0) (k := k) (by simp) (by simp) (loop_nil max _)

/-- **C15 (only a run of failures ends the listener).** For every sequence of accept(2) outcomes and every configuration:
    if a call of `Listener::accept` gives up, every accept(2) call it made had failed — one connection in between ends the
    call successfully, and the next call starts again from `min`. -/
theorem c15_backoff_gives_up_only_on_failures (min max : Nat) (outs : List Bool)
    (h : (accept min max outs).1 = .gaveUp) :
    (accept min max outs).2.1 ≤ outs.length ∧
      outs.take (accept min max outs).2.1 = List.replicate (accept min max outs).2.1 false := by
  unfold accept at h ⊢
  induction outs generalizing min with
  | nil => exact nomatch h
  | cons x rest ih =>
    cases x with
    | true => exact nomatch h
    | false =>
      by_cases hb : max < min
      · rw [loop_false_gt hb]
        exact ⟨Nat.succ_le_succ (Nat.zero_le _), rfl⟩
      · rw [loop_false_le (Nat.le_of_not_lt hb) rfl] at h ⊢
        have ih := ih (shl1 min) h
        exact ⟨Nat.succ_le_succ ih.1, by rw [List.take_succ_cons, List.replicate_succ, ih.2]⟩

-- non-vacuity / the two configurations that occur: the harness's server (10 ms, 100 ms) and the defaults of
-- `net::Config` (500 ms, 64 s)
example : accept 10 100 (List.replicate 4 false ++ [true]) = (.accepted, 5, 150) := by decide
example : accept 10 100 (List.replicate 5 false ++ [true]) = (.gaveUp, 5, 150) := by decide
example : accept 500 64000 (List.replicate 8 false ++ [true]) = (.accepted, 9, 127500) := by decide
example : accept 500 64000 (List.replicate 9 false) = (.gaveUp, 9, 127500) := by decide
/-- a wrap of the `u64`: from 2^63 the doubled back-off is 0, and the listener never gives up afterwards -/
example : accept (2 ^ 63) (2 ^ 63) (List.replicate 6 false) = (.waiting, 6, 2 ^ 63) := by decide

end AcceptBackoff
