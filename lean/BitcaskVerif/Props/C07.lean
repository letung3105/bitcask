/-
  C07 — the RESP parser is total: no input panics, aborts or mis-reads a number.

  Property theorems only (helper lemmas live in Resp/*Lemmas.lean). The model
  (`Resp/Model.lean`) has an explicit `panic` outcome at every index, `advance`, overflow and
  underflow site of `src/net/frame.rs`, so the statements below are about the Rust failure
  modes and are not artefacts of Lean's totality.
-/
import BitcaskVerif.Resp.ParseLemmas

namespace Resp

def digitsValue (ds : List UInt8) : Nat := ds.foldl (fun acc d => acc * 10 + dvalN d) 0

theorem decNat_eq_digitsValue (buf : Buf) (i n : Nat) :
    decNat buf i n = digitsValue ((List.range n).map fun j => buf[i+j]!) := by
  induction n with
  | zero => simp [decNat, digitsValue]
  | succ n ih =>
    simp only [decNat, ih, digitsValue, List.range_succ, List.map_append, List.foldl_append,
      List.map_cons, List.map_nil, List.foldl_cons, List.foldl_nil]

/-- **C07 (totality of the completeness check).** For every byte string, `Frame::check` returns
    a length, `Incomplete` or an error — never a panic (index out of bounds, `advance` past the
    end, arithmetic overflow, `usize` underflow), and the recursion's fuel never runs out. -/
theorem c07_check_total (buf : Buf) :
    (∃ n, check buf = .ok n) ∨ check buf = .incomplete ∨ (∃ e, check buf = .err e) :=
  Out.cases_of_ne_panic (check_no_panic buf)

/-- **C07 (totality of parsing)**, for `Frame::parse` called on its own on any bytes
    (not only behind `check`). -/
theorem c07_parse_total (buf : Buf) :
    (∃ f n, parse buf = .ok (f, n)) ∨ parse buf = .incomplete ∨ (∃ e, parse buf = .err e) :=
  (Out.cases_of_ne_panic (parse_no_panic buf)).imp_left fun ⟨r, h⟩ => ⟨r.1, r.2, h⟩

/-- what `Connection::parse_frame` (check, parse from 0, advance by the checked length) does
    with any buffer never panics — in particular the final `advance(len)` stays inside it -/
theorem c07_parse_frame_total (buf : Buf) : parseFrame buf ≠ .panic := parseFrame_no_panic buf

/-- **C07 (whenever the check accepts n bytes, parsing does not succeed with another length).** -/
theorem c07_check_parse_len (buf : Buf) (n m : Nat) (f : Frame)
    (hc : check buf = .ok n) (hp : parse buf = .ok (f, m)) : m = n := by
  have := parse_ok_check buf f m hp
  rw [hc] at this
  simp only [Out.ok.injEq] at this
  exact this.symm

/-- the accepted length is positive and inside the buffer (so `advance(len)` is safe and every
    accepted frame makes progress) -/
theorem c07_check_len_bounds (buf : Buf) (n : Nat) (h : check buf = .ok n) : 0 < n ∧ n ≤ buf.size :=
  check_ok_bounds buf n h

/-- **C07 (every accepted decimal has exactly the value written, at every buffer offset).**
    If `get_integer` at cursor `pos` returns `v` and moves the cursor to `p'`, then the bytes
    between the optional sign and `p' - 2` are all ASCII digits (at least one), the byte at
    `p' - 2` is CR, `v` is the signed decimal value of exactly those digits, and `v` fits `i64`. -/
theorem c07_int_exact (buf : Buf) (pos : Nat) (v : Int) (p' : Nat)
    (h : getInteger buf pos = .ok (v, p')) :
    pos < buf.size ∧ p' ≤ buf.size ∧
    ∃ ndigits, 0 < ndigits ∧ p' = (signInfo buf pos).2 + ndigits + 2
      ∧ (∀ j, j < ndigits → isDigit (buf[(signInfo buf pos).2 + j]!) = true)
      ∧ buf[p' - 2]! = 13
      ∧ v = sgn (signInfo buf pos).1 *
            (digitsValue ((List.range ndigits).map fun j => buf[(signInfo buf pos).2 + j]!) : Int)
      ∧ I64Min ≤ v ∧ v ≤ I64Max := by
  obtain ⟨hp, idx, h1, h2, h3, h4, h5, h6, h7⟩ := getInteger_exact buf pos v p' h
  refine ⟨hp, h3, idx - (signInfo buf pos).2, Nat.sub_pos_of_lt h1, ?_, h4, ?_, ?_, (inI64_iff v).mp h7⟩
  · rw [Nat.add_sub_cancel' (Nat.le_of_lt h1)]; exact h2
  · rw [h2, Nat.add_sub_cancel]; exact h5
  · rw [← decNat_eq_digitsValue]; exact h6

/-- **C07 (out-of-range numbers are rejected).** A well-terminated digit string whose signed
    value does not fit `i64` yields `NotInteger`, never a wrapped value. -/
theorem c07_int_reject (buf : Buf) (pos : Nat) (hp : pos < buf.size) (ndigits : Nat) (hn : 0 < ndigits)
    (hfit : (signInfo buf pos).2 + ndigits < buf.size - 1)
    (hd : ∀ j, j < ndigits → isDigit (buf[(signInfo buf pos).2 + j]!) = true)
    (hcr : buf[(signInfo buf pos).2 + ndigits]! = 13)
    (hout : ¬ (I64Min ≤ sgn (signInfo buf pos).1 *
              (digitsValue ((List.range ndigits).map fun j => buf[(signInfo buf pos).2 + j]!) : Int)
            ∧ sgn (signInfo buf pos).1 *
              (digitsValue ((List.range ndigits).map fun j => buf[(signInfo buf pos).2 + j]!) : Int) ≤ I64Max)) :
    getInteger buf pos = .err .notInteger := by
  apply getInteger_reject buf pos hp ((signInfo buf pos).2 + ndigits) (Nat.lt_add_of_pos_right hn) hfit
  · rw [Nat.add_sub_cancel_left]; exact hd
  · exact hcr
  · rw [Nat.add_sub_cancel_left, decNat_eq_digitsValue]
    exact Bool.eq_false_iff.mpr fun h => hout ((inI64_iff _).mp h)

/-- the integer reader itself never panics, at any cursor of any buffer -/
theorem c07_int_total (buf : Buf) (pos : Nat) : getInteger buf pos ≠ .panic :=
  getInteger_no_panic buf pos

/-! ### non-vacuity: the hypotheses above are met by concrete inputs -/

/-- `":1\r\n"`: the integer reader accepts at cursor 1 with value 1 -/
example : getInteger #[58, 49, 13, 10] 1 = .ok (1, 4) := by decide +kernel

end Resp
