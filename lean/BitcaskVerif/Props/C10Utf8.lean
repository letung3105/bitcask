/-
  C10 (supplement) — what the model's UTF-8 validator accepts.

  `Resp.validUtf8` (Resp/Model.lean) models Rust's `std::str::from_utf8(..).is_ok()`; the server uses it
  to refuse keys that are not UTF-8. The theorems below say exactly which byte strings it accepts:
  the encodings of sequences of Unicode scalar values, and nothing else.

  Definitions (Resp/Utf8Spec.lean):
    `isScalar c`  — `c < 0xD800 ∨ (0xE000 ≤ c ∧ c < 0x110000)`, the Unicode scalar values;
    `encodeCp c`  — the UTF-8 encoding form of a code point (Unicode Standard Table 3-6), written with
                    natural-number division and remainder.
-/
import BitcaskVerif.Resp.Utf8Spec

namespace Resp

/-- **Every encoding of scalar values is accepted.** Take any list of Unicode scalar values, encode
    each one in UTF-8 and concatenate: the validator accepts the result. -/
theorem validUtf8_complete (cs : List Nat) (h : ∀ c ∈ cs, isScalar c) :
    validUtf8 (cs.flatMap encodeCp) = true := by
  have := valid_flatMap_append cs h []
  rw [List.append_nil] at this
  rw [this]; rfl

/-- the hypothesis of `validUtf8_complete` holds for "k", "é", "日", "😀" -/
example : ∀ c ∈ [0x6B, 0xE9, 0x65E5, 0x1F600], isScalar c := by decide

/-- **One step of decoding.** An accepted non-empty byte string begins with the encoding of one scalar
    value, and the bytes after that encoding are accepted in their turn. -/
theorem validUtf8_cons_decode (b : UInt8) (rest : List UInt8) (h : validUtf8 (b :: rest) = true) :
    ∃ c r, isScalar c ∧ b :: rest = encodeCp c ++ r ∧ validUtf8 r = true := by
  rcases valid_cons_cases h with ⟨h0, hr⟩ | ⟨h0, b1, r, rfl, h1, hr⟩ | ⟨h0, b1, b2, r, rfl, h1, h2, hr⟩ |
    ⟨h0, b1, b2, b3, r, rfl, h1, h2, h3, hr⟩
  · obtain ⟨c, hs, he⟩ := sound_head1 b h0
    exact ⟨c, rest, hs, by rw [he]; rfl, hr⟩
  · obtain ⟨c, hs, he⟩ := sound_head2 b b1 h0 h1
    exact ⟨c, r, hs, by rw [he]; rfl, hr⟩
  · obtain ⟨c, hs, he⟩ := sound_head3 b b1 b2 h0 h1 h2
    exact ⟨c, r, hs, by rw [he]; rfl, hr⟩
  · obtain ⟨c, hs, he⟩ := sound_head4 b b1 b2 b3 h0 h1 h2 h3
    exact ⟨c, r, hs, by rw [he]; rfl, hr⟩

example : validUtf8 (0xE6 :: [0x97, 0xA5, 0x6B]) = true := by decide

/-- **Nothing else is accepted.** A byte string the validator accepts IS the concatenation of the
    UTF-8 encodings of some list of Unicode scalar values. Hence an accepted string contains no lone
    continuation byte, no byte 0xC0, 0xC1 or 0xF5..0xFF, no truncated sequence, no overlong form, no
    encoded surrogate and nothing above U+10FFFF — none of those is produced by `encodeCp` on a
    scalar value. -/
theorem validUtf8_sound (bs : List UInt8) (h : validUtf8 bs = true) :
    ∃ cs : List Nat, (∀ c ∈ cs, isScalar c) ∧ bs = cs.flatMap encodeCp := by
  -- by induction on the length: `encodeCp c` is not empty, so what one step leaves is shorter
  induction hn : bs.length using Nat.strongRecOn generalizing bs with
  | _ n ih =>
    cases bs with
    | nil => exact ⟨[], fun _ hc => absurd hc List.not_mem_nil, rfl⟩
    | cons b rest =>
      obtain ⟨c, r, hs, he, hr⟩ := validUtf8_cons_decode b rest h
      have hlt : r.length < n := by
        rw [← hn, he, List.length_append]
        exact Nat.lt_add_of_pos_left (List.length_pos_iff.2 (encodeCp_ne_nil c))
      obtain ⟨cs, hcs, rfl⟩ := ih _ hlt r hr rfl
      exact ⟨c :: cs, List.forall_mem_cons.2 ⟨hs, hcs⟩, he⟩

/-- the hypothesis of `validUtf8_sound` holds for the six bytes of "ké日" -/
example : validUtf8 [0x6B, 0xC3, 0xA9, 0xE6, 0x97, 0xA5] = true := by decide

/-- **Exact characterisation**: accepted ⇔ is the encoding of a list of scalar values. -/
theorem validUtf8_iff (bs : List UInt8) :
    validUtf8 bs = true ↔ ∃ cs : List Nat, (∀ c ∈ cs, isScalar c) ∧ bs = cs.flatMap encodeCp := by
  constructor
  · exact validUtf8_sound bs
  · rintro ⟨cs, hcs, rfl⟩
    exact validUtf8_complete cs hcs

/-- **First byte.** The first byte of an accepted string is ASCII or lies in 0xC2..0xF4: never a
    continuation byte (0x80..0xBF), never 0xC0 or 0xC1, never 0xF5..0xFF. -/
theorem validUtf8_first_byte (b : UInt8) (rest : List UInt8) (h : validUtf8 (b :: rest) = true) :
    b ≤ 0x7F ∨ (0xC2 ≤ b ∧ b ≤ 0xF4) := by
  apply Decidable.byContradiction
  intro hn
  rw [valid_lead_none (fun h1 => hn (Or.inl h1)) (fun h2 => hn (Or.inr h2))] at h
  exact absurd h Bool.false_ne_true

example : validUtf8 (0xC3 :: [0xA9]) = true := by decide

/-- **A valid prefix can be stripped.** After an accepted string, the whole is accepted exactly when
    the remainder is (so a key cannot be made acceptable, or unacceptable, by a valid prefix). -/
theorem validUtf8_append_iff (a b : List UInt8) (ha : validUtf8 a = true) :
    validUtf8 (a ++ b) = validUtf8 b := by
  obtain ⟨cs, hcs, rfl⟩ := validUtf8_sound a ha
  exact valid_flatMap_append cs hcs b

example : validUtf8 [0xF0, 0x9F, 0x98, 0x80] = true := by decide

/-- **Accepted strings are closed under concatenation.** -/
theorem validUtf8_append (a b : List UInt8) (ha : validUtf8 a = true) (hb : validUtf8 b = true) :
    validUtf8 (a ++ b) = true := by
  rw [validUtf8_append_iff a b ha, hb]

example : validUtf8 [0xC3, 0xA9] = true ∧ validUtf8 [0xE6, 0x97, 0xA5] = true := by decide

/-- **ASCII is accepted.** Every string of bytes ≤ 0x7F is accepted. -/
theorem validUtf8_ascii (bs : List UInt8) (h : ∀ b ∈ bs, b ≤ 0x7F) : validUtf8 bs = true := by
  induction bs with
  | nil => rfl
  | cons b r ih =>
    rw [valid_lead1 (h b (by simp)) r]
    exact ih (fun x hx => h x (by simp [hx]))

example : ∀ b ∈ ([0x6B, 0x65, 0x79, 0x00, 0x7F] : List UInt8), b ≤ 0x7F := by decide

/-- **One-byte strings.** A string of a single byte is accepted exactly when that byte is ASCII: a
    lone lead byte, a lone continuation byte and every byte ≥ 0x80 on its own are refused. -/
theorem validUtf8_singleton (b : UInt8) : validUtf8 [b] = true ↔ b ≤ 0x7F := by
  constructor
  · intro h
    rcases valid_cons_cases h with ⟨h0, _⟩ | ⟨_, _, _, e, _⟩ | ⟨_, _, _, _, e, _⟩ |
      ⟨_, _, _, _, _, e, _⟩
    · exact h0
    all_goals exact nomatch e
  · intro h
    rw [valid_lead1 h]
    rfl

/-- a lone continuation byte is refused -/
theorem reject_lone_cont_80 : validUtf8 [0x80] = false := by decide
/-- a lone continuation byte is refused -/
theorem reject_lone_cont_BF : validUtf8 [0xBF] = false := by decide
/-- the overlong two-byte form of U+0000 is refused -/
theorem reject_overlong2 : validUtf8 [0xC0, 0x80] = false := by decide
/-- the overlong three-byte form of U+0000 is refused -/
theorem reject_overlong3 : validUtf8 [0xE0, 0x80, 0x80] = false := by decide
/-- the overlong four-byte form of U+0000 is refused -/
theorem reject_overlong4 : validUtf8 [0xF0, 0x80, 0x80, 0x80] = false := by decide
/-- the encoded surrogate U+D800 is refused -/
theorem reject_surrogate : validUtf8 [0xED, 0xA0, 0x80] = false := by decide
/-- U+110000, the first value above the Unicode range, is refused -/
theorem reject_above_max : validUtf8 [0xF4, 0x90, 0x80, 0x80] = false := by decide
/-- bytes 0xF5..0xFF never appear -/
theorem reject_F5_FF : validUtf8 [0xF5, 0x80, 0x80, 0x80] = false ∧ validUtf8 [0xFF] = false := by decide
/-- an ASCII byte followed by a continuation byte is refused -/
theorem reject_k_cont : validUtf8 [0x6B, 0x80] = false := by decide
/-- truncated two-, three- and four-byte sequences are refused -/
theorem reject_truncated :
    validUtf8 [0xC3] = false ∧ validUtf8 [0xE6, 0x97] = false ∧ validUtf8 [0xF0, 0x9F, 0x98] = false := by
  decide

/-- "é" = U+00E9 encodes to C3 A9 and is accepted -/
theorem accept_e_acute : encodeCp 0xE9 = [0xC3, 0xA9] ∧ validUtf8 [0xC3, 0xA9] = true := by decide
/-- "日" = U+65E5 encodes to E6 97 A5 and is accepted -/
theorem accept_nichi : encodeCp 0x65E5 = [0xE6, 0x97, 0xA5] ∧ validUtf8 [0xE6, 0x97, 0xA5] = true := by decide
/-- "😀" = U+1F600 encodes to F0 9F 98 80 and is accepted -/
theorem accept_grinning :
    encodeCp 0x1F600 = [0xF0, 0x9F, 0x98, 0x80] ∧ validUtf8 [0xF0, 0x9F, 0x98, 0x80] = true := by decide
/-- the extreme scalar values U+0000, U+007F, U+0080, U+07FF, U+0800, U+D7FF, U+E000, U+FFFF, U+10000,
    U+10FFFF encode to the expected bytes -/
theorem encodeCp_extremes :
    encodeCp 0 = [0x00] ∧ encodeCp 0x7F = [0x7F] ∧ encodeCp 0x80 = [0xC2, 0x80] ∧
    encodeCp 0x7FF = [0xDF, 0xBF] ∧ encodeCp 0x800 = [0xE0, 0xA0, 0x80] ∧
    encodeCp 0xD7FF = [0xED, 0x9F, 0xBF] ∧ encodeCp 0xE000 = [0xEE, 0x80, 0x80] ∧
    encodeCp 0xFFFF = [0xEF, 0xBF, 0xBF] ∧ encodeCp 0x10000 = [0xF0, 0x90, 0x80, 0x80] ∧
    encodeCp 0x10FFFF = [0xF4, 0x8F, 0xBF, 0xBF] := by decide

/-- `isScalar` is Lean's own validity condition for `Char`. -/
theorem isScalar_iff_validChar (n : Nat) : isScalar n ↔ n.isValidChar := by
  unfold isScalar Nat.isValidChar; omega

/-- **`encodeCp` is Lean's encoder on characters.** -/
theorem encodeCp_char (c : Char) : encodeCp c.toNat = String.utf8EncodeChar c := by
  have hv : c.toNat < 262144 * 8 :=
    Nat.lt_trans (c.valid.elim (fun h => Nat.lt_trans h (by decide)) (fun h => h.2)) (by decide)
  unfold encodeCp String.utf8EncodeChar
  simp only [Char.toNat] at hv ⊢
  generalize c.val.toNat = v at hv ⊢
  -- Lean's encoder masks the payload of the lead byte (`% 32`, `% 16`, `% 8`); in each range the
  -- mask changes nothing
  by_cases h1 : v < 0x80
  · rw [if_pos h1, if_pos (Nat.le_of_lt_succ h1)]
  rw [if_neg h1, if_neg (fun h => h1 (Nat.lt_succ_of_le h))]
  by_cases h2 : v < 64 * 32
  · rw [if_pos h2, if_pos (Nat.le_of_lt_succ h2), Nat.mod_eq_of_lt (Nat.div_lt_of_lt_mul h2)]
    simp only [Nat.add_comm]
  rw [if_neg h2, if_neg (fun h => h2 (Nat.lt_succ_of_le h))]
  by_cases h3 : v < 4096 * 16
  · rw [if_pos h3, if_pos (Nat.le_of_lt_succ h3), Nat.mod_eq_of_lt (Nat.div_lt_of_lt_mul h3)]
    simp only [Nat.add_comm]
  rw [if_neg h3, if_neg (fun h => h3 (Nat.lt_succ_of_le h)), Nat.mod_eq_of_lt (Nat.div_lt_of_lt_mul hv)]
  simp only [Nat.add_comm]

theorem flatMap_encodeCp_chars (l : List Char) :
    (l.map Char.toNat).flatMap encodeCp = l.flatMap String.utf8EncodeChar := by
  induction l with
  | nil => rfl
  | cons c l ih => simp only [List.map_cons, List.flatMap_cons, ih, encodeCp_char]

theorem toUTF8_data (s : String) :
    s.toUTF8.data.toList = (s.toList.map Char.toNat).flatMap encodeCp := by
  rw [flatMap_encodeCp_chars, String.toUTF8_eq_toByteArray, ← String.ofList_toList (s := s),
    String.toByteArray_ofList, String.toList_ofList, List.utf8Encode, List.data_toByteArray]

theorem scalars_are_chars (cs : List Nat) (h : ∀ c ∈ cs, isScalar c) :
    ∃ l : List Char, l.map Char.toNat = cs := by
  induction cs with
  | nil => exact ⟨[], rfl⟩
  | cons c cs ih =>
    obtain ⟨l, hl⟩ := ih (fun x hx => h x (by simp [hx]))
    refine ⟨Char.ofNatAux c ((isScalar_iff_validChar c).1 (h c (by simp))) :: l, ?_⟩
    rw [List.map_cons, hl]
    congr 1

/-- The UTF-8 bytes of a one-character `String` are `encodeCp` of its code point. -/
theorem encodeCp_singleton (c : Char) : (String.singleton c).toUTF8.data.toList = encodeCp c.toNat := by
  rw [toUTF8_data]; simp

/-- **Every Lean `String` is accepted**: the UTF-8 bytes of any `String` pass the validator. -/
theorem validUtf8_string (s : String) : validUtf8 s.toUTF8.data.toList = true := by
  rw [toUTF8_data]
  apply validUtf8_complete
  intro c hc
  obtain ⟨ch, _, rfl⟩ := List.mem_map.1 hc
  exact (isScalar_iff_validChar _).2 ch.valid

/-- **Every accepted byte string is a Lean `String`**: it is the UTF-8 bytes of some `String`. -/
theorem validUtf8_is_string (bs : List UInt8) (h : validUtf8 bs = true) :
    ∃ s : String, s.toUTF8.data.toList = bs := by
  obtain ⟨cs, hcs, rfl⟩ := validUtf8_sound bs h
  obtain ⟨l, rfl⟩ := scalars_are_chars cs hcs
  exact ⟨String.ofList l, by rw [toUTF8_data, String.toList_ofList]⟩

example : validUtf8 [0x6B, 0xF0, 0x9F, 0x98, 0x80] = true := by decide

/-- **Decoding is unique.** Two lists of scalar values with the same UTF-8 encoding are the same list:
    an accepted byte string stands for exactly one sequence of characters (the encodings of scalar
    values are prefix-free). -/
theorem utf8_decode_unique (cs cs' : List Nat) (h : ∀ c ∈ cs, isScalar c) (h' : ∀ c ∈ cs', isScalar c)
    (e : cs.flatMap encodeCp = cs'.flatMap encodeCp) : cs = cs' := by
  -- two Lean strings with the same bytes: a `String` is its bytes, and `String.ofList` is injective
  obtain ⟨l, rfl⟩ := scalars_are_chars cs h
  obtain ⟨l', rfl⟩ := scalars_are_chars cs' h'
  rw [flatMap_encodeCp_chars, flatMap_encodeCp_chars] at e
  have : String.ofList l = String.ofList l' :=
    String.toByteArray_inj.1 (by
      rw [String.toByteArray_ofList, String.toByteArray_ofList, List.utf8Encode, List.utf8Encode, e])
  rw [String.ofList_injective this]

example : (∀ c ∈ [0xE9, 0x1F600], isScalar c) ∧
    [0xE9, 0x1F600].flatMap encodeCp = [0xE9, 0x1F600].flatMap encodeCp := by decide

/-- Without the scalar-value hypothesis `encodeCp` is not injective (it is only meant for code points
    below 0x110000): 0x4010000 and 0x10000 get the same four bytes. This shows the hypothesis of
    `utf8_decode_unique` is needed, not that anything is wrong. -/
example : encodeCp 0x4010000 = encodeCp 0x10000 := by decide

end Resp
