/-
  C04 — concurrent gets / sets / deletes with roll-overs and merges: never a panic, the reader
  pool is never diminished, linearizable, no deadlock.
  Theorems over the transition system `CStore.step` (`Conc/StoreLTS.lean`), for every event list,
  i.e. every interleaving of any number of reader, writer and merging threads at the granularity
  of the model (a writer can be preempted between any two chunks of a record, a reader between
  index lookup, open/map, remap test, slice, guard release and check-in).
-/
import BitcaskVerif.Conc.StoreLinStep
import BitcaskVerif.Conc.LinHist
import BitcaskVerif.Conc.StoreProgress
import BitcaskVerif.Conc.StoreMaps
import BitcaskVerif.Conc.StoreBound

namespace CStore

/-- **C04 (no panic).** With the remap test of the code of the day (`pos + len > mapped`), in
    every reachable state no thread is in a failure state: every `slice` lies inside the mapping
    after the remap test and reads the complete record the index entry promised, every `open` by
    name finds its file linked, the merge's copies read complete records. -/
theorem c04_safe (c : Cfg) (n : Nat) (s : Sys) (hfx : c.fixed = true) (h : Reachable c n s) :
    ∀ (t : Nat) (st : TState), s.threads[t]? = some st → st.isFailed = false :=
  (Inv.reachable h).safe.noFail hfx

/-- the D2 schedule: a reader maps the active file between the header chunk and the value chunk
    of a 9028-byte record (mapping = 59 bytes), a later `get` of that record with the same reader
    object passes the pinned remap test `pos ≥ mapped` (31 ≥ 59 is false) and slices 31..9059 -/
def d2Schedule : List Event :=
  [ (0, .invPut 1 5 30), (0, .lock), (0, .chunk 31), (0, .account), (0, .publish), (0, .unlock), (0, .resp),
    (0, .invPut 2 6 9027), (0, .lock), (0, .chunk 28),
    (1, .invGet 1), (1, .checkout), (1, .lookup), (1, .ensure []), (1, .remap), (1, .slice), (1, .release),
    (1, .checkin), (1, .resp),
    (0, .chunk 9000), (0, .account), (0, .publish), (0, .unlock), (0, .resp),
    (1, .invGet 2), (1, .checkout), (1, .lookup), (1, .ensure []), (1, .remap), (1, .slice) ]

def cfgPinned : Cfg := { cap := 1, maxFile := 100000, nsh := 0, shardFn := fun k => k, fixed := false }

/-- **C04 (the hypothesis `fixed` is load-bearing).** With the pinned remap test `pos ≥ mapped` a
    failure state is reachable: the `get` panics with its slice outside the mapping, the reader
    object is lost and the pool (capacity 1) stays empty. -/
theorem c04_safe_needs_fix :
    ∃ s, Reachable cfgPinned 2 s ∧
      s.threads[1]? = some (.failed .sliceOutOfMapping (some { id := 0, cache := [(0, 59)] })) ∧
      s.pool = [] := by
  refine ⟨(run cfgPinned (init 1 2) d2Schedule).get (by decide), ⟨d2Schedule, Option.some_get _ |>.symm⟩, ?_, ?_⟩ <;>
    decide

/-- the same schedule is harmless with the repaired test -/
example : ((run { cfgPinned with fixed := true } (init 1 2) d2Schedule).map
    fun s => s.threads[1]?) = some (some (.gSliced 2 { id := 0, cache := [(0, 9059)] } (some 6))) := by
  decide

/-- **C04 (pool).** In every reachable state every reader object is in the pool or checked out by
    exactly one `get` between `checkout` and `checkin`: earlier operations never reduce the
    ability to serve reads. -/
theorem c04_pool (c : Cfg) (n : Nat) (s : Sys) (hfx : c.fixed = true) (h : Reachable c n s) :
    s.pool.length + (s.threads.countP TState.holdsReader) = c.cap :=
  pool_exact hfx h

/-- **C04 (pool, any remap test).** Without the repair the accounting still holds if the readers
    lost by failed `get`s are counted. -/
theorem c04_pool_general (c : Cfg) (n : Nat) (s : Sys) (h : Reachable c n s) :
    s.pool.length + s.threads.countP TState.holdsReader + s.threads.countP TState.lostReader = c.cap :=
  (Inv.reachable h).pool

/-- **C04 (linearizable).** The invocations and responses of every execution (recorded in the
    ghost history together with the linearization points: index publish for `put` / `delete`,
    index lookup for `get`) are linearizable w.r.t. the map specification `mapSpec`: the completed
    operations — all of them, each once — and some of the pending ones can be put into one order
    that is a legal sequential run of the map with exactly the returned results and respects real
    time. Holds for every remap test (a failed `get` simply never responds). -/
theorem c04_lin (c : Cfg) (n : Nat) (s : Sys) (h : Reachable c n s) :
    Lin.TraceLinearizable mapSpec s.hist :=
  hist_linearizable h

/-- **C04 (linearizable, complete histories).** When every invoked operation has responded, the
    history of the execution — its completed operations with their invocation and response
    times — is linearizable in the plain sense of `Lin.Linearizable`. -/
theorem c04_lin_complete (c : Cfg) (n : Nat) (s : Sys) (h : Reachable c n s)
    (hq : Lin.Quiescent s.hist) :
    (∃ ops, Lin.HistoryOf s.hist ops) ∧
    ∀ ops, Lin.HistoryOf s.hist ops → Lin.Linearizable mapSpec ops := by
  obtain ⟨ops, ho, _⟩ := (hist_linearizable h).complete hq
  exact ⟨⟨ops, ho⟩, fun ops' ho' => (hist_linearizable h).history hq ho'⟩

/-- **C04 (linearizable, all operations completed).** In a reachable state in which every thread
    is idle again, the ghost history has no pending operation, it has a history (the list of its
    operations with invocation time, response time and result), and every listing of that history
    is linearizable w.r.t. the map. -/
theorem c04_lin_idle (c : Cfg) (n : Nat) (s : Sys) (h : Reachable c n s)
    (hidle : ∀ (t : Nat) (st : TState), s.threads[t]? = some st → st = .idle) :
    Lin.Quiescent s.hist ∧ (∃ ops, Lin.HistoryOf s.hist ops) ∧
      ∀ ops, Lin.HistoryOf s.hist ops → Lin.Linearizable mapSpec ops :=
  ⟨hist_quiescent h hidle, c04_lin_complete c n s h (hist_quiescent h hidle)⟩

/-- the value a `get` returns was fixed at its lookup: it is the abstract map's value at that
    moment (the ghost field `gv`), whatever happens between lookup and slice -/
theorem c04_get_value (c : Cfg) (n : Nat) (s : Sys) (h : Reachable c n s) (t : Nat) (pc : RPc)
    (k : Nat) (rd : Reader) (loc : Loc) (gv : Option Nat)
    (hth : s.threads[t]? = some (.gRead pc k rd loc gv)) :
    ∃ f r, s.file loc.fid = some f ∧ f.linked = true ∧ recAt f.recs loc.pos = some r ∧
      r.size = loc.len ∧ r.key = k ∧ r.val = gv ∧ loc.pos + loc.len ≤ f.size :=
  (Inv.reachable h).safe.guard_record hth

/-- **C04 (mappings).** Every cached mapping — of a pooled reader object, of a reader object in
    use (or lost), of the writer's own cache used by merge — is no longer than its file, also after
    the file was unlinked: a mapping is a prefix of the file's bytes. With `c04_safe` (the slice is
    inside the mapping) every slice reads bytes that exist. Holds for every remap test. -/
theorem c04_maps (c : Cfg) (n : Nat) (s : Sys) (h : Reachable c n s) :
    (∀ rd ∈ s.pool, CacheOK s rd.cache) ∧ CacheOK s s.wcache ∧
    ∀ (t : Nat) (st : TState) (rd : Reader), s.threads[t]? = some st → st.reader = some rd →
      CacheOK s rd.cache :=
  ⟨(MapInv.reachable h).pool, (MapInv.reachable h).wcache, (MapInv.reachable h).held⟩

/-- **C04 (no deadlock).** With the repaired remap test and a pool of at least one reader: in
    every reachable state in which some operation is pending, some thread with a pending
    operation can take a step that is neither a spin of the pool loop nor a new invocation
    (`Enabled`). Covers the whole lock structure of the model: the writer mutex, the shard read
    guards (publish and the merge's `mEnter` wait for them), the merge iterator's shard write
    lock (`lookup` waits for it), and the reader pool. -/
theorem c04_progress (c : Cfg) (n : Nat) (s : Sys) (hfx : c.fixed = true) (hcap : 0 < c.cap)
    (h : Reachable c n s)
    (hpend : ∃ (t : Nat) (st : TState), s.threads[t]? = some st ∧ st ≠ .idle) :
    ∃ (t : Nat) (a : Act), a ≠ .spin ∧ a.isInvoke = false ∧ (step c s (t, a)).isSome = true :=
  progress hfx hcap h hpend

/-- **C04 (every operation completes — own steps).** `budget c s st` bounds the number of steps a
    thread in state `st` still has to take itself: a `get` at most 8, a `put` / `delete` its
    remaining bytes plus 6, a merge twice the number of selected entries plus twice the number of
    shards plus the number of files to unlink plus a constant. Every own step of a pending
    operation strictly decreases it, except a spin of the pool loop, which changes nothing. -/
theorem c04_bounded_own (c : Cfg) (n : Nat) (s s' : Sys) (h : Reachable c n s) (t : Nat) (a : Act)
    (hstep : step c s (t, a) = some s') (st st' : TState) (hth : s.threads[t]? = some st)
    (hth' : s'.threads[t]? = some st') (hne : st ≠ .idle) :
    s' = s ∨ budget c s' st' < budget c s st := by
  rcases (step_sound hstep).decreases (Inv.reachable h).mutex (Inv.reachable h).safe
    (MergeAux.reachable h) with h0 | ⟨_, _, h1, h2, hlt⟩
  · exact .inl h0
  · rw [hth] at h1; cases h1
    rw [hth'] at h2; cases h2
    exact .inr (hlt hne)

/-- **C04 (every operation completes — other threads).** No step of another thread changes the
    budget of an operation (a merge that still waits for the mutex excepted: its work is fixed
    when it gets the mutex). With `c04_progress` — whenever an operation is pending somebody can
    take a budget-decreasing step — every operation completes under a fair scheduler. -/
theorem c04_bounded_other (c : Cfg) (n : Nat) (s s' : Sys) (h : Reachable c n s) (t t' : Nat)
    (a : Act) (hstep : step c s (t', a) = some s') (hne : t ≠ t') (st : TState)
    (hth : s.threads[t]? = some st) (hst : ∀ sel, st ≠ .mInv sel) :
    s'.threads[t]? = some st ∧ budget c s' st = budget c s st := by
  refine ⟨?_, other_step_keeps (Inv.reachable h).mutex (step_sound hstep) hne hth hst⟩
  exact other_thread_unchanged (step_sound hstep) hne hth

/-- the state after the D2 schedule followed by the invocation of another `get` -/
def d2Wedged : Option Sys := run cfgPinned (init 1 2) (d2Schedule ++ [(0, .invGet 1)])

/-- **C04 (progress needs the fix, too).** After the D2 panic the pool of capacity 1 is empty for
    good: a later `get` can be invoked, cannot check a reader out, and can only spin. -/
theorem c04_progress_needs_fix :
    ∃ s, d2Wedged = some s ∧ s.threads[0]? = some (.gInv 1) ∧ s.pool = [] ∧
      step cfgPinned s (0, .checkout) = none ∧ (step cfgPinned s (0, .spin)).isSome = true := by
  refine ⟨d2Wedged.get (by decide), (Option.some_get _).symm, ?_, ?_, ?_, ?_⟩ <;> decide

/-! ### a non-trivial execution (non-vacuity of `Reachable`, and the model at work)

Two shards, files of at most 40 bytes, three threads: thread 0 writes (a record in two chunks, a
roll-over), thread 1 reads key 2 and holds the read guard of shard 0 while thread 2 starts a merge
of file 0 (the id 9 names no file and is ignored): the merge cannot enter shard 0 until the guard
is released, then copies and re-points key 2, unlinks file 0 and opens file 3; afterwards key 2 is
read from the merge output, key 1 is deleted and read as absent. -/

def cfgDemo : Cfg := { cap := 2, maxFile := 40, nsh := 1, shardFn := fun k => k, fixed := true }

def demo1 : List Event :=
  [ (0, .invPut 1 5 30), (0, .lock), (0, .chunk 20), (0, .chunk 11), (0, .account), (0, .publish), (0, .unlock), (0, .resp),
    (0, .invPut 2 6 30), (0, .lock), (0, .chunk 31), (0, .account), (0, .publish), (0, .unlock), (0, .resp),
    (0, .invPut 1 7 9), (0, .lock), (0, .chunk 10), (0, .account), (0, .publish), (0, .unlock), (0, .resp),
    (1, .invGet 2), (1, .checkout), (1, .lookup),
    (2, .invMerge [0, 9]), (2, .lock) ]

def demo2 : List Event :=
  [ (1, .ensure []), (1, .remap), (1, .slice), (1, .release),
    (2, .mEnter), (2, .mCopy 2), (2, .mRepoint), (2, .mLeave), (2, .mEnter), (2, .mLeave), (2, .mUnlink), (2, .mNewActive),
    (2, .unlock), (2, .resp), (1, .checkin), (1, .resp),
    (1, .invGet 2), (1, .checkout), (1, .lookup), (1, .ensure []), (1, .remap), (1, .slice), (1, .release), (1, .checkin), (1, .resp),
    (0, .invDel 1 4), (0, .lock), (0, .chunk 5), (0, .account), (0, .publish), (0, .unlock), (0, .resp),
    (1, .invGet 1), (1, .checkout), (1, .lookup), (1, .checkin), (1, .resp) ]

/-- while the reader holds its guard the merge is locked out of shard 0, a writer out of the mutex -/
example : ((run cfgDemo (init 2 3) demo1).map fun s =>
      (s.threads[1]?, s.mg.sel, (step cfgDemo s (2, .mEnter)).isSome, (step cfgDemo s (0, .invPut 3 3 3)).isSome)) =
    some (some (.gRead .looked 2 { id := 0 } ⟨0, 31, 31⟩ (some 6)), [0], false, true) := by decide

/-- the hypotheses of the theorems above are satisfiable in a non-trivial way: a reachable state of
    the repaired configuration in which a merge is running while a `get` holds a read guard -/
example : ∃ s, Reachable cfgDemo 3 s ∧ cfgDemo.fixed = true ∧ 0 < cfgDemo.cap ∧ s.mg.on = true ∧
    s.threads[2]? = some .merging ∧ (∃ st, s.threads[1]? = some st ∧ st ≠ .idle) :=
  ⟨(run cfgDemo (init 2 3) demo1).get (by decide), ⟨demo1, (Option.some_get _).symm⟩, rfl, by decide,
    by decide, by decide, .gRead .looked 2 { id := 0 } ⟨0, 31, 31⟩ (some 6), by decide, by decide⟩

/-- the whole schedule runs; at the end everybody is idle, both readers are back in the pool, file 0
    is unlinked, key 2 lives in the merge output (file 2), key 1 is gone, the active file is 3 -/
example : ((run cfgDemo (init 2 3) (demo1 ++ demo2)).map fun s =>
      (s.threads, s.index, s.amap, s.active)) =
    some ([.idle, .idle, .idle], [(2, ⟨2, 0, 31⟩)], [(2, 6)], 3) := by decide

example : ((run cfgDemo (init 2 3) (demo1 ++ demo2)).map fun s =>
      (s.pool.length, s.files.map fun x => (x.1, x.2.linked, x.2.size))) =
    some (2, [(0, false, 62), (1, true, 10), (2, true, 31), (3, true, 5)]) := by decide

/-- … and the replies recorded in the ghost history: the last three operations -/
example : ((run cfgDemo (init 2 3) (demo1 ++ demo2)).map fun s => s.hist.take 9) =
    some [.resp 1 (.found none), .lin 1 (.found none), .inv 1 (.get 1),
          .resp 0 (.deleted true), .lin 0 (.deleted true), .inv 0 (.del 1 4),
          .resp 1 (.found (some 6)), .lin 1 (.found (some 6)), .inv 1 (.get 2)] := by decide

end CStore
