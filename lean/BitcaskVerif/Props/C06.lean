/-
  C06 — over the network SET/GET/DEL answer exactly as the map model, in order.

  The handler model (`Resp/Server.lean`) is what the driver runs against the real server. The
  theorems here are at the level of the frames a connection delivers; that the frames do not
  depend on how the bytes are cut into segments is C08 (`c08_stream`), and that the real store
  behaves as the map is C01.
-/
import BitcaskVerif.Resp.ServerLemmas

namespace Resp

/-- a request the client library can send: keys are UTF-8, DEL names at least one key -/
def WfCmd : Cmd → Prop
  | .set k _ => validUtf8 k = true
  | .get k => validUtf8 k = true
  | .del ks => ks ≠ [] ∧ ∀ k, k ∈ ks → validUtf8 k = true

theorem delKeys_map_bulk (ks : List (List UInt8)) (h : ∀ k, k ∈ ks → validUtf8 k = true) :
    delKeys (ks.map .bulk) = .ok ks := by
  induction ks with
  | nil => rfl
  | cons k ks ih =>
    simp only [List.map_cons, delKeys, h k List.mem_cons_self, ↓reduceIte,
      ih (fun x hx => h x (List.mem_cons_of_mem _ hx))]

/-- **C06 (requests are understood).** Every well-formed request frame is parsed back to the
    command it encodes. -/
theorem c06_cmd_roundtrip (c : Cmd) (h : WfCmd c) : Cmd.ofFrame (Cmd.toFrame c) = .ok c := by
  cases c with
  | set k v =>
    have hk : validUtf8 k = true := h
    simp [Cmd.toFrame, Cmd.ofFrame, getBytes, getString, sSET, sGET, sDEL, hk]
  | get k =>
    have hk : validUtf8 k = true := h
    simp [Cmd.toFrame, Cmd.ofFrame, getBytes, getString, sGET, sDEL, hk]
  | del ks =>
    obtain ⟨hne, hk⟩ := h
    cases ks with
    | nil => exact absurd rfl hne
    | cons k ks =>
      simp only [Cmd.toFrame, Cmd.ofFrame, getBytes, ↓reduceIte, delKeys_map_bulk (k :: ks) hk]

theorem serveFrames_reqs_append (m : KV) (reqs : List Cmd) (rest : List ReadRes)
    (h : ∀ c, c ∈ reqs → WfCmd c) :
    serveFrames m (reqs.map (fun c => .frame (Cmd.toFrame c)) ++ rest) =
      ((serveFrames (specReplies m reqs).1 rest).1,
        encodeAll (specReplies m reqs).2 ++ (serveFrames (specReplies m reqs).1 rest).2.1,
        (serveFrames (specReplies m reqs).1 rest).2.2) := by
  induction reqs generalizing m with
  | nil => rfl
  | cons c cs ih =>
    rw [List.map_cons, List.cons_append,
      serveFrames_frame_ok m _ (c06_cmd_roundtrip c (h c List.mem_cons_self)),
      ih _ (fun x hx => h x (List.mem_cons_of_mem _ hx))]
    simp only [specReplies_cons, encodeAll, List.append_assoc]

/-- **C06 (exactly one reply per request, in request order, as the map says).** When a connection
    delivers the frames of well-formed requests followed by a clean end of stream, the handler
    writes exactly the concatenation of the map model's replies — `+OK` for SET, the stored bytes
    or null for GET, the count for DEL — leaves the store as the map model does, and ends cleanly. -/
theorem c06_replies (m : KV) (reqs : List Cmd) (h : ∀ c, c ∈ reqs → WfCmd c) :
    serveFrames m (reqs.map (fun c => .frame (Cmd.toFrame c)) ++ [.cleanEnd]) =
      ((specReplies m reqs).1, encodeAll (specReplies m reqs).2, .peerClosed) := by
  rw [serveFrames_reqs_append m reqs [.cleanEnd] h]
  simp only [serveFrames, List.append_nil]

/-- **C06 (values come back byte for byte).** The reply to a GET of a present key is the bulk
    string holding exactly the stored bytes, whatever they are (CR, LF, NUL included). -/
theorem c06_get_exact (m : KV) (k v : List UInt8) (h : m k = some v) :
    (applyCmd m (.get k)).2 = .bulk v ∧
      encode (.bulk v) = some (36 :: intRepr v.length ++ crlf ++ v ++ crlf) := by
  simp only [applyCmd, h, encode, encodeSingle, and_self]

/-- **C06 (DEL counts each key as it is deleted in turn)**: a key named twice is counted once. -/
theorem c06_del_duplicate (m : KV) (k : List UInt8) :
    (applyCmd m (.del [k, k])).2 = .integer (if (m k).isSome then 1 else 0) := by
  simp only [applyCmd, delAll, KV.del, ↓reduceIte, Option.isSome_none, Bool.false_eq_true]
  cases (m k).isSome <;> rfl

theorem c06_del_absent_present (m : KV) (k : List UInt8) :
    (applyCmd m (.del [k])).1 k = none := by
  simp only [applyCmd, delAll, KV.del, ↓reduceIte]

/-! non-vacuity -/
example : (serveFrames KV.empty
    ([Cmd.get [107], Cmd.set [107] [13, 10, 0], Cmd.set [] []].map
      (fun c => .frame (Cmd.toFrame c)) ++ [.cleanEnd])).2 =
    ([36, 45, 49, 13, 10,  43, 79, 75, 13, 10,  43, 79, 75, 13, 10], .peerClosed) := by
  decide
example : WfCmd (.del [[107], [107]]) ∧ WfCmd (.set [] [13, 10, 0]) := by
  refine ⟨⟨by simp, ?_⟩, ?_⟩
  · intro k hk; simp at hk; subst hk; decide
  · show validUtf8 [] = true; decide

end Resp
