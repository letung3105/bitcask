/-
  C08 — RESP encoding and decoding round-trip, independent of stream chunking.

  Property theorems only; helper lemmas live in `Resp/RoundTrip.lean` (whole frame at any buffer
  offset), `Resp/PrefixLemmas.lean` (buffer ends inside a frame) and `Resp/StreamLemmas.lean`
  (`read_frame` over a segmented stream).

  `WfFrame` (defined in `Resp/RoundTrip.lean`) is the set of frames the statement quantifies
  over: simple strings and errors that are UTF-8 without CR/LF, all 64-bit integers, bulk strings
  of arbitrary bytes (length fits `i64`), null, and one-level arrays of those — exactly what
  `Connection::write_frame` can write without reaching `unimplemented!()`.
  `wire f` is the byte string `write_frame` writes for `f`.
-/
import BitcaskVerif.Resp.StreamLemmas

namespace Resp

/-- **C08 (the encoder is total on well-formed frames)**: `write_frame` never reaches
    `unimplemented!()` on a non-array frame or a one-level array of non-array frames. -/
theorem c08_encode_total (f : Frame) : WfFrame f → ∃ e, encode f = some e :=
  encode_total f

/-- **C08 (round trip)**: the bytes written for a well-formed frame, followed by anything, are
    decoded back to the same frame, and both `check` and `parse` consume exactly those bytes. -/
theorem c08_roundtrip (f : Frame) (e rest : List UInt8) : WfFrame f → encode f = some e →
    parse (e ++ rest).toArray = .ok (f, e.length) ∧ check (e ++ rest).toArray = .ok e.length :=
  roundtrip f e rest

/-- the same for what the connection actually runs (`parse_frame`: check, parse, advance): it
    returns the frame written and consumes exactly its bytes, leaving `rest` in the buffer -/
theorem c08_parse_frame (f : Frame) (e rest : List UInt8) : WfFrame f → encode f = some e →
    parseFrame (e ++ rest).toArray = .frame f e.length :=
  fun hw he => parseFrame_full _ f e rest hw he rfl

/-- **C08 (every strict prefix of a valid encoding is incomplete)** — not an error, not a
    shorter frame, not a panic. -/
theorem c08_prefix (f : Frame) (e p : List UInt8) : WfFrame f → encode f = some e →
    p <+: e → p ≠ e → check p.toArray = .incomplete :=
  check_prefix f e p

/-- **C08 (independence of chunking)**: however the concatenated encodings of `fs` are cut into
    segments (any boundaries, one byte at a time, all at once), the reader loop returns exactly
    `fs`, in order, and then a clean end of stream. -/
theorem c08_stream (fs : List Frame) (segs : List (List UInt8)) :
    (∀ f ∈ fs, WfFrame f) → (∀ s ∈ segs, s ≠ []) →
    segs.flatten = fs.flatMap wire →
    readAll segs = fs.map .frame ++ [.cleanEnd] :=
  fun hw _ h => stream_clean fs segs hw h

/-- the same without the (unneeded) assumption that segments are non-empty: the model treats an
    empty segment as a read that returned no new bytes yet, not as end of stream -/
theorem c08_stream' (fs : List Frame) (segs : List (List UInt8)) :
    (∀ f ∈ fs, WfFrame f) → segs.flatten = fs.flatMap wire →
    readAll segs = fs.map .frame ++ [.cleanEnd] :=
  stream_clean fs segs

/-- `c08_stream` with the encodings named explicitly (`es[i]` is the encoding of `fs[i]`) -/
theorem c08_stream_enc (fs : List Frame) (es segs : List (List UInt8)) :
    (∀ f ∈ fs, WfFrame f) → fs.map encode = es.map some → segs.flatten = es.flatten →
    readAll segs = fs.map .frame ++ [.cleanEnd] :=
  fun hw he h => stream_clean fs segs hw (by rw [h, flatMap_wire_of_map fs es he])

/-- special case: the stream is delivered one byte at a time -/
theorem c08_stream_bytewise (fs : List Frame) : (∀ f ∈ fs, WfFrame f) →
    readAll ((fs.flatMap wire).map fun b => [b]) = fs.map .frame ++ [.cleanEnd] :=
  fun hw => stream_clean fs _ hw (flatten_singletons _)

/-- special case: the stream is delivered all at once -/
theorem c08_stream_whole (fs : List Frame) : (∀ f ∈ fs, WfFrame f) →
    readAll [fs.flatMap wire] = fs.map .frame ++ [.cleanEnd] :=
  fun hw => stream_clean fs _ hw (by simp)

/-- **C08 (a stream that ends inside a frame is an error, not a clean end)**: after the complete
    frames `fs`, a non-empty strict prefix `p` of one more encoding makes the reader return `fs`
    and then `ConnectionReset`, for every segmentation. -/
theorem c08_eof_inside (fs : List Frame) (f : Frame) (e p : List UInt8) (segs : List (List UInt8)) :
    (∀ g ∈ fs, WfFrame g) → WfFrame f → encode f = some e → p <+: e → p ≠ e → p ≠ [] →
    (∀ s ∈ segs, s ≠ []) →
    segs.flatten = fs.flatMap wire ++ p →
    readAll segs = fs.map .frame ++ [.reset] :=
  fun hw hf he hp hne hnil _ h => stream_reset fs f e p segs hw hf he hp hne hnil h

/-! ### non-vacuity: concrete well-formed frames, encodings, prefixes and segmentations -/

example : WfFrame (.simple [79, 75]) := by decide
example : WfFrame (.error [69, 82, 82, 32, 120]) := by decide
example : WfFrame (.integer I64Min) := by decide
example : WfFrame (.integer I64Max) := by decide
example : WfFrame (.bulk [13, 10, 0, 255]) := by decide
example : WfFrame .null := by decide
example : WfFrame (.array [.bulk [83, 69, 84], .bulk [13, 10], .integer (-5), .null, .simple []]) := by
  decide
example : WfFrame (.array []) := by decide
example : ¬ WfFrame (.simple [13]) := by decide
example : ¬ WfFrame (.array [.array []]) := by decide

/-- `"+OK\r\n"` and `"$-1\r\n"` are the encodings of `Simple("OK")` and `Null` -/
example : encode (.simple [79, 75]) = some [43, 79, 75, 13, 10] := by decide
example : encode .null = some [36, 45, 49, 13, 10] := by decide
/-- `":-5\r\n"`, `":-9223372036854775808\r\n"`, `"$3\r\n\r\n\0\r\n"`, `"*2\r\n$1\r\nG\r\n$-1\r\n"` -/
example : encode (.integer (-5)) = some [58, 45, 53, 13, 10] := by
  decide +kernel
example : encode (.integer I64Min) = some [58, 45, 57, 50, 50, 51, 51, 55, 50, 48, 51, 54, 56,
    53, 52, 55, 55, 53, 56, 48, 56, 13, 10] := by
  decide +kernel
example : encode (.bulk [13, 10, 0]) = some [36, 51, 13, 10, 13, 10, 0, 13, 10] := by
  decide +kernel
example : encode (.array [.bulk [71], .null])
    = some [42, 50, 13, 10, 36, 49, 13, 10, 71, 13, 10, 36, 45, 49, 13, 10] := by
  decide +kernel

/-- the prefix `":-"` of the encoding of `Integer(-5)` is incomplete (finding D6 of DESIGN §4) -/
example : check #[58, 45] = .incomplete :=
  c08_prefix (.integer (-5)) [58, 45, 53, 13, 10] [58, 45] (by decide)
    (by decide +kernel) (by decide) (by decide)

/-- hypotheses of `c08_prefix` are met: `"+O"` is a strict prefix of `"+OK\r\n"` -/
example : check #[43, 79] = .incomplete :=
  c08_prefix (.simple [79, 75]) [43, 79, 75, 13, 10] [43, 79] (by decide) (by decide)
    (by decide) (by decide)

/-- hypotheses of `c08_stream` are met: `"+OK\r\n$-1\r\n"` delivered as `"+O" "K\r\n$-" "1\r\n"` -/
example : readAll [[43, 79], [75, 13, 10, 36, 45], [49, 13, 10]]
    = [.frame (.simple [79, 75]), .frame .null, .cleanEnd] :=
  c08_stream [.simple [79, 75], .null] [[43, 79], [75, 13, 10, 36, 45], [49, 13, 10]]
    (by decide) (by decide) (by decide)

/-- hypotheses of `c08_eof_inside` are met: `"+OK\r\n$-"` delivered as `"+O" "K\r\n$-"`, the
    stream ends inside the encoding of `Null` -/
example : readAll [[43, 79], [75, 13, 10, 36, 45]] = [.frame (.simple [79, 75]), .reset] :=
  c08_eof_inside [.simple [79, 75]] .null [36, 45, 49, 13, 10] [36, 45]
    [[43, 79], [75, 13, 10, 36, 45]]
    (by decide) (by decide) (by decide) (by decide) (by decide) (by decide) (by decide) (by decide)

end Resp
