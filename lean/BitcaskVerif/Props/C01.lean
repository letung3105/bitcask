/-
  C01 — the store behaves as a key-value map for every operation sequence.

  Refinement of the executable store model (`Store/Model.lean`, the definitions the driver runs
  against the real code) to the abstract map `Key → Option Val`, for every sequence of
  put / delete / get / merge, every configuration (`max_file_size` from 0 up, i.e. a rollover
  after every entry), every set of files a merge may select and every KeyDir iteration order.
-/
import BitcaskVerif.Store.MergeLemmas

namespace Store

inductive Op where
  | put (k : Key) (v : Val)
  | del (k : Key)
  | get (k : Key)
  /-- a merge pass that selects `sel` and whose KeyDir iterator yields `order` -/
  | merge (sel : List Nat) (order : List Key)

inductive OpOut where
  | done
  | flag (b : Bool)
  | read (r : GetRes)
deriving DecidableEq

/-- one operation of the model (timestamps do not influence any result; fixed to 0) -/
def step (cfg : Cfg) (s : St) : Op → St × OpOut
  | .put k v => ((put cfg s 0 k v).1, .done)
  | .del k => ((delete cfg s 0 k).1, .flag (delete cfg s 0 k).2.1)
  | .get k => (s, .read (get s k))
  | .merge sel order => ((mergeWith cfg s sel order).1, .done)

/-- one operation of the specification: a plain map; merges are invisible -/
def Map.step (m : Map) : Op → Map × OpOut
  | .put k v => (m.set k v, .done)
  | .del k => (m.del k, .flag (m k).isSome)
  | .get k => (m, .read (match m k with | some v => .value v | none => .absent))
  | .merge _ _ => (m, .done)

def run (cfg : Cfg) : St → List Op → St × List OpOut
  | s, [] => (s, [])
  | s, op :: ops =>
    let (s1, o) := step cfg s op
    let (s2, os) := run cfg s1 ops
    (s2, o :: os)

def Map.run : Map → List Op → Map × List OpOut
  | m, [] => (m, [])
  | m, op :: ops =>
    let (m1, o) := m.step op
    let (m2, os) := Map.run m1 ops
    (m2, o :: os)

/-- every merge in the sequence selects existing files (ids up to the active one at that moment)
    and its iteration order covers the KeyDir of that moment -/
def ValidFrom (cfg : Cfg) : St → List Op → Prop
  | _, [] => True
  | s, op :: ops =>
    (match op with
     | .merge sel order => (∀ id, id ∈ sel → id ≤ s.active) ∧ Covers order s
     | _ => True) ∧ ValidFrom cfg (step cfg s op).1 ops

theorem run_cons_fst (cfg : Cfg) (s : St) (op : Op) (ops : List Op) :
    (run cfg s (op :: ops)).1 = (run cfg (step cfg s op).1 ops).1 := rfl

theorem step_refines (cfg : Cfg) (s : St) (op : Op) (h : Inv s)
    (hv : match op with
          | .merge sel order => (∀ id, id ∈ sel → id ≤ s.active) ∧ Covers order s
          | _ => True) :
    Inv (step cfg s op).1 ∧ (step cfg s op).2 = (s.abs.step op).2 ∧
      (step cfg s op).1.abs = (s.abs.step op).1 := by
  -- `step` is unfolded by its equations first: left to unification, `(step ..).1 = (put ..).1` is
  -- tried through `step .. = put ..`, which fails only after the whole writer has been unfolded
  cases op with
  | put k v =>
    simp only [step, Map.step]
    exact ⟨put_inv cfg s 0 k v h, trivial, put_abs cfg s 0 k v h⟩
  | del k =>
    simp only [step, Map.step]
    obtain ⟨a, b⟩ := delete_abs cfg s 0 k h
    exact ⟨delete_inv cfg s 0 k h, congrArg OpOut.flag b, a⟩
  | get k =>
    simp only [step, Map.step]
    exact ⟨h, congrArg OpOut.read (get_abs s k h), trivial⟩
  | merge sel order =>
    simp only [step, Map.step]
    obtain ⟨a, b⟩ := mergeWith_inv_abs cfg s sel order h hv.1 hv.2
    exact ⟨a, trivial, b⟩

/-- **C01.** From any state satisfying the invariant, every operation sequence produces exactly
    the results of the abstract map, ends in a state satisfying the invariant, and that state
    reads as the final map. -/
theorem c01_refines_from (cfg : Cfg) (ops : List Op) : ∀ (s : St), Inv s → ValidFrom cfg s ops →
    (run cfg s ops).2 = (Map.run s.abs ops).2 ∧ Inv (run cfg s ops).1 ∧
      (run cfg s ops).1.abs = (Map.run s.abs ops).1 := by
  induction ops with
  | nil => intro s h _; exact ⟨rfl, h, rfl⟩
  | cons op ops ih =>
    intro s h hv
    obtain ⟨i1, i2, i3⟩ := step_refines cfg s op h hv.1
    obtain ⟨j1, j2, j3⟩ := ih (step cfg s op).1 i1 hv.2
    simp only [run, Map.run]
    rw [i3] at j1 j3
    refine ⟨?_, j2, j3⟩
    rw [j1, i2]

/-- a freshly created store (open on an empty directory) -/
def fresh : St := { disk := { data := [(0, [])] } }

theorem fresh_eq_open : (openDisk {}).1 = fresh := by
  simp [fresh, openDisk, rebuild, sortedIds, AL.keys, AL.set]

theorem fresh_inv : Inv fresh := by
  constructor
  · intro k loc hk; simp [fresh] at hk
  · intro id hid; simp [fresh, AL.keys] at hid ⊢; omega
  · intro id hid; simp [fresh, AL.keys] at hid
  · simp [fresh, AL.get]

theorem fresh_abs : fresh.abs = Map.empty := by
  funext k
  apply abs_none_of_none
  simp [fresh]

/-- **C01 (from a fresh store).** Every get returns exactly the bytes of the most recent set of
    that key, or nothing; every delete reports whether the key was present — for all
    configurations, rollovers and merges in between. -/
theorem c01_refines (cfg : Cfg) (ops : List Op) (hv : ValidFrom cfg fresh ops) :
    (run cfg fresh ops).2 = (Map.run Map.empty ops).2 := by
  have := (c01_refines_from cfg ops fresh fresh_inv hv).1
  rw [fresh_abs] at this
  exact this

/-- **C01 (no read ever hits a bad location).** In every reachable state a read is a value or
    absent, never `corrupt` (the model's stand-in for a slice out of range / garbage decode). -/
theorem c01_reads_sound (cfg : Cfg) (ops : List Op) (hv : ValidFrom cfg fresh ops) (k : Key) :
    get (run cfg fresh ops).1 k ≠ .corrupt :=
  get_not_corrupt (c01_refines_from cfg ops fresh fresh_inv hv).2.1 k

/-! ### non-vacuity: a history that rolls over on every write, merges a strict subset and reads back -/

def demoCfg : Cfg := { maxFile := 0 }
def demoOps : List Op :=
  [.put [1] [10], .put [2] [20], .put [1] [11], .del [2], .merge [0, 2] [[1], [2]], .get [1], .get [2]]

example : ValidFrom demoCfg fresh demoOps := by
  simp only [demoOps, ValidFrom, and_true, true_and]
  decide
example : (run demoCfg fresh demoOps).2 =
    [.done, .done, .done, .flag true, .done, .read (.value [11]), .read .absent] := by decide

end Store
