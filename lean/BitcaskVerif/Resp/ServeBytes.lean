/-
  C06 at byte level, the requests (for `Props/C06Bytes.lean`): `CmdFits`, the size side-condition
  under which a request can be put on the wire; `reqWire`, the bytes of a list of requests; and
  `ofFrame_ok_iff`: `Command::try_from` accepts exactly the frames of well-formed requests.
-/
-- `WfCmd` and `c06_cmd_roundtrip`, one half of `ofFrame_ok_iff`
import BitcaskVerif.Props.C06
import BitcaskVerif.Resp.StreamLemmas

namespace Resp

/-- the size side-condition of the byte-level theorems: every length that `write_frame` prints for
    the request (each key, the value, the number of array items) is at most `i64::MAX`. Without it
    the printed length would not be read back by `get_integer` (it rejects anything beyond `i64`). -/
def CmdFits : Cmd → Prop
  | .set k v => (k.length : Int) ≤ I64Max ∧ (v.length : Int) ≤ I64Max
  | .get k => (k.length : Int) ≤ I64Max
  | .del ks => (∀ k, k ∈ ks → (k.length : Int) ≤ I64Max) ∧ ((ks.length + 1 : Nat) : Int) ≤ I64Max

instance decCmdFits (c : Cmd) : Decidable (CmdFits c) := by
  cases c <;> unfold CmdFits <;> infer_instance

instance decWfCmd (c : Cmd) : Decidable (WfCmd c) := by
  cases c <;> unfold WfCmd <;> infer_instance

theorem cmdFits_iff_wfFrame (c : Cmd) : CmdFits c ↔ WfFrame (Cmd.toFrame c) := by
  cases c with
  | set k v =>
    simp only [CmdFits, Cmd.toFrame, WfFrame_array, List.forall_mem_cons, List.not_mem_nil,
      false_imp_iff, implies_true, and_true, WfSingle, List.length_cons, List.length_nil]
    exact ⟨fun h => ⟨⟨by decide, h⟩, by decide⟩, fun h => h.1.2⟩
  | get k =>
    simp only [CmdFits, Cmd.toFrame, WfFrame_array, List.forall_mem_cons, List.not_mem_nil,
      false_imp_iff, implies_true, and_true, WfSingle, List.length_cons, List.length_nil]
    exact ⟨fun h => ⟨⟨by decide, h⟩, by decide⟩, fun h => h.1.2⟩
  | del ks =>
    simp only [CmdFits, Cmd.toFrame, WfFrame_array, List.forall_mem_cons, List.forall_mem_map,
      WfSingle, List.length_cons, List.length_map]
    exact ⟨fun h => ⟨⟨by decide, h.1⟩, h.2⟩, fun h => ⟨h.1.2, h.2⟩⟩

theorem toFrame_wf (c : Cmd) (h : CmdFits c) : WfFrame (Cmd.toFrame c) :=
  (cmdFits_iff_wfFrame c).mp h

theorem toFrames_wf (reqs : List Cmd) (h : ∀ c, c ∈ reqs → CmdFits c) :
    ∀ f ∈ reqs.map Cmd.toFrame, WfFrame f :=
  List.forall_mem_map.mpr fun c hc => toFrame_wf c (h c hc)

def reqWire (reqs : List Cmd) : List UInt8 := (reqs.map Cmd.toFrame).flatMap wire

theorem reqWire_nil : reqWire [] = [] := rfl

theorem reqWire_cons (c : Cmd) (cs : List Cmd) :
    reqWire (c :: cs) = wire (Cmd.toFrame c) ++ reqWire cs := rfl

theorem reqWire_append (as bs : List Cmd) : reqWire (as ++ bs) = reqWire as ++ reqWire bs := by
  simp only [reqWire, List.map_append, List.flatMap_append]

theorem delKeys_ok (l : List Frame) (ks : List (List UInt8)) (h : delKeys l = .ok ks) :
    l = ks.map .bulk ∧ ∀ k, k ∈ ks → validUtf8 k = true := by
  fun_induction delKeys l generalizing ks with
  | case1 => cases h; exact ⟨rfl, nofun⟩
  | case2 s rest hs ks' hd ih =>
    cases h
    obtain ⟨rfl, h2⟩ := ih ks' hd
    exact ⟨rfl, List.forall_mem_cons.mpr ⟨hs, h2⟩⟩
  | case3 => cases h
  | case4 => cases h
  | case5 => cases h

theorem getString_some {l : List Frame} {k : List UInt8} {rest : List Frame}
    (h : getString l = .ok (some k, rest)) : l = .bulk k :: rest ∧ validUtf8 k = true := by
  revert h
  fun_cases getString l with
  | case1 => nofun
  | case2 s rest hs => intro h; cases h; exact ⟨rfl, hs⟩
  | case3 => nofun
  | case4 => nofun

theorem getBytes_some {l : List Frame} {k : List UInt8} {rest : List Frame}
    (h : getBytes l = .ok (some k, rest)) : l = .bulk k :: rest := by
  revert h
  fun_cases getBytes l with
  | case1 => nofun
  | case2 => intro h; cases h; rfl
  | case3 => nofun

theorem ofFrame_ok (f : Frame) (c : Cmd) (h : Cmd.ofFrame f = .ok c) :
    f = Cmd.toFrame c ∧ WfCmd c := by
  revert h
  -- of the branches of `Cmd.ofFrame` three return a command; all others return an error
  fun_cases Cmd.ofFrame f
  case case5 items rest ks hne hd hg =>   -- DEL
    intro h; cases h
    cases getBytes_some hg
    obtain ⟨rfl, h2⟩ := delKeys_ok rest ks hd
    exact ⟨rfl, fun hnil => hne hnil, h2⟩
  case case8 items rest k rest' hs hemp hg _ =>   -- GET
    intro h; cases h
    cases getBytes_some hg
    obtain ⟨rfl, h2⟩ := getString_some hs
    cases List.isEmpty_iff.mp hemp
    exact ⟨rfl, h2⟩
  case case14 items rest k rest' hs v rest'' hb hemp hg _ _ =>   -- SET
    intro h; cases h
    cases getBytes_some hg
    obtain ⟨rfl, h2⟩ := getString_some hs
    cases getBytes_some hb
    cases List.isEmpty_iff.mp hemp
    exact ⟨rfl, h2⟩
  all_goals nofun

theorem ofFrame_ok_iff (f : Frame) (c : Cmd) :
    Cmd.ofFrame f = .ok c ↔ f = Cmd.toFrame c ∧ WfCmd c :=
  ⟨ofFrame_ok f c, fun ⟨h1, h2⟩ => by rw [h1]; exact c06_cmd_roundtrip c h2⟩

theorem goodPrefix_wf (rs : List ReadRes) : ∀ c, c ∈ goodPrefix rs → WfCmd c := by
  fun_induction goodPrefix rs with
  | case1 f rest c hc ih => exact List.forall_mem_cons.mpr ⟨(ofFrame_ok f c hc).2, ih⟩
  | case2 => nofun
  | case3 => nofun

end Resp
