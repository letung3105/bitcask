/-
  C08 — `check` on a buffer that is cut off. `Trunc p buf` says that `p` is `buf` cut off after
  `p.size` bytes; `check_trunc`: whatever the bytes, if the first frame of `buf` is complete,
  `check` on a `p` that ends inside that frame says `incomplete`.
-/
import BitcaskVerif.Resp.CheckLemmas

namespace Resp

structure Trunc (p buf : Buf) : Prop where
  le : p.size ≤ buf.size
  eq : ∀ k, k < p.size → p[k]! = buf[k]!

theorem Trunc.getElem {p buf : Buf} (T : Trunc p buf) {k : Nat} (h : k < p.size) :
    p[k] = buf[k]'(Nat.lt_of_lt_of_le h T.le) := by
  have := T.eq k h
  rwa [getElem!_pos p k h, getElem!_pos buf k (Nat.lt_of_lt_of_le h T.le)] at this

theorem getLine_trunc {p buf : Buf} (T : Trunc p buf) {pos : Nat} {r : Nat × Nat}
    (h : getLine buf pos = .ok r) (hp : 0 < p.size) :
    getLine p pos = if r.2 ≤ p.size then .ok r else .incomplete := by
  obtain ⟨i, q⟩ := r
  obtain ⟨hpi, rfl, hle, hcr, hclean⟩ := getLine_ok buf pos i q h
  by_cases hq : i + 2 ≤ p.size
  · rw [if_pos hq]
    exact getLine_found hpi hq ((T.eq i (Nat.lt_of_succ_lt hq)).trans hcr) fun k h1 h2 => by
      rw [T.eq k (Nat.lt_trans h2 (Nat.lt_of_succ_lt hq))]; exact hclean k h1 h2
  · -- `p` ends at or before the CR
    rw [if_neg hq, getLine, if_neg (Nat.ne_of_gt hp), lineScan_eof (Nat.sub_le _ _) fun k h1 h2 => ?_]
    have hpi : p.size - 1 ≤ i := Nat.sub_le_of_le_add (Nat.le_of_lt_succ (Nat.lt_of_not_le hq))
    rw [T.eq k (Nat.lt_of_lt_of_le h2 (Nat.sub_le _ _))]
    exact hclean k h1 (Nat.lt_of_lt_of_le h2 hpi)

theorem decNat_congr {p buf : Buf} (i n : Nat) (h : ∀ j, j < n → p[i+j]! = buf[i+j]!) :
    decNat p i n = decNat buf i n := by
  induction n with
  | zero => rfl
  | succ n ih => rw [decNat, decNat, ih (fun j hj => h j (Nat.lt_succ_of_lt hj)), h n (Nat.lt_succ_self n)]

theorem getInteger_trunc {p buf : Buf} (T : Trunc p buf) {pos : Nat} {r : Int × Nat}
    (h : getInteger buf pos = .ok r) :
    getInteger p pos = if r.2 ≤ p.size then .ok r else .incomplete := by
  by_cases hpm : pos < p.size
  · obtain ⟨v, q⟩ := r
    obtain ⟨hp, idx, hlt, rfl, hle, hd, hcr, rfl, hin⟩ := getInteger_exact buf pos v q h
    have hsi : signInfo p pos = signInfo buf pos := by simp only [signInfo, T.eq pos hpm]
    by_cases hip : idx + 2 ≤ p.size
    · -- digits and CR all lie inside `p`
      have hpe : ∀ j, j < idx - (signInfo buf pos).2 →
          p[(signInfo buf pos).2 + j]! = buf[(signInfo buf pos).2 + j]! :=
        fun j hj => T.eq _ (Nat.lt_trans (Nat.add_lt_of_lt_sub' hj) (Nat.lt_of_succ_lt hip))
      have := getInteger_digits_cr p pos hpm idx
      rw [hsi, decNat_congr _ _ hpe, chk, if_pos hin] at this
      rw [if_pos hip, this hlt (Nat.lt_sub_of_add_lt hip) (fun j hj => by rw [hpe j hj]; exact hd j hj)
        ((T.eq idx (Nat.lt_of_succ_lt hip)).trans hcr)]
    · -- `p` ends at or before the CR: all it holds after the sign are digits
      have hpi : p.size - 1 ≤ idx := Nat.sub_le_of_le_add (Nat.le_of_lt_succ (Nat.lt_of_not_le hip))
      rw [if_neg hip]
      refine getInteger_digits_eof p pos hpm fun j hj => ?_
      rw [hsi] at hj ⊢
      rw [T.eq _ (Nat.lt_of_lt_of_le (Nat.add_lt_of_lt_sub' hj) (Nat.sub_le _ _))]
      exact hd j (Nat.lt_of_lt_of_le hj (Nat.sub_le_sub_right hpi _))
  · rw [getInteger, if_neg hpm,
      if_neg fun hle => hpm (Nat.lt_of_lt_of_le (getInteger_ok_bounds _ _ _ _ h).1 hle)]

theorem skip_trunc {p buf : Buf} {pos n q : Nat} (h : skip buf pos n = .ok q) (hp : pos ≤ p.size) :
    skip p pos n = if q ≤ p.size then .ok q else .incomplete := by
  cases (of_ite_eq h nofun).2
  by_cases hq : pos + n ≤ p.size
  · rw [if_pos hq, skip_eq_ok hq]
  · rw [if_neg hq, skip_eq_incomplete (by omega)]

/-- `check` gives each buffer its own fuel; that the fuel of `p` suffices is `checkF_np`, so here it is
    only assumed that the check of `p` does not panic. -/
theorem checkF_trunc {p buf : Buf} (T : Trunc p buf) : ∀ fuel' fuel depth pos q,
    (checkF buf fuel depth pos = .ok q → checkF p fuel' depth pos ≠ .panic →
      checkF p fuel' depth pos = if q ≤ p.size then .ok q else .incomplete) ∧
    (∀ n, checkManyF buf fuel depth n pos = .ok q → pos ≤ p.size →
      checkManyF p fuel' depth n pos ≠ .panic →
      checkManyF p fuel' depth n pos = if q ≤ p.size then .ok q else .incomplete) := by
  intro fuel'
  induction fuel' with
  | zero =>
    intro fuel depth pos q
    refine ⟨fun _ hnp => absurd (by rw [checkF]) hnp, fun n h hp hnp => ?_⟩
    cases n with
    | zero => rw [checkManyF] at h ⊢; cases h; rw [if_pos hp]
    | succ n => exact absurd (by rw [checkManyF]) hnp
  | succ fuel' ih =>
    intro fuel depth pos q
    constructor
    · intro h hnp
      have hq := (checkF_ok buf fuel depth pos q).1 h
      by_cases hpm : pos < p.size
      · cases fuel with
        | zero => rw [checkF] at h; cases h
        | succ fuel =>
          cases lead buf pos with
          | eof h0 => exact absurd (Nat.lt_of_lt_of_le hpm T.le) h0
          | line h0 ht =>
            rw [checkF_line h0 ht, Out.bind_eq_ok] at h
            obtain ⟨r, hr, e⟩ := h
            cases e
            rw [checkF_line hpm (T.getElem hpm ▸ ht), getLine_trunc T hr (Nat.zero_lt_of_lt hpm),
              Out.ite_bind]
          | int h0 ht =>
            rw [checkF_int h0 ht, Out.bind_eq_ok] at h
            obtain ⟨r, hr, e⟩ := h
            cases e
            rw [checkF_int hpm (T.getElem hpm ▸ ht), getInteger_trunc T hr, Out.ite_bind]
          | dollarEof h0 ht h1 => rw [checkF_dollarEof h0 ht h1] at h; cases h
          | null h0 ht h1 h2 =>
            rw [checkF_null h0 ht h1 h2] at h
            by_cases hp1 : pos + 1 < p.size
            · rw [checkF_null hpm (T.getElem hpm ▸ ht) hp1 (T.getElem hp1 ▸ h2),
                skip_trunc h (Nat.le_of_lt hp1)]
            · have := skip_ok _ _ _ _ h (Nat.le_of_lt h1)
              rw [checkF_dollarEof hpm (T.getElem hpm ▸ ht) hp1, if_neg (by omega)]
          | bulk h0 ht h1 h2 =>
            rw [checkF_bulk h0 ht h1 h2, Out.bind_eq_ok] at h
            obtain ⟨r, hr, e⟩ := h
            obtain ⟨hneg, e⟩ := of_ite_eq e nofun
            have hb := getInteger_ok_bounds _ _ _ _ hr
            have hrq : r.2 ≤ q := (skip_ok _ _ _ _ e hb.2).1 ▸ Nat.le_add_right _ _
            by_cases hp1 : pos + 1 < p.size
            · rw [checkF_bulk hpm (T.getElem hpm ▸ ht) hp1 (T.getElem hp1 ▸ h2),
                getInteger_trunc T hr, Out.ite_bind, if_neg hneg]
              by_cases hq1 : r.2 ≤ p.size
              · rw [if_pos hq1, skip_trunc e hq1]
              · rw [if_neg hq1, if_neg fun hle => hq1 (Nat.le_trans hrq hle)]
            · rw [checkF_dollarEof hpm (T.getElem hpm ▸ ht) hp1,
                if_neg fun hle => hp1 (Nat.lt_of_lt_of_le (Nat.lt_of_lt_of_le hb.1 hrq) hle)]
          | array h0 ht =>
            rw [checkF_array h0 ht] at h
            obtain ⟨hd, h⟩ := of_ite_eq h nofun
            obtain ⟨r, hr, e⟩ := Out.bind_eq_ok.mp h
            have hb := getInteger_ok_bounds _ _ _ _ hr
            have hrq := ((checkF_ok buf fuel (depth+1) r.2 q).2 _ hb.2 e).1
            rw [checkF_array hpm (T.getElem hpm ▸ ht), if_neg hd, getInteger_trunc T hr,
              Out.ite_bind] at hnp ⊢
            by_cases hq1 : r.2 ≤ p.size
            · rw [if_pos hq1] at hnp ⊢
              exact (ih fuel (depth+1) r.2 q).2 _ e hq1 hnp
            · rw [if_neg hq1, if_neg fun hle => hq1 (Nat.le_trans hrq hle)]
          | other h0 h43 h45 h58 h36 h42 => rw [checkF_other h0 h43 h45 h58 h36 h42] at h; cases h
      · rw [checkF_end hpm, if_neg fun hle => hpm (Nat.lt_of_lt_of_le hq.1 hle)]
    · intro n h hp hnp
      cases n with
      | zero => rw [checkManyF] at h ⊢; cases h; rw [if_pos hp]
      | succ n =>
        cases fuel with
        | zero => rw [checkManyF] at h; cases h
        | succ fuel =>
          rw [checkManyF_succ, Out.bind_eq_ok] at h
          obtain ⟨q1, hq1, e⟩ := h
          have h1 := (checkF_ok buf fuel depth pos q1).1 hq1
          have h2 := (checkF_ok buf fuel depth q1 q).2 n h1.2 e
          rw [checkManyF_succ] at hnp ⊢
          have hc := (ih fuel depth pos q1).1 hq1 fun e' => hnp (by rw [e']; rfl)
          rw [hc, Out.ite_bind] at hnp ⊢
          by_cases hq1m : q1 ≤ p.size
          · rw [if_pos hq1m] at hnp ⊢
            exact (ih fuel depth q1 q).2 n e hq1m hnp
          · rw [if_neg hq1m, if_neg fun hle => hq1m (Nat.le_trans h2.1 hle)]

theorem check_trunc {p buf : Buf} (T : Trunc p buf) {q : Nat} (h : check buf = .ok q) :
    check p = if q ≤ p.size then .ok q else .incomplete :=
  (checkF_trunc T (fuelFor p) (fuelFor buf) 0 0 q).1 h (check_no_panic p)

end Resp
