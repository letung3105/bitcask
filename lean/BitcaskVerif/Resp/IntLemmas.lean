/-
  Lemmas about `getInteger` (the model of `get_integer`): it never panics, an accepted value is
  exactly the decimal value written wherever the number starts, out-of-range numbers are
  rejected, and success moves the cursor forward inside the buffer.
-/
import BitcaskVerif.Resp.Bind

namespace Resp

def decNat (buf : Buf) (i : Nat) : Nat → Nat
  | 0 => 0
  | n+1 => decNat buf i n * 10 + dvalN (buf[i+n]!)

def sgn (neg : Bool) : Int := if neg then -1 else 1

theorem dvalN_le {b : UInt8} (h : isDigit b = true) : dvalN b ≤ 9 := by
  simp only [isDigit, Bool.and_eq_true, decide_eq_true_eq] at h
  have h2 : b.toNat ≤ (57 : UInt8).toNat := UInt8.le_iff_toNat_le.mp h.2
  simp at h2
  unfold dvalN; omega

theorem decNat_lt (buf : Buf) (i n : Nat) (hd : ∀ j, j < n → isDigit (buf[i+j]!) = true) :
    decNat buf i n < 10 ^ n := by
  induction n with
  | zero => simp [decNat]
  | succ n ih =>
    have h1 := ih (fun j hj => hd j (by omega))
    have h2 := dvalN_le (hd n (by omega))
    simp only [decNat, Nat.pow_succ]; omega

theorem decNat_small (buf : Buf) (i n : Nat) (hn : n ≤ 18)
    (hd : ∀ j, j < n → isDigit (buf[i+j]!) = true) :
    decNat buf i n ≤ 9223372036854775807 := by
  have h1 := decNat_lt buf i n hd
  have h2 : (10:Nat)^n ≤ 10^18 := Nat.pow_le_pow_right (by decide) hn
  have : (10:Nat)^18 ≤ 9223372036854775807 := by decide
  omega

theorem inI64_iff (v : Int) : inI64 v = true ↔ I64Min ≤ v ∧ v ≤ I64Max := by
  simp [inI64]

theorem inI64_of_small {neg : Bool} {m : Nat} (h : m ≤ 9223372036854775807) :
    inI64 (sgn neg * (m : Int)) = true := by
  rw [inI64_iff, I64Min, I64Max]
  cases neg <;> simp only [sgn, Bool.false_eq_true, ↓reduceIte] <;> omega

/-! Both phases keep the invariant "`buf[start..idx)` are digits and the accumulator is their
  signed value"; these three lemmas re-establish it after the digit at `idx`. -/

theorem digits_snoc {buf : Buf} {start idx : Nat} (hs : start ≤ idx) (hsz : idx < buf.size)
    (hd : ∀ j, j < idx - start → isDigit (buf[start+j]!) = true) (hdig : isDigit buf[idx] = true) :
    ∀ j, j < idx + 1 - start → isDigit (buf[start+j]!) = true := by
  intro j hj
  rw [Nat.sub_add_comm hs] at hj
  rcases Nat.lt_succ_iff_lt_or_eq.mp hj with hj | rfl
  · exact hd j hj
  · rw [Nat.add_sub_cancel' hs, getElem!_pos buf idx hsz]; exact hdig

theorem decNat_snoc {buf : Buf} {start idx : Nat} (hs : start ≤ idx) (hsz : idx < buf.size) :
    decNat buf start (idx + 1 - start) = decNat buf start (idx - start) * 10 + dvalN buf[idx] := by
  rw [Nat.sub_add_comm hs, decNat, Nat.add_sub_cancel' hs, getElem!_pos buf idx hsz]

theorem sgn_snoc (neg : Bool) (D d : Nat) :
    sgn neg * ((D * 10 + d : Nat) : Int)
      = if neg then sgn neg * (D : Int) * 10 - (d : Int) else sgn neg * (D : Int) * 10 + (d : Int) := by
  cases neg <;> simp only [sgn, Bool.false_eq_true, ↓reduceIte] <;> omega

/-- Phase 1 never panics when it looks at no more than 18 positions inside the buffer, and it
    computes exactly the signed value of the digits it consumed. -/
theorem phase1_spec (buf : Buf) (stop : Nat) (neg : Bool) (start : Nat)
    (hstop : stop ≤ buf.size) (hsafe : stop ≤ start + 18) (idx : Nat) (num : Int) :
    start ≤ idx → idx ≤ stop →
    (∀ j, j < idx - start → isDigit (buf[start+j]!) = true) →
    num = sgn neg * (decNat buf start (idx - start) : Int) →
    ∃ i', phase1 buf stop neg idx num = some (i', sgn neg * (decNat buf start (i' - start) : Int))
      ∧ idx ≤ i' ∧ i' ≤ stop
      ∧ (∀ j, j < i' - start → isDigit (buf[start+j]!) = true)
      ∧ (i' < stop → isDigit (buf[i']!) = false) := by
  fun_induction phase1 buf stop neg idx num with
  | case1 idx num hlt hsz hdig num' hin ih =>
    intro hs hle hd hnum
    have hnum' : num' = sgn neg * (decNat buf start (idx + 1 - start) : Int) := by
      rw [decNat_snoc hs hsz, sgn_snoc, ← hnum]; rfl
    obtain ⟨i', h1, h2, h3⟩ := ih (Nat.le_succ_of_le hs) hlt (digits_snoc hs hsz hd hdig) hnum'
    exact ⟨i', h1, Nat.le_of_succ_le h2, h3⟩
  | case2 idx num hlt hsz hdig num' hin =>
    -- at most 18 digits so far: the unchecked arithmetic cannot have left the range
    intro hs hle hd hnum
    have hnum' : num' = sgn neg * (decNat buf start (idx + 1 - start) : Int) := by
      rw [decNat_snoc hs hsz, sgn_snoc, ← hnum]; rfl
    rw [hnum'] at hin
    exact absurd (inI64_of_small (decNat_small buf start _
      (Nat.sub_le_iff_le_add'.mpr (Nat.le_trans hlt hsafe)) (digits_snoc hs hsz hd hdig))) hin
  | case3 idx num hlt hsz hdig =>
    intro hs hle hd hnum
    exact ⟨idx, by rw [hnum], Nat.le_refl _, hle, hd,
      fun _ => by rw [getElem!_pos buf idx hsz]; exact (Bool.not_eq_true _).mp hdig⟩
  | case4 idx num hlt hsz => exact absurd (Nat.lt_of_lt_of_le hlt hstop) hsz
  | case5 idx num hge =>
    intro hs hle hd hnum
    exact ⟨idx, by rw [hnum], Nat.le_refl _, hle, hd, fun h => absurd h hge⟩

def chk (x : Int) : Option Int := if inI64 x then some x else none

/-- One step of phase 2 in general form: if the new value `g x` can be in range only when `x`
    and `x * 10` are, then the two overflow checks and the range check of the result amount to
    the range check of `g x` alone. -/
theorem chk_bind_step (g : Int → Int) (x : Int)
    (h : inI64 (g x) = true → inI64 x = true ∧ inI64 (x * 10) = true) :
    (chk x).bind (fun v => if inI64 (v * 10) then if inI64 (g v) then some (g v) else none else none)
      = chk (g x) := by
  unfold chk
  by_cases hg : inI64 (g x) = true
  · simp only [h hg, hg, ↓reduceIte, Option.bind_some]
  · rw [if_neg hg]
    split
    · simp only [Option.bind_some, hg, Bool.false_eq_true, ↓reduceIte, ite_self]
    · rfl

theorem step_chk (neg : Bool) (D d : Nat) (hd : d ≤ 9) :
    (chk (sgn neg * (D : Int))).bind (fun v =>
        let m := v * 10
        if inI64 m then
          let r := if neg then m - (d : Int) else m + (d : Int)
          if inI64 r then some r else none
        else none)
      = chk (sgn neg * ((D * 10 + d : Nat) : Int)) := by
  rw [sgn_snoc]
  refine chk_bind_step (fun v => if neg then v * 10 - (d : Int) else v * 10 + (d : Int)) _ ?_
  simp only [inI64_iff, I64Min, I64Max]
  cases neg <;> simp only [sgn, Bool.false_eq_true, ↓reduceIte] <;> omega

theorem phase2_spec (buf : Buf) (stop : Nat) (neg : Bool) (start : Nat)
    (hstop : stop ≤ buf.size) (idx : Nat) (num : Option Int) :
    start ≤ idx → idx ≤ stop →
    (∀ j, j < idx - start → isDigit (buf[start+j]!) = true) →
    num = chk (sgn neg * (decNat buf start (idx - start) : Int)) →
    ∃ i', phase2 buf stop neg idx num = some (i', chk (sgn neg * (decNat buf start (i' - start) : Int)))
      ∧ idx ≤ i' ∧ i' ≤ stop
      ∧ (∀ j, j < i' - start → isDigit (buf[start+j]!) = true)
      ∧ (i' < stop → isDigit (buf[i']!) = false) := by
  fun_induction phase2 buf stop neg idx num with
  | case1 idx num hlt hsz hdig step ih =>
    intro hs hle hd hnum
    have hnum' : num.bind step = chk (sgn neg * (decNat buf start (idx + 1 - start) : Int)) := by
      rw [hnum, decNat_snoc hs hsz]
      exact step_chk neg _ _ (dvalN_le hdig)
    obtain ⟨i', h1, h2, h3⟩ := ih (Nat.le_succ_of_le hs) hlt (digits_snoc hs hsz hd hdig) hnum'
    exact ⟨i', h1, Nat.le_of_succ_le h2, h3⟩
  | case2 idx num hlt hsz hdig =>
    intro hs hle hd hnum
    exact ⟨idx, by rw [hnum], Nat.le_refl _, hle, hd,
      fun _ => by rw [getElem!_pos buf idx hsz]; exact (Bool.not_eq_true _).mp hdig⟩
  | case3 idx num hlt hsz => exact absurd (Nat.lt_of_lt_of_le hlt hstop) hsz
  | case4 idx num hge =>
    intro hs hle hd hnum
    exact ⟨idx, by rw [hnum], Nat.le_refl _, hle, hd, fun h => absurd h hge⟩

theorem signInfo_start (buf : Buf) (pos : Nat) :
    pos ≤ (signInfo buf pos).2 ∧ (signInfo buf pos).2 ≤ pos + 1 := by
  unfold signInfo; simp only; split <;> omega

/-- the shape of every result of `intBody` -/
def intResult (buf : Buf) (neg : Bool) (start idx : Nat) : Out (Int × Nat) :=
  if idx ≥ buf.size - 1 then .incomplete
  else if idx = start then .err .notInteger
  else if buf[idx]! ≠ 13 then .err .notInteger
  else match chk (sgn neg * (decNat buf start (idx - start) : Int)) with
    | some v => .ok (v, idx + 2)
    | none => .err .notInteger

theorem intBody_cases (buf : Buf) (neg : Bool) (start : Nat) (hs : start ≤ buf.size) :
    ∃ idx, start ≤ idx ∧ (start ≤ buf.size - 1 → idx ≤ buf.size - 1)
      ∧ (∀ j, j < idx - start → isDigit (buf[start+j]!) = true)
      ∧ (idx < buf.size - 1 → isDigit (buf[idx]!) = false)
      ∧ intBody buf neg start = intResult buf neg start idx := by
  by_cases hse : start ≤ buf.size - 1
  · obtain ⟨i1, e1, l1, u1, d1, _⟩ :=
      phase1_spec buf (min (buf.size - 1) (start + 18)) neg start
        (Nat.le_trans (Nat.min_le_left _ _) (Nat.sub_le _ _)) (Nat.min_le_right _ _)
        start 0 (Nat.le_refl _) (Nat.le_min.mpr ⟨hse, Nat.le_add_right _ _⟩)
        (fun j hj => absurd (Nat.sub_self start ▸ hj) (Nat.not_lt_zero j))
        (by rw [Nat.sub_self]; exact (Int.mul_zero _).symm)
    have h18 : i1 - start ≤ 18 := Nat.sub_le_iff_le_add'.mpr (Nat.le_trans u1 (Nat.min_le_right _ _))
    obtain ⟨idx, e2, l2, u2, d2, n2⟩ :=
      phase2_spec buf (buf.size - 1) neg start (Nat.sub_le _ _) i1 _ l1
        (Nat.le_trans u1 (Nat.min_le_left _ _)) d1
        (by rw [chk, if_pos (inI64_of_small (decNat_small buf start _ h18 d1))])
    refine ⟨idx, Nat.le_trans l1 l2, fun _ => u2, d2, n2, ?_⟩
    simp only [intBody, maxSafeDigits, e1, e2]
    rfl
  · -- the sign was the last byte: start = buf.size, nothing to scan
    have hge : start ≥ buf.size - 1 := Nat.le_of_not_le hse
    refine ⟨start, Nat.le_refl _, fun h => absurd h hse,
      fun j hj => absurd (Nat.sub_self start ▸ hj) (Nat.not_lt_zero j),
      fun h => absurd hge (Nat.not_le_of_lt h), ?_⟩
    rw [intBody, phase1, dif_neg (Nat.not_lt.mpr (Nat.le_trans (Nat.min_le_left _ _) hge))]
    simp only
    rw [phase2, dif_neg (Nat.not_lt.mpr hge)]
    simp only
    rw [if_pos hge, intResult, if_pos hge]

theorem getInteger_cases (buf : Buf) (pos : Nat) (hp : pos < buf.size) :
    ∃ idx, (signInfo buf pos).2 ≤ idx ∧ ((signInfo buf pos).2 ≤ buf.size - 1 → idx ≤ buf.size - 1)
      ∧ (∀ j, j < idx - (signInfo buf pos).2 → isDigit (buf[(signInfo buf pos).2+j]!) = true)
      ∧ (idx < buf.size - 1 → isDigit (buf[idx]!) = false)
      ∧ getInteger buf pos = intResult buf (signInfo buf pos).1 (signInfo buf pos).2 idx := by
  obtain ⟨idx, h1, h2, h3, h4, h5⟩ := intBody_cases buf (signInfo buf pos).1 (signInfo buf pos).2
    (Nat.le_trans (signInfo_start buf pos).2 hp)
  refine ⟨idx, h1, h2, h3, h4, ?_⟩
  unfold getInteger; simp only [hp, ↓reduceIte]; exact h5

theorem getInteger_no_panic (buf : Buf) (pos : Nat) : getInteger buf pos ≠ .panic := by
  by_cases hp : pos < buf.size
  · obtain ⟨idx, _, _, _, _, e⟩ := getInteger_cases buf pos hp
    rw [e]
    refine ite_ne nofun (ite_ne nofun (ite_ne nofun ?_))
    split <;> nofun
  · rw [getInteger, if_neg hp]; nofun

/-- Every accepted integer has exactly the value written, wherever it starts, and is in range;
    the cursor ends after the terminator, inside the buffer. -/
theorem getInteger_exact (buf : Buf) (pos : Nat) (v : Int) (p' : Nat)
    (h : getInteger buf pos = .ok (v, p')) :
    pos < buf.size ∧
    ∃ idx, (signInfo buf pos).2 < idx ∧ p' = idx + 2 ∧ p' ≤ buf.size
      ∧ (∀ j, j < idx - (signInfo buf pos).2 → isDigit (buf[(signInfo buf pos).2+j]!) = true)
      ∧ buf[idx]! = 13
      ∧ v = sgn (signInfo buf pos).1 * (decNat buf (signInfo buf pos).2 (idx - (signInfo buf pos).2) : Int)
      ∧ inI64 v = true := by
  by_cases hp : pos < buf.size
  · refine ⟨hp, ?_⟩
    obtain ⟨idx, hle, hub, hd, hnd, e⟩ := getInteger_cases buf pos hp
    rw [e] at h
    -- the result is `ok`: none of the three early exits of `intResult` was taken
    obtain ⟨h1, h⟩ := of_ite_eq h nofun
    obtain ⟨h2, h⟩ := of_ite_eq h nofun
    obtain ⟨h3, h⟩ := of_ite_eq h nofun
    rw [chk] at h
    by_cases hin : inI64 (sgn (signInfo buf pos).1 *
        (decNat buf (signInfo buf pos).2 (idx - (signInfo buf pos).2) : Int)) = true
    · rw [if_pos hin] at h
      cases h
      exact ⟨idx, Nat.lt_of_le_of_ne hle (Ne.symm h2), rfl,
        Nat.add_lt_of_lt_sub (Nat.lt_of_not_le h1), hd, Decidable.not_not.mp h3, rfl, hin⟩
    · rw [if_neg hin] at h
      cases h
  · rw [getInteger, if_neg hp] at h; cases h

theorem getInteger_ok_bounds (buf : Buf) (pos : Nat) (v : Int) (q : Nat)
    (h : getInteger buf pos = .ok (v, q)) : pos < q ∧ q ≤ buf.size := by
  obtain ⟨_, idx, h1, rfl, h3, _⟩ := getInteger_exact buf pos v q h
  exact ⟨Nat.lt_of_le_of_lt (signInfo_start buf pos).1 (Nat.lt_add_right 2 h1), h3⟩

theorem digit_at {buf : Buf} {start idx k : Nat}
    (hd : ∀ j, j < idx - start → isDigit (buf[start+j]!) = true) (h1 : start ≤ k) (h2 : k < idx) :
    isDigit (buf[k]!) = true := by
  have := hd (k - start) (Nat.sub_lt_sub_right h1 h2)
  rwa [Nat.add_sub_cancel' h1] at this

/-- Digits ended by a CR inside the buffer: that CR is where the scan of `get_integer` stops (it
    cannot stop earlier, on a digit, nor run past the CR, which is not a digit), so the number is
    returned iff it passes the range check. -/
theorem getInteger_digits_cr (buf : Buf) (pos : Nat) (hp : pos < buf.size) (idx : Nat)
    (hlt : (signInfo buf pos).2 < idx) (hub : idx < buf.size - 1)
    (hd : ∀ j, j < idx - (signInfo buf pos).2 → isDigit (buf[(signInfo buf pos).2+j]!) = true)
    (hcr : buf[idx]! = 13) :
    getInteger buf pos =
      match chk (sgn (signInfo buf pos).1 *
          (decNat buf (signInfo buf pos).2 (idx - (signInfo buf pos).2) : Int)) with
      | some v => .ok (v, idx + 2)
      | none => .err .notInteger := by
  obtain ⟨idx', hle', hub', hd', hnd', e⟩ := getInteger_cases buf pos hp
  obtain rfl : idx' = idx := by
    rcases Nat.lt_trichotomy idx' idx with h | h | h
    · have h1 := digit_at hd hle' h
      rw [hnd' (Nat.lt_trans h hub)] at h1
      cases h1
    · exact h
    · have h1 := digit_at hd' (Nat.le_of_lt hlt) h
      rw [hcr] at h1
      cases h1
  rw [e, intResult, if_neg (Nat.not_le_of_lt hub), if_neg (Nat.ne_of_gt hlt), if_neg (fun h => h hcr)]

/-- digits all the way to the last byte: the number may go on -/
theorem getInteger_digits_eof (buf : Buf) (pos : Nat) (hp : pos < buf.size)
    (hd : ∀ j, j < buf.size - 1 - (signInfo buf pos).2 → isDigit (buf[(signInfo buf pos).2+j]!) = true) :
    getInteger buf pos = .incomplete := by
  obtain ⟨idx, hle, _, _, hnd, e⟩ := getInteger_cases buf pos hp
  rw [e, intResult, if_pos]
  refine Nat.le_of_not_lt fun hc => ?_
  have h1 := digit_at hd hle hc
  rw [hnd hc] at h1
  cases h1

/-- Out-of-range numbers are rejected (never wrapped). -/
theorem getInteger_reject (buf : Buf) (pos : Nat) (hp : pos < buf.size) :
    ∀ idx, (signInfo buf pos).2 < idx → idx < buf.size - 1 →
      (∀ j, j < idx - (signInfo buf pos).2 → isDigit (buf[(signInfo buf pos).2+j]!) = true) →
      buf[idx]! = 13 →
      inI64 (sgn (signInfo buf pos).1 * (decNat buf (signInfo buf pos).2 (idx - (signInfo buf pos).2) : Int)) = false →
      getInteger buf pos = .err .notInteger := by
  intro idx hlt hub hd hcr hout
  rw [getInteger_digits_cr buf pos hp idx hlt hub hd hcr, chk, if_neg (by rw [hout]; nofun)]

end Resp
