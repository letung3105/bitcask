/-
  `parseF` against `checkF`: whenever parsing succeeds, the completeness check succeeds on the
  same input with the same cursor (so the lengths can never differ), and parsing panics only
  where the check does, that is, never.
-/
import BitcaskVerif.Resp.CheckLemmas

namespace Resp

theorem slice_length (buf : Buf) (a b : Nat) : (slice buf a b).length = min b buf.size - a := by
  rw [slice, Array.length_toList, Array.size_extract]

section
variable {buf : Buf} {pos fuel depth : Nat}

theorem parseF_end (h : ¬ pos < buf.size) : parseF buf (fuel+1) depth pos = .incomplete := by
  rw [parseF]
  simp only [h, ↓reduceDIte]

theorem parseF_line (h : pos < buf.size) (ht : buf[pos] = 43 ∨ buf[pos] = 45) :
    parseF buf (fuel+1) depth pos = (getLine buf (pos+1)).bind fun r =>
      if validUtf8 (slice buf (pos+1) r.1) then
        .ok ((if buf[pos] = 43 then Frame.simple else Frame.error) (slice buf (pos+1) r.1), r.2)
      else .err .notUtf8 := by
  rw [parseF]
  rcases ht with ht | ht <;> simp +decide only [h, ↓reduceDIte, ht, ↓reduceIte] <;>
    cases getLine buf (pos+1) <;> rfl

theorem parseF_int (h : pos < buf.size) (ht : buf[pos] = 58) :
    parseF buf (fuel+1) depth pos =
      (getInteger buf (pos+1)).bind fun r => .ok (.integer r.1, r.2) := by
  rw [parseF]
  simp +decide only [h, ↓reduceDIte, ht, ↓reduceIte]
  cases getInteger buf (pos+1) <;> rfl

theorem parseF_dollarEof (h : pos < buf.size) (ht : buf[pos] = 36) (h1 : ¬ pos + 1 < buf.size) :
    parseF buf (fuel+1) depth pos = .incomplete := by
  rw [parseF]
  simp +decide only [h, ↓reduceDIte, ht, h1, ↓reduceIte]

theorem parseF_null (h : pos < buf.size) (ht : buf[pos] = 36) (h1 : pos + 1 < buf.size)
    (h2 : buf[pos+1] = 45) :
    parseF buf (fuel+1) depth pos = (getLine buf (pos+1)).bind fun r =>
      if slice buf (pos+1) r.1 = [45, 49] then .ok (.null, r.2) else .err .badEncoding := by
  rw [parseF]
  simp +decide only [h, ↓reduceDIte, ht, h1, h2, ↓reduceIte]
  cases getLine buf (pos+1) <;> rfl

theorem parseF_bulk (h : pos < buf.size) (ht : buf[pos] = 36) (h1 : pos + 1 < buf.size)
    (h2 : buf[pos+1] ≠ 45) :
    parseF buf (fuel+1) depth pos = (getInteger buf (pos+1)).bind fun r =>
      if r.1 < 0 then .err .badEncoding
      else if r.1.toNat + 2 > buf.size - r.2 then .incomplete
      else .ok (.bulk (slice buf r.2 (r.2 + r.1.toNat)), r.2 + r.1.toNat + 2) := by
  rw [parseF]
  simp +decide only [h, ↓reduceDIte, ht, h1, h2, ↓reduceIte]
  cases getInteger buf (pos+1) <;> rfl

theorem parseF_array (h : pos < buf.size) (ht : buf[pos] = 42) :
    parseF buf (fuel+1) depth pos =
      if depth ≥ MAX_DEPTH then .err .badEncoding
      else (getInteger buf (pos+1)).bind fun r =>
        if r.1 < 0 then .err .badEncoding
        else (parseManyF buf fuel (depth+1) r.1.toNat r.2).bind fun s => .ok (.array s.1, s.2) := by
  rw [parseF]
  simp +decide only [h, ↓reduceDIte, ht, ↓reduceIte]
  congr 1
  cases getInteger buf (pos+1) with
  | ok r =>
    obtain ⟨v, q⟩ := r
    dsimp only [Out.bind]
    congr 1
    cases parseManyF buf fuel (depth+1) v.toNat q <;> rfl
  | _ => rfl

theorem parseF_other (h : pos < buf.size) (h43 : buf[pos] ≠ 43) (h45 : buf[pos] ≠ 45)
    (h58 : buf[pos] ≠ 58) (h36 : buf[pos] ≠ 36) (h42 : buf[pos] ≠ 42) :
    parseF buf (fuel+1) depth pos = .err .badEncoding := by
  rw [parseF]
  simp only [h, ↓reduceDIte, h43, h45, h58, h36, h42, ↓reduceIte]

theorem parseManyF_succ (n : Nat) :
    parseManyF buf (fuel+1) depth (n+1) pos = (parseF buf fuel depth pos).bind fun r =>
      (parseManyF buf fuel depth n r.2).bind fun s => .ok (r.1 :: s.1, s.2) := by
  rw [parseManyF]
  cases parseF buf fuel depth pos with
  | ok r =>
    obtain ⟨f, q⟩ := r
    dsimp only [Out.bind]
    cases parseManyF buf fuel depth n q <;> rfl
  | _ => rfl

end

def Agree (x : Out (α × Nat)) (y : Out Nat) : Prop :=
  (∀ a q, x = .ok (a, q) → y = .ok q) ∧ (x = .panic → y = .panic)

namespace Agree
variable {x : Out (α × Nat)} {y : Out Nat}

theorem ok (a : α) (q : Nat) : Agree (.ok (a, q)) (.ok q) :=
  ⟨fun _ _ e => by cases e; rfl, nofun⟩

theorem incomplete : Agree (.incomplete : Out (α × Nat)) y := ⟨nofun, nofun⟩

theorem err (e : Err) : Agree (.err e : Out (α × Nat)) y := ⟨nofun, nofun⟩

theorem panic : Agree (.panic : Out (α × Nat)) .panic := ⟨nofun, fun _ => rfl⟩

theorem bind {f : α × Nat → Out (β × Nat)} {g : Nat → Out Nat} (h : Agree x y)
    (hf : ∀ a q, Agree (f (a, q)) (g q)) : Agree (x.bind f) (y.bind g) := by
  cases x with
  | ok r => rw [h.1 r.1 r.2 rfl]; exact hf r.1 r.2
  | incomplete => exact incomplete
  | err e => exact err e
  | panic => rw [h.2 rfl]; exact panic

theorem bind_same (z : Out γ) {f : γ → Out (α × Nat)} {g : γ → Out Nat}
    (hf : ∀ c, Agree (f c) (g c)) : Agree (z.bind f) (z.bind g) := by
  cases z with
  | ok c => exact hf c
  | incomplete => exact incomplete
  | err e => exact err e
  | panic => exact panic

theorem map (h : Agree x y) (g : α → β) : Agree (x.bind fun s => .ok (g s.1, s.2)) y := by
  cases x with
  | ok r => exact ⟨fun _ _ e => by cases e; exact h.1 r.1 r.2 rfl, nofun⟩
  | incomplete => exact incomplete
  | err e => exact err e
  | panic => exact ⟨nofun, fun _ => h.2 rfl⟩

end Agree

theorem parseF_agree (buf : Buf) : ∀ fuel depth pos,
    Agree (parseF buf fuel depth pos) (checkF buf fuel depth pos) ∧
    ∀ n, Agree (parseManyF buf fuel depth n pos) (checkManyF buf fuel depth n pos) := by
  intro fuel
  induction fuel with
  | zero =>
    intro depth pos
    rw [parseF, checkF]
    refine ⟨.panic, fun n => ?_⟩
    cases n <;> rw [parseManyF, checkManyF]
    · exact .ok [] pos
    · exact .panic
  | succ fuel ih =>
    intro depth pos
    constructor
    · cases lead buf pos with
      | eof h => rw [parseF_end h]; exact .incomplete
      | line h ht =>
        rw [parseF_line h ht, checkF_line h ht]
        refine .bind_same _ fun r => ?_
        split
        · exact .ok _ _
        · exact .err _
      | int h ht =>
        rw [parseF_int h ht, checkF_int h ht]
        exact .bind_same _ fun r => .ok _ _
      | dollarEof h ht h1 => rw [parseF_dollarEof h ht h1]; exact .incomplete
      | null h ht h1 h2 =>
        -- the only place where the two read differently: `parse` reads a line and compares it
        -- with "-1", `check` skips four bytes unseen
        rw [parseF_null h ht h1 h2, checkF_null h ht h1 h2]
        constructor
        · intro a q e
          obtain ⟨r, hr, e⟩ := Out.bind_eq_ok.mp e
          split at e
          · rename_i hsl
            cases e
            obtain ⟨_, hq, hle, _⟩ := getLine_ok _ _ _ _ hr
            have hl := slice_length buf (pos+1) r.1
            rw [hsl] at hl
            simp only [List.length_cons, List.length_nil] at hl
            have h4 : pos + 1 + 4 = r.2 := by omega
            rw [skip_eq_ok (h4 ▸ hle), h4]
          · cases e
        · intro e
          rcases Out.bind_eq_panic.mp e with e | ⟨r, _, e⟩
          · exact absurd e (getLine_no_panic _ _ (Nat.zero_lt_of_lt h))
          · split at e <;> cases e
      | bulk h ht h1 h2 =>
        rw [parseF_bulk h ht h1 h2, checkF_bulk h ht h1 h2]
        refine .bind_same _ fun r => ?_
        by_cases hn : r.1 < 0
        · rw [if_pos hn]; exact .err _
        · rw [if_neg hn, if_neg hn]
          by_cases hfit : r.1.toNat + 2 > buf.size - r.2
          · rw [if_pos hfit]; exact .incomplete
          · rw [if_neg hfit, skip, if_neg hfit, ← Nat.add_assoc]; exact .ok _ _
      | array h ht =>
        rw [parseF_array h ht, checkF_array h ht]
        by_cases hd : depth ≥ MAX_DEPTH
        · rw [if_pos hd]; exact .err _
        · rw [if_neg hd, if_neg hd]
          refine .bind_same _ fun r => ?_
          by_cases hn : r.1 < 0
          · rw [if_pos hn]; exact .err _
          · rw [if_neg hn]; exact ((ih (depth+1) r.2).2 r.1.toNat).map _
      | other h h43 h45 h58 h36 h42 =>
        rw [parseF_other h h43 h45 h58 h36 h42]; exact .err _
    · intro n
      cases n with
      | zero => rw [parseManyF, checkManyF]; exact .ok [] pos
      | succ n =>
        rw [parseManyF_succ, checkManyF_succ]
        exact (ih depth pos).1.bind fun a q => ((ih depth q).2 n).map _

theorem parse_no_panic (buf : Buf) : parse buf ≠ .panic :=
  fun e => check_no_panic buf ((parseF_agree buf (fuelFor buf) 0 0).1.2 e)

theorem parse_ok_check (buf : Buf) (f : Frame) (q : Nat) (h : parse buf = .ok (f, q)) :
    check buf = .ok q :=
  (parseF_agree buf (fuelFor buf) 0 0).1.1 f q h

theorem parseFrame_no_panic (buf : Buf) : parseFrame buf ≠ .panic := by
  -- three branches of `parseFrame` return `panic`: none is taken
  fun_cases parseFrame buf
  case case2 n hn _ _ _ hsz => exact absurd (check_ok_bounds buf n hn).2 hsz  -- frame beyond the buffer
  case case5 _ _ hp => exact absurd hp (parse_no_panic buf)
  case case8 hc => exact absurd hc (check_no_panic buf)
  all_goals nofun

end Resp
