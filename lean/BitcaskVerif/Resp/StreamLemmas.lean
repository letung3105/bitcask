/-
  C08 — `read_frame` over a stream that carries encoded frames, delivered in arbitrary segments.
  `wire f` is what `write_frame` sends for `f`; `check_prefix`: a proper prefix of it is
  `incomplete`; `readAll_frames`: the reader loop returns the frames sent and goes on with the rest
  of the stream; `stream_end`: a rest that never completes a frame ends the run, cleanly if it is
  empty and with a reset if not.
-/
import BitcaskVerif.Resp.RoundTrip
import BitcaskVerif.Resp.PrefixLemmas
import BitcaskVerif.Resp.Conn

namespace Resp

/-- the bytes `write_frame` puts on the wire for `f` (nothing if the call would panic; it never
    does on a `WfFrame`, see `encode_total`) -/
def wire (f : Frame) : List UInt8 := (encode f).getD []

theorem wire_eq (f : Frame) (e : List UInt8) (h : encode f = some e) : wire f = e := by
  simp [wire, h]

theorem encode_length (f : Frame) (e : List UInt8) (hw : WfFrame f) (he : encode f = some e) :
    3 ≤ e.length := by
  rcases encode_cases f e hw he with ⟨_, he⟩ | ⟨xs, b, rfl, _, _, _, rfl⟩
  · exact encodeSingle_length f e he
  · simp only [List.length_append, List.length_cons, List.length_nil]; omega

theorem parseFrame_full (buf : Buf) (f : Frame) (e r : List UInt8) (hw : WfFrame f)
    (he : encode f = some e) (hb : buf.toList = e ++ r) : parseFrame buf = .frame f e.length := by
  have hbuf : buf = (e ++ r).toArray := by rw [← hb]
  obtain ⟨h1, h2⟩ := roundtrip f e r hw he
  rw [← hbuf] at h1 h2
  have hsz : e.length ≤ buf.size := by
    have := congrArg List.length hb
    simp only [Array.length_toList, List.length_append] at this; omega
  unfold parseFrame
  simp only [h2, h1, hsz, ↓reduceIte]

theorem check_prefix (f : Frame) (e p : List UInt8) (hw : WfFrame f) (he : encode f = some e)
    (hp : p <+: e) (hne : p ≠ e) : check p.toArray = .incomplete := by
  have hc := (roundtrip f e [] hw he).2
  rw [List.append_nil] at hc
  obtain ⟨t, rfl⟩ := hp
  have ht : 0 < t.length := List.length_pos_iff.mpr (by rintro rfl; simp at hne)
  rw [check_trunc ⟨by simp, fun k hk => ?_⟩ hc, if_neg (by simp; omega)]
  simp only [List.size_toArray] at hk
  simp [List.getElem!_eq_getElem?_getD, List.getElem?_append_left hk]

theorem parseFrame_need (buf : Buf) (f : Frame) (e : List UInt8) (hw : WfFrame f)
    (he : encode f = some e) (hp : buf.toList <+: e) (hne : buf.toList ≠ e) : parseFrame buf = .need := by
  have := check_prefix f e buf.toList hw he hp hne
  simp only [Array.toArray_toList] at this
  unfold parseFrame
  simp only [this]

theorem readFrame_full (buf : Buf) (segs : List (List UInt8)) (f : Frame) (e r : List UInt8)
    (hw : WfFrame f) (he : encode f = some e) (hb : buf.toList = e ++ r) :
    ∃ buf', readFrame buf segs = (.frame f, buf', segs) ∧ buf'.toList = r := by
  have hs : buf.size = e.length + r.length := by simpa using congrArg List.length hb
  refine ⟨buf.extract e.length buf.size, ?_, by simp [hb, hs]⟩
  unfold readFrame
  simp only [parseFrame_full buf f e r hw he hb]

theorem readFrame_need_nil (buf : Buf) (h : parseFrame buf = .need) :
    readFrame buf [] = if buf.size = 0 then (.cleanEnd, buf, []) else (.reset, buf, []) := by
  unfold readFrame; simp only [h]

theorem readFrame_need_cons (buf : Buf) (s : List UInt8) (rest : List (List UInt8))
    (h : parseFrame buf = .need) :
    readFrame buf (s :: rest) = readFrame (buf ++ s.toArray) rest := by
  rw [readFrame]; simp only [h]

theorem readFrame_frame (f : Frame) (e tail : List UInt8) (hw : WfFrame f) (he : encode f = some e) :
    ∀ (segs : List (List UInt8)) (buf : Buf), buf.toList ++ segs.flatten = e ++ tail →
      ∃ buf' segs', readFrame buf segs = (.frame f, buf', segs') ∧
        buf'.toList ++ segs'.flatten = tail := by
  intro segs
  induction segs with
  | nil =>
    -- nothing more will come: the buffer holds the whole of `e`
    intro buf h
    rw [List.flatten_nil, List.append_nil] at h
    obtain ⟨buf', hr, hb⟩ := readFrame_full buf [] f e tail hw he h
    exact ⟨buf', [], hr, by rw [hb, List.flatten_nil, List.append_nil]⟩
  | cons s rest ih =>
    intro buf h
    rcases List.append_eq_append_iff.mp h with ⟨a, ha, hs⟩ | ⟨r, hr, ht⟩
    · -- the buffer is a prefix of `e`: all of it, or `parse_frame` asks for more
      by_cases hne : buf.toList = e
      · obtain ⟨buf', hr, hb⟩ := readFrame_full buf (s :: rest) f e [] hw he (by rw [hne, List.append_nil])
        rw [hne, List.self_eq_append_right] at ha
        exact ⟨buf', _, hr, by rw [hb, hs, ha]; rfl⟩
      · rw [readFrame_need_cons buf s rest (parseFrame_need buf f e hw he ⟨a, ha.symm⟩ hne)]
        exact ih _ (by rw [← h]; simp)
    · obtain ⟨buf', hr', hb⟩ := readFrame_full buf (s :: rest) f e r hw he hr
      exact ⟨buf', _, hr', by rw [hb, ht]⟩

theorem readAllF_frames : ∀ (fs : List Frame) (fuel : Nat) (buf : Buf) (segs : List (List UInt8))
    (tail : List UInt8), (∀ f ∈ fs, WfFrame f) →
    buf.toList ++ segs.flatten = fs.flatMap wire ++ tail →
    ∃ buf' segs', buf'.toList ++ segs'.flatten = tail ∧
      readAllF (fs.length + fuel) buf segs = fs.map .frame ++ readAllF fuel buf' segs' := by
  intro fs
  induction fs with
  | nil =>
    intro fuel buf segs tail _ h
    exact ⟨buf, segs, by simpa using h, by simp⟩
  | cons f fs ih =>
    intro fuel buf segs tail hw h
    obtain ⟨e, he⟩ := encode_total f (hw f (by simp))
    rw [List.flatMap_cons, wire_eq f e he, List.append_assoc] at h
    obtain ⟨buf1, segs1, hr, h1⟩ := readFrame_frame f e _ (hw f (by simp)) he segs buf h
    obtain ⟨buf', segs', h2, h3⟩ := ih fuel buf1 segs1 tail (fun g hg => hw g (by simp [hg])) h1
    refine ⟨buf', segs', h2, ?_⟩
    rw [List.length_cons, Nat.add_right_comm, readAllF]
    simp only [hr, h3, List.map_cons, List.cons_append]

theorem readFrame_exhaust (P : List UInt8) (hneed : ∀ q, q <+: P → parseFrame q.toArray = .need) :
    ∀ (segs : List (List UInt8)) (buf : Buf), buf.toList ++ segs.flatten = P →
      readFrame buf segs = (if P = [] then .cleanEnd else .reset, P.toArray, []) := by
  intro segs
  induction segs with
  | nil =>
    intro buf h
    rw [List.flatten_nil, List.append_nil] at h
    obtain rfl : buf = P.toArray := by rw [← h]
    rw [readFrame_need_nil _ (hneed P (List.prefix_refl P))]
    simp only [List.size_toArray, List.length_eq_zero_iff]
    split <;> rfl
  | cons s rest ih =>
    intro buf h
    have hn : parseFrame buf = .need := by
      simpa using hneed buf.toList ⟨(s :: rest).flatten, h⟩
    rw [readFrame_need_cons buf s rest hn]
    exact ih _ (by rw [← h]; simp)

theorem parseFrame_empty : parseFrame #[] = .need := by
  have : check #[] = .incomplete := checkF_end (Nat.lt_irrefl _)
  rw [parseFrame, this]

theorem wire_flatMap_length (fs : List Frame) (hw : ∀ f ∈ fs, WfFrame f) :
    fs.length ≤ (fs.flatMap wire).length := by
  induction fs with
  | nil => simp
  | cons f fs ih =>
    obtain ⟨e, he⟩ := encode_total f (hw f (by simp))
    have := encode_length f e (hw f (by simp)) he
    have := ih (fun g hg => hw g (by simp [hg]))
    rw [List.flatMap_cons, wire_eq f e he]
    simp only [List.length_cons, List.length_append]; omega

theorem readAll_frames (fs : List Frame) (tail : List UInt8) (segs : List (List UInt8))
    (hw : ∀ f ∈ fs, WfFrame f) (h : segs.flatten = fs.flatMap wire ++ tail) :
    ∃ fuel buf' segs', tail.length < fuel ∧ buf'.toList ++ segs'.flatten = tail ∧
      readAll segs = fs.map .frame ++ readAllF fuel buf' segs' := by
  obtain ⟨d, hd⟩ := Nat.exists_eq_add_of_le (wire_flatMap_length fs hw)
  have hk : segs.flatten.length + 2 = fs.length + (d + tail.length + 2) := by
    rw [h, List.length_append, hd]; omega
  obtain ⟨buf', segs', h1, h2⟩ := readAllF_frames fs (d + tail.length + 2) #[] segs tail hw h
  exact ⟨d + tail.length + 2, buf', segs', by omega, h1, by rw [readAll, hk, h2]⟩

theorem stream_end (fs : List Frame) (p : List UInt8) (segs : List (List UInt8))
    (hw : ∀ f ∈ fs, WfFrame f) (hneed : ∀ q, q <+: p → parseFrame q.toArray = .need)
    (h : segs.flatten = fs.flatMap wire ++ p) :
    readAll segs = fs.map .frame ++ [if p = [] then .cleanEnd else .reset] := by
  obtain ⟨fuel, buf', segs', hf, h1, h2⟩ := readAll_frames fs p segs hw h
  obtain ⟨k, rfl⟩ : ∃ k, fuel = k + 1 := ⟨fuel - 1, by omega⟩
  rw [h2, readAllF, readFrame_exhaust p hneed segs' buf' h1]
  by_cases hp : p = []
  · rw [if_pos hp]
  · rw [if_neg hp]

theorem stream_clean (fs : List Frame) (segs : List (List UInt8)) (hw : ∀ f ∈ fs, WfFrame f)
    (h : segs.flatten = fs.flatMap wire) : readAll segs = fs.map .frame ++ [.cleanEnd] :=
  stream_end fs [] segs hw
    (fun q hq => by rw [List.prefix_nil.mp hq]; exact parseFrame_empty) (by rw [h, List.append_nil])

theorem stream_reset (fs : List Frame) (f : Frame) (e p : List UInt8) (segs : List (List UInt8))
    (hw : ∀ g ∈ fs, WfFrame g) (hf : WfFrame f) (he : encode f = some e)
    (hp : p <+: e) (hne : p ≠ e) (hnil : p ≠ [])
    (h : segs.flatten = fs.flatMap wire ++ p) : readAll segs = fs.map .frame ++ [.reset] := by
  rw [stream_end fs p segs hw ?_ h, if_neg hnil]
  intro q hq
  apply parseFrame_need q.toArray f e hf he (List.IsPrefix.trans hq hp)
  intro heq
  exact hne (List.IsPrefix.eq_of_length_le hp (heq ▸ List.IsPrefix.length_le hq))

theorem flatMap_wire_of_map (fs : List Frame) : ∀ (es : List (List UInt8)),
    fs.map encode = es.map some → fs.flatMap wire = es.flatten := by
  induction fs with
  | nil => intro es h; cases es <;> simp_all
  | cons f fs ih =>
    intro es h
    cases es with
    | nil => simp at h
    | cons e es =>
      simp only [List.map_cons, List.cons.injEq] at h
      simp only [List.flatMap_cons, List.flatten_cons, wire_eq f e h.1, ih es h.2]

theorem flatten_singletons (l : List UInt8) : (l.map fun b => [b]).flatten = l := by
  induction l with
  | nil => rfl
  | cons x l ih => simp only [List.map_cons, List.flatten_cons, ih, List.singleton_append]

end Resp
