/-
  Lemmas about the connection reader and the handler model: `read_frame` never panics, a reader
  loop terminates within its fuel, and the handler's store and reply bytes are those the map model
  gives for the well-formed commands that precede the first error.
-/
import BitcaskVerif.Resp.Server
import BitcaskVerif.Resp.ParseLemmas

namespace Resp

def pendingBytes (buf : Buf) (segs : List (List UInt8)) : Nat := buf.size + segs.flatten.length

theorem parseFrame_frame_bounds {buf : Buf} {f : Frame} {n : Nat} (hp : parseFrame buf = .frame f n) :
    0 < n ∧ n ≤ buf.size := by
  revert hp
  -- only one branch of `parseFrame` returns a frame, with the length `check` reported
  fun_cases parseFrame buf
  case case1 k hk _ _ _ _ => intro hp; cases hp; exact check_ok_bounds buf _ hk
  all_goals nofun

theorem readFrame_spec {buf buf' : Buf} {segs segs' : List (List UInt8)} {r : ReadRes}
    (h : readFrame buf segs = (r, buf', segs')) :
    r ≠ .panic ∧ (∀ f, r = .frame f → pendingBytes buf' segs' < pendingBytes buf segs) := by
  fun_induction readFrame buf segs with
  | case1 buf segs f n hp =>
    cases h
    obtain ⟨h0, hn⟩ := parseFrame_frame_bounds hp
    refine ⟨nofun, fun _ _ => ?_⟩
    simp only [pendingBytes, Array.size_extract, Nat.min_self]
    exact Nat.add_lt_add_right (Nat.sub_lt (Nat.lt_of_lt_of_le h0 hn) h0) _
  | case2 => cases h; exact ⟨nofun, nofun⟩
  | case3 buf _ hp => exact absurd hp (parseFrame_no_panic buf)
  | case4 => cases h; exact ⟨nofun, nofun⟩
  | case5 => cases h; exact ⟨nofun, nofun⟩
  | case6 buf _ s rest ih =>
    refine ⟨(ih h).1, fun f hf => ?_⟩
    have := (ih h).2 f hf
    simpa only [pendingBytes, Array.size_append, List.size_toArray, List.flatten_cons,
      List.length_append, Nat.add_assoc] using this

theorem readAllF_no_panic (fuel : Nat) (buf : Buf) (segs : List (List UInt8))
    (h : pendingBytes buf segs < fuel) : ReadRes.panic ∉ readAllF fuel buf segs := by
  fun_induction readAllF fuel buf segs with
  | case1 => exact absurd h (Nat.not_lt_zero _)
  | case2 fuel buf segs f buf' segs' hr ih =>
    have hlt := (readFrame_spec hr).2 f rfl
    exact List.not_mem_cons_of_ne_of_not_mem nofun (ih (Nat.lt_of_lt_of_le hlt (Nat.le_of_lt_succ h)))
  | case3 fuel buf segs r _ _ _ hr =>
    exact fun hm => (readFrame_spec hr).1 (List.mem_singleton.mp hm).symm

theorem readAll_no_panic (segs : List (List UInt8)) : ReadRes.panic ∉ readAll segs :=
  readAllF_no_panic _ #[] segs (by simp [pendingBytes])

/-- replies are never arrays, so `write_frame` never hits `unimplemented!()` -/
theorem encode_reply_some (m : KV) (c : Cmd) : ∃ b, encode (applyCmd m c).2 = some b := by
  cases c with
  | set k v => exact ⟨_, rfl⟩
  | get k =>
    simp only [applyCmd]
    cases m k <;> exact ⟨_, rfl⟩
  | del ks => exact ⟨_, rfl⟩

theorem serveFrames_frame_error {f : Frame} {e : CmdErr} (m : KV) (rest : List ReadRes)
    (h : Cmd.ofFrame f = .error e) : serveFrames m (.frame f :: rest) = (m, [], .cmdError e) := by
  simp only [serveFrames, h]

theorem serveFrames_frame_ok {f : Frame} {c : Cmd} (m : KV) (rest : List ReadRes)
    (h : Cmd.ofFrame f = .ok c) :
    serveFrames m (.frame f :: rest) =
      ((serveFrames (applyCmd m c).1 rest).1,
        (encode (applyCmd m c).2).getD [] ++ (serveFrames (applyCmd m c).1 rest).2.1,
        (serveFrames (applyCmd m c).1 rest).2.2) := by
  obtain ⟨b, hb⟩ := encode_reply_some m c
  simp only [serveFrames, h]
  generalize applyCmd m c = p at hb
  obtain ⟨m1, reply⟩ := p
  simp only [show encode reply = some b from hb, Option.getD_some]

theorem serveFrames_no_panic (m : KV) (rs : List ReadRes) (h : ReadRes.panic ∉ rs) :
    (serveFrames m rs).2.2 ≠ .panic := by
  induction rs generalizing m with
  | nil => nofun
  | cons r rest ih =>
    cases r with
    | frame f =>
      cases hc : Cmd.ofFrame f with
      | error e => rw [serveFrames_frame_error m rest hc]; nofun
      | ok c =>
        rw [serveFrames_frame_ok m rest hc]
        exact ih _ (fun hm => h (List.mem_cons_of_mem _ hm))
    | panic => exact absurd List.mem_cons_self h
    | _ => nofun

/-- the commands a handler applies: those of the leading frames, up to the first frame that is
    not a command (or the first non-frame result) -/
def goodPrefix : List ReadRes → List Cmd
  | .frame f :: rest =>
    match Cmd.ofFrame f with
    | .ok c => c :: goodPrefix rest
    | .error _ => []
  | _ => []

def applyAll (m : KV) (cs : List Cmd) : KV := cs.foldl (fun m c => (applyCmd m c).1) m

def specReplies (m : KV) : List Cmd → KV × List Frame
  | [] => (m, [])
  | c :: cs =>
    let (m1, r) := applyCmd m c
    let (m2, rs) := specReplies m1 cs
    (m2, r :: rs)

def encodeAll : List Frame → List UInt8
  | [] => []
  | f :: fs => ((encode f).getD []) ++ encodeAll fs

theorem specReplies_cons (m : KV) (c : Cmd) (cs : List Cmd) :
    specReplies m (c :: cs) =
      ((specReplies (applyCmd m c).1 cs).1, (applyCmd m c).2 :: (specReplies (applyCmd m c).1 cs).2) :=
  rfl

theorem specReplies_append (m : KV) (as bs : List Cmd) :
    specReplies m (as ++ bs) =
      ((specReplies (specReplies m as).1 bs).1,
        (specReplies m as).2 ++ (specReplies (specReplies m as).1 bs).2) := by
  induction as generalizing m with
  | nil => rfl
  | cons a as ih => simp only [List.cons_append, specReplies_cons, ih]

theorem specReplies_fst (m : KV) (cs : List Cmd) : (specReplies m cs).1 = applyAll m cs := by
  induction cs generalizing m with
  | nil => rfl
  | cons c cs ih => simp only [specReplies_cons, ih, applyAll, List.foldl_cons]

theorem specReplies_length (m : KV) (cs : List Cmd) : (specReplies m cs).2.length = cs.length := by
  induction cs generalizing m with
  | nil => rfl
  | cons c cs ih => simp only [specReplies_cons, List.length_cons, ih]

theorem specReplies_forall {P : Frame → Prop} (hP : ∀ m c, P (applyCmd m c).2) (m : KV)
    (cs : List Cmd) : ∀ f, f ∈ (specReplies m cs).2 → P f := by
  induction cs generalizing m with
  | nil => nofun
  | cons c cs ih =>
    rw [specReplies_cons]
    exact List.forall_mem_cons.mpr ⟨hP m c, ih _⟩

theorem encodeAll_eq_flatMap_encode (fs : List Frame) :
    encodeAll fs = fs.flatMap fun f => (encode f).getD [] := by
  induction fs with
  | nil => rfl
  | cons f fs ih => rw [encodeAll, ih, List.flatMap_cons]

theorem encodeAll_append (as bs : List Frame) : encodeAll (as ++ bs) = encodeAll as ++ encodeAll bs := by
  simp only [encodeAll_eq_flatMap_encode, List.flatMap_append]

theorem encodeAll_whole (fs : List Frame) (h : ∀ f, f ∈ fs → ∃ b, encode f = some b) :
    ∃ bs : List (List UInt8), fs.map encode = bs.map some ∧ encodeAll fs = bs.flatten := by
  induction fs with
  | nil => exact ⟨[], rfl, rfl⟩
  | cons f fs ih =>
    obtain ⟨b, hb⟩ := h f List.mem_cons_self
    obtain ⟨bs, h1, h2⟩ := ih (fun g hg => h g (List.mem_cons_of_mem _ hg))
    refine ⟨b :: bs, ?_, ?_⟩
    · rw [List.map_cons, List.map_cons, hb, h1]
    · rw [encodeAll, hb, h2]; rfl

theorem serveFrames_spec (m : KV) (rs : List ReadRes) :
    (serveFrames m rs).1 = (specReplies m (goodPrefix rs)).1 ∧
      (serveFrames m rs).2.1 = encodeAll (specReplies m (goodPrefix rs)).2 := by
  induction rs generalizing m with
  | nil => exact ⟨rfl, rfl⟩
  | cons r rest ih =>
    cases r with
    | frame f =>
      cases hc : Cmd.ofFrame f with
      | error e =>
        rw [serveFrames_frame_error m rest hc]
        simp only [goodPrefix, hc]
        exact ⟨rfl, rfl⟩
      | ok c =>
        rw [serveFrames_frame_ok m rest hc]
        simp only [goodPrefix, hc, specReplies_cons, encodeAll, ih, and_self]
    | _ => exact ⟨rfl, rfl⟩

end Resp
