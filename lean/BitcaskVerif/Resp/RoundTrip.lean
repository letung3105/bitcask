/-
  C08 — decoding what the encoder wrote. `At buf pos e` says that the buffer holds the bytes `e`
  at offset `pos`; `WfSingle` / `WfFrame` (both decidable) are the frames `write_frame` accepts.
  What `get_line`, `get_integer` and `parseF` do on a buffer that holds an encoded frame `At` some
  offset, up to `roundtrip`: `parse (encode f ++ rest) = ok (f, |encode f|)`.
-/
import BitcaskVerif.Resp.ParseLemmas

namespace Resp

def At (buf : Buf) (pos : Nat) (e : List UInt8) : Prop :=
  pos + e.length ≤ buf.size ∧ ∀ j (h : j < e.length), buf[pos+j]! = e[j]

theorem At_nil (buf : Buf) (pos : Nat) (h : pos ≤ buf.size) : At buf pos [] :=
  ⟨by simpa using h, fun j h => by simp at h⟩

theorem At_cons (buf : Buf) (pos : Nat) (x : UInt8) (e : List UInt8) :
    At buf pos (x :: e) ↔ ∃ h : pos < buf.size, buf[pos] = x ∧ At buf (pos + 1) e := by
  constructor
  · rintro ⟨hb, hj⟩
    have hp : pos < buf.size := Nat.lt_of_lt_of_le (Nat.lt_add_of_pos_right (Nat.zero_lt_succ _)) hb
    refine ⟨hp, ?_, ?_, fun j h => ?_⟩
    · rw [← getElem!_pos buf pos hp]; exact hj 0 (Nat.zero_lt_succ _)
    · rw [Nat.add_right_comm]; exact hb
    · rw [Nat.add_right_comm]; exact hj (j + 1) (Nat.succ_lt_succ h)
  · rintro ⟨hp, h2, hb, hj⟩
    refine ⟨by rw [Nat.add_right_comm] at hb; exact hb, fun j h => ?_⟩
    cases j with
    | zero => rw [Nat.add_zero, getElem!_pos buf pos hp]; exact h2
    | succ j => rw [← Nat.add_assoc, Nat.add_right_comm]; exact hj j (Nat.lt_of_succ_lt_succ h)

theorem At_append (buf : Buf) (pos : Nat) (a b : List UInt8) :
    At buf pos (a ++ b) ↔ At buf pos a ∧ At buf (pos + a.length) b := by
  induction a generalizing pos with
  | nil => exact ⟨fun h => ⟨At_nil buf pos (Nat.le_trans (Nat.le_add_right _ _) h.1), h⟩, fun h => h.2⟩
  | cons x a ih =>
    simp only [List.cons_append, At_cons, ih, List.length_cons]
    rw [Nat.add_assoc pos 1, Nat.add_comm 1]
    exact ⟨fun ⟨h, e, h1, h2⟩ => ⟨⟨h, e, h1⟩, h2⟩,
      fun ⟨⟨h, e, h1⟩, h2⟩ => ⟨h, e, h1, h2⟩⟩

theorem At_toArray (e rest : List UInt8) : At (e ++ rest).toArray 0 e :=
  ⟨by simp, fun j h => by simp [List.getElem?_append_left h, h]⟩

theorem At_slice {buf : Buf} {pos : Nat} {e t : List UInt8} (h : At buf pos (e ++ t)) :
    slice buf pos (pos + e.length) = e := by
  obtain ⟨hb, hj⟩ := ((At_append ..).mp h).1
  apply List.ext_getElem
  · rw [slice_length, Nat.min_eq_left hb, Nat.add_sub_cancel_left]
  · intro j h1 h2
    rw [← hj j h2, getElem!_pos buf (pos + j) (Nat.lt_of_lt_of_le (Nat.add_lt_add_left h2 pos) hb)]
    simp only [slice, Array.toList_extract, List.getElem_take, List.getElem_drop, Array.getElem_toList]

theorem digit_ofNat : ∀ k, k < 10 →
    isDigit (UInt8.ofNat (48 + k)) = true ∧ dvalN (UInt8.ofNat (48 + k)) = k := by decide

theorem natDigits_pos (n : Nat) : 0 < (natDigits n).length := by
  fun_induction natDigits n with
  | case1 n h => simp
  | case2 n h ih => simp

theorem natDigits_digit (n : Nat) : ∀ d ∈ natDigits n, isDigit d = true := by
  fun_induction natDigits n with
  | case1 n h =>
    intro d hd
    simp only [List.mem_singleton] at hd
    subst hd; exact (digit_ofNat n h).1
  | case2 n h ih =>
    intro d hd
    simp only [List.mem_append, List.mem_singleton] at hd
    rcases hd with hd | hd
    · exact ih d hd
    · subst hd; exact (digit_ofNat (n % 10) (by omega)).1

theorem decNat_natDigits (buf : Buf) (i n : Nat) :
    At buf i (natDigits n) → decNat buf i (natDigits n).length = n := by
  fun_induction natDigits n with
  | case1 n h =>
    intro hat
    have := hat.2 0 (by simp)
    simp only [Nat.add_zero, List.getElem_cons_zero] at this
    simp only [List.length_singleton, decNat, Nat.add_zero, this, (digit_ofNat n h).2, Nat.zero_mul,
      Nat.zero_add]
  | case2 n h ih =>
    intro hat
    rw [At_append] at hat
    obtain ⟨h1, h2⟩ := hat
    have := h2.2 0 (by simp)
    simp only [Nat.add_zero, List.getElem_cons_zero] at this
    simp only [List.length_append, List.length_singleton, decNat, ih h1, this,
      (digit_ofNat (n % 10) (Nat.mod_lt _ (by decide))).2]
    exact Nat.div_add_mod' n 10

theorem getLine_at (buf : Buf) (pos : Nat) (s : List UInt8) (y : UInt8)
    (hat : At buf pos (s ++ [13, y])) (hs : ∀ b ∈ s, b ≠ 13 ∧ b ≠ 10) :
    getLine buf pos = .ok (pos + s.length, pos + s.length + 2) := by
  obtain ⟨h1, h2⟩ := (At_append ..).mp hat
  refine getLine_found (Nat.le_add_right _ _) h2.1 (h2.2 0 (Nat.zero_lt_succ _)) fun k hk1 hk2 => ?_
  obtain ⟨j, rfl⟩ := Nat.exists_eq_add_of_le hk1
  have hj : j < s.length := Nat.lt_of_add_lt_add_left hk2
  rw [h1.2 j hj]
  exact hs _ (List.getElem_mem hj)

theorem isDigit_ne_sign {b : UInt8} (h : isDigit b = true) : b ≠ 45 ∧ b ≠ 43 := by
  constructor <;> (intro e; subst e; revert h; decide)

theorem isDigit_ne_crlf {b : UInt8} (h : isDigit b = true) : b ≠ 13 ∧ b ≠ 10 := by
  constructor <;> (intro e; subst e; revert h; decide)

theorem intRepr_nonneg (v : Int) (h : 0 ≤ v) : intRepr v = natDigits v.natAbs := by
  rw [intRepr, if_neg (Int.not_lt.mpr h)]

theorem intRepr_neg (v : Int) (h : v < 0) : intRepr v = 45 :: natDigits v.natAbs := by
  rw [intRepr, if_pos h]

theorem At_intRepr_head {buf : Buf} {p : Nat} {v : Int} {rest : List UInt8} (hv : 0 ≤ v)
    (hat : At buf p (intRepr v ++ rest)) : ∃ h : p < buf.size, isDigit buf[p] = true := by
  rw [intRepr_nonneg v hv] at hat
  cases hn : natDigits v.natAbs with
  | nil => exact absurd (natDigits_pos v.natAbs) (by rw [hn]; exact Nat.lt_irrefl 0)
  | cons d t =>
    rw [hn, List.cons_append, At_cons] at hat
    obtain ⟨hp, h0, _⟩ := hat
    exact ⟨hp, h0 ▸ natDigits_digit _ d (by rw [hn]; exact List.mem_cons_self)⟩

theorem signInfo_of_ne {buf : Buf} {pos : Nat} (h : buf[pos]! ≠ 45 ∧ buf[pos]! ≠ 43) :
    signInfo buf pos = (false, pos) := by
  simp [signInfo, h.1, h.2]

theorem signInfo_neg (buf : Buf) (pos : Nat) (h : buf[pos]! = 45) :
    signInfo buf pos = (true, pos + 1) := by
  simp [signInfo, h]

theorem getInteger_at_aux (buf : Buf) (pos : Nat) (neg : Bool) (start n : Nat) (y : UInt8)
    (hp : pos < buf.size) (hsi : signInfo buf pos = (neg, start))
    (hat : At buf start (natDigits n ++ [13, y]))
    (hin : inI64 (sgn neg * (n : Int)) = true) :
    getInteger buf pos = .ok (sgn neg * (n : Int), start + (natDigits n).length + 2) := by
  rw [At_append, At_cons] at hat
  obtain ⟨h1, h2, h3, h4⟩ := hat
  have hb := h4.1
  simp only [List.length_cons, List.length_nil] at hb
  have hpos := natDigits_pos n
  have := getInteger_digits_cr buf pos hp (start + (natDigits n).length)
  rw [hsi] at this
  simp only [Nat.add_sub_cancel_left, decNat_natDigits buf start n h1, chk, hin, ↓reduceIte] at this
  exact this (Nat.lt_add_of_pos_right hpos) (Nat.lt_sub_of_add_lt hb) 
    (fun j hj => by rw [h1.2 j hj]; exact natDigits_digit n _ (List.getElem_mem hj))
    (by rw [getElem!_pos buf _ h2]; exact h3)

theorem getInteger_at (buf : Buf) (pos : Nat) (v : Int) (y : UInt8)
    (hv : inI64 v = true) (hat : At buf pos (intRepr v ++ [13, y])) :
    getInteger buf pos = .ok (v, pos + (intRepr v).length + 2) := by
  by_cases hneg : v < 0
  · rw [intRepr_neg v hneg] at hat ⊢
    rw [List.cons_append, At_cons] at hat
    obtain ⟨hp, h45, hat⟩ := hat
    have hval : sgn true * ((v.natAbs : Nat) : Int) = v := by
      rw [Int.ofNat_natAbs_of_nonpos (Int.le_of_lt hneg)]; exact (Int.neg_one_mul _).trans (Int.neg_neg v)
    have := getInteger_at_aux buf pos true (pos + 1) v.natAbs y hp
      (signInfo_neg buf pos (by rw [getElem!_pos buf pos hp]; exact h45)) hat (by rw [hval]; exact hv)
    rw [this, hval, List.length_cons, Nat.add_right_comm pos 1, ← Nat.add_assoc pos]
  · have hnn : 0 ≤ v := Int.not_lt.mp hneg
    obtain ⟨hp, hd⟩ := At_intRepr_head hnn hat
    rw [intRepr_nonneg v hnn] at hat ⊢
    have hval : sgn false * ((v.natAbs : Nat) : Int) = v := by
      rw [Int.natAbs_of_nonneg hnn]; exact Int.one_mul v
    have := getInteger_at_aux buf pos false pos v.natAbs y hp
      (signInfo_of_ne (by rw [getElem!_pos buf pos hp]; exact isDigit_ne_sign hd)) hat
      (by rw [hval]; exact hv)
    rw [this, hval]

theorem header_at {buf : Buf} {p : Nat} {n : Nat} {rest : List UInt8} (hn : (n : Int) ≤ I64Max)
    (hat : At buf p ((intRepr (n : Int) ++ [13, 10]) ++ rest)) :
    (∃ h : p < buf.size, buf[p] ≠ 45) ∧
    getInteger buf p = .ok ((n : Int), p + (intRepr (n : Int)).length + 2) ∧
    At buf (p + (intRepr (n : Int)).length + 2) rest := by
  have hin : inI64 (n : Int) = true :=
    (inI64_iff _).mpr ⟨Int.le_trans (by decide) (Int.natCast_nonneg n), hn⟩
  rw [At_append] at hat
  obtain ⟨hp, hd⟩ := At_intRepr_head (Int.natCast_nonneg n) hat.1
  refine ⟨⟨hp, (isDigit_ne_sign hd).1⟩, getInteger_at buf p _ 10 hin hat.1, ?_⟩
  have := hat.2
  rwa [List.length_append, ← Nat.add_assoc] at this

/-- non-array frames the connection can write and that survive a round trip: simple strings and
    errors are UTF-8 without CR/LF, integers fit `i64`, bulk lengths fit `i64` -/
def WfSingle : Frame → Prop
  | .simple s => validUtf8 s = true ∧ ∀ b ∈ s, b ≠ 13 ∧ b ≠ 10
  | .error s => validUtf8 s = true ∧ ∀ b ∈ s, b ≠ 13 ∧ b ≠ 10
  | .integer i => I64Min ≤ i ∧ i ≤ I64Max
  | .bulk b => (b.length : Int) ≤ I64Max
  | .null => True
  | .array _ => False

instance (f : Frame) : Decidable (WfSingle f) := by
  cases f <;> unfold WfSingle <;> infer_instance

/-- frames `write_frame` can write: a non-array frame, or one array level of non-array frames -/
def WfFrame (f : Frame) : Prop :=
  WfSingle f ∨ ∃ xs, f = .array xs ∧ (∀ x ∈ xs, WfSingle x) ∧ (xs.length : Int) ≤ I64Max

theorem WfFrame_array (xs : List Frame) :
    WfFrame (.array xs) ↔ (∀ x ∈ xs, WfSingle x) ∧ (xs.length : Int) ≤ I64Max := by
  constructor
  · rintro (h | ⟨ys, h, h1, h2⟩)
    · exact absurd h (by simp [WfSingle])
    · cases h; exact ⟨h1, h2⟩
  · rintro ⟨h1, h2⟩; exact .inr ⟨xs, rfl, h1, h2⟩

theorem WfFrame_iff_single (f : Frame) (h : ∀ xs, f ≠ .array xs) : WfFrame f ↔ WfSingle f := by
  constructor
  · rintro (h' | ⟨ys, h', _⟩)
    · exact h'
    · exact absurd h' (h ys)
  · exact .inl

instance (f : Frame) : Decidable (WfFrame f) := by
  cases f with
  | array xs => exact decidable_of_iff _ (WfFrame_array xs).symm
  | simple s => exact decidable_of_iff _ (WfFrame_iff_single _ (by simp)).symm
  | error s => exact decidable_of_iff _ (WfFrame_iff_single _ (by simp)).symm
  | integer i => exact decidable_of_iff _ (WfFrame_iff_single _ (by simp)).symm
  | bulk b => exact decidable_of_iff _ (WfFrame_iff_single _ (by simp)).symm
  | null => exact decidable_of_iff _ (WfFrame_iff_single _ (by simp)).symm

theorem crlf_eq : crlf = [13, 10] := rfl

theorem parseF_single_at (buf : Buf) (fuel depth pos : Nat) (f : Frame) (e : List UInt8)
    (hw : WfSingle f) (he : encodeSingle f = some e) (hat : At buf pos e) :
    parseF buf (fuel+1) depth pos = .ok (f, pos + e.length) := by
  cases f with
  | simple s | error s =>
    cases he
    rw [List.cons_append, At_cons] at hat
    obtain ⟨hp, ht, hat⟩ := hat
    rw [parseF_line hp (by simp [ht]), getLine_at buf (pos+1) s 10 hat hw.2, Out.ok_bind]
    simp +decide only [At_slice hat, hw.1, ht, ↓reduceIte, List.length_cons, List.length_append, crlf,
      List.length_nil]
    congr 2; omega
  | integer i =>
    cases he
    rw [List.cons_append, At_cons] at hat
    obtain ⟨hp, ht, hat⟩ := hat
    rw [parseF_int hp ht, getInteger_at buf (pos+1) i 10 ((inI64_iff i).mpr hw) hat, Out.ok_bind]
    simp only [List.length_cons, List.length_append, crlf, List.length_nil]
    congr 2; omega
  | bulk b =>
    cases he
    simp only [List.cons_append, List.append_assoc] at hat
    rw [← List.append_assoc, At_cons] at hat
    obtain ⟨hp, ht, hat⟩ := hat
    obtain ⟨⟨hp1, hne⟩, hgi, hat2⟩ := header_at hw hat
    have hb2 := hat2.1
    simp only [List.length_append, List.length_cons, List.length_nil, crlf] at hb2
    rw [parseF_bulk hp ht hp1 hne, hgi, Out.ok_bind]
    simp only [Int.toNat_natCast, At_slice hat2]
    rw [if_neg (Int.not_lt.mpr (Int.natCast_nonneg _)), if_neg (Nat.not_lt.mpr (Nat.le_sub_of_add_le' hb2))]
    simp only [List.length_cons, List.length_append, crlf, List.length_nil]
    congr 2; omega
  | null =>
    cases he
    rw [List.cons_append, At_cons] at hat
    obtain ⟨hp, ht, hat⟩ := hat
    have hat1 := hat
    rw [List.cons_append, At_cons] at hat1
    obtain ⟨hp1, h45, _⟩ := hat1
    rw [parseF_null hp ht hp1 h45, getLine_at buf (pos+1) [45, 49] 10 hat (by decide), Out.ok_bind,
      At_slice hat, if_pos rfl]
    rfl
  | array xs => exact absurd hw (by simp [WfSingle])

theorem encodeItems_cons_some (x : Frame) (xs : List Frame) (b : List UInt8)
    (h : encodeItems (x :: xs) = some b) :
    ∃ a b', encodeSingle x = some a ∧ encodeItems xs = some b' ∧ b = a ++ b' := by
  unfold encodeItems at h
  split at h
  · rename_i a b' ha hb
    cases h
    exact ⟨a, b', ha, hb, rfl⟩
  · cases h

theorem encodeSingle_length (f : Frame) (e : List UInt8) (he : encodeSingle f = some e) :
    3 ≤ e.length := by
  cases f <;> cases he <;>
    simp only [List.length_cons, List.length_append, List.length_nil, crlf] <;> omega

theorem encodeItems_length (xs : List Frame) : ∀ (b : List UInt8), encodeItems xs = some b →
    3 * xs.length ≤ b.length := by
  induction xs with
  | nil => intro b h; simp
  | cons x xs ih =>
    intro b h
    obtain ⟨a, b', ha, hb, rfl⟩ := encodeItems_cons_some x xs b h
    have := encodeSingle_length x a ha
    have := ih b' hb
    simp only [List.length_cons, List.length_append]; omega

theorem parseManyF_at (buf : Buf) (depth : Nat) : ∀ (xs : List Frame) (b : List UInt8) (fuel pos : Nat),
    (∀ x ∈ xs, WfSingle x) → encodeItems xs = some b → At buf pos b → xs.length + 1 ≤ fuel →
    parseManyF buf fuel depth xs.length pos = .ok (xs, pos + b.length) := by
  intro xs
  induction xs with
  | nil =>
    intro b fuel pos _ hb _ _
    cases hb
    rw [List.length_nil, parseManyF]; rfl
  | cons x xs ih =>
    intro b fuel pos hw hb hat hf
    obtain ⟨a, b', ha, hb', rfl⟩ := encodeItems_cons_some x xs b hb
    rw [At_append] at hat
    rw [List.length_cons] at hf ⊢
    obtain ⟨fuel, rfl⟩ : ∃ f', fuel = f' + 1 + 1 := ⟨fuel - 2, by omega⟩
    rw [parseManyF_succ, parseF_single_at buf fuel depth pos x a (hw x List.mem_cons_self) ha hat.1,
      Out.ok_bind,
      ih b' (fuel + 1) (pos + a.length) (fun y hy => hw y (List.mem_cons_of_mem _ hy)) hb' hat.2
        (by omega),
      Out.ok_bind, List.length_append, Nat.add_assoc]

theorem encodeSingle_total (f : Frame) (h : WfSingle f) : ∃ e, encodeSingle f = some e := by
  cases f with
  | array xs => exact absurd h (by simp [WfSingle])
  | _ => exact ⟨_, rfl⟩

theorem encodeItems_total (xs : List Frame) (h : ∀ x ∈ xs, WfSingle x) :
    ∃ b, encodeItems xs = some b := by
  induction xs with
  | nil => exact ⟨[], rfl⟩
  | cons x xs ih =>
    obtain ⟨a, ha⟩ := encodeSingle_total x (h x (by simp))
    obtain ⟨b, hb⟩ := ih (fun y hy => h y (by simp [hy]))
    exact ⟨a ++ b, by simp [encodeItems, ha, hb]⟩

theorem encode_of_single (f : Frame) (h : WfSingle f) : encode f = encodeSingle f := by
  cases f with
  | array xs => exact absurd h (by simp [WfSingle])
  | _ => rfl

theorem encode_array (xs : List Frame) (b : List UInt8) (hb : encodeItems xs = some b) :
    encode (.array xs) = some (42 :: ((intRepr (xs.length : Int) ++ [13, 10]) ++ b)) := by
  simp [encode, hb, crlf_eq]

theorem encode_total (f : Frame) (h : WfFrame f) : ∃ e, encode f = some e := by
  rcases h with h | ⟨xs, rfl, hw, _⟩
  · rw [encode_of_single f h]; exact encodeSingle_total f h
  · obtain ⟨b, hb⟩ := encodeItems_total xs hw
    exact ⟨_, encode_array xs b hb⟩

theorem encode_cases (f : Frame) (e : List UInt8) (hw : WfFrame f) (he : encode f = some e) :
    (WfSingle f ∧ encodeSingle f = some e) ∨
    ∃ xs b, f = .array xs ∧ (∀ x ∈ xs, WfSingle x) ∧ (xs.length : Int) ≤ I64Max ∧
      encodeItems xs = some b ∧ e = 42 :: ((intRepr (xs.length : Int) ++ [13, 10]) ++ b) := by
  rcases hw with h | ⟨xs, rfl, hw, hl⟩
  · exact .inl ⟨h, encode_of_single f h ▸ he⟩
  · obtain ⟨b, hb⟩ := encodeItems_total xs hw
    rw [encode_array xs b hb] at he
    cases he
    exact .inr ⟨xs, b, rfl, hw, hl, hb, rfl⟩

theorem parseF_frame_at (buf : Buf) (fuel depth pos : Nat) (f : Frame) (e : List UInt8)
    (hd : depth < MAX_DEPTH) (hw : WfFrame f) (he : encode f = some e) (hat : At buf pos e)
    (hf : e.length ≤ fuel) :
    parseF buf (fuel+1) depth pos = .ok (f, pos + e.length) := by
  rcases encode_cases f e hw he with ⟨h, he⟩ | ⟨xs, b, rfl, hw, hl, hb, rfl⟩
  · exact parseF_single_at buf fuel depth pos f e h he hat
  · have := encodeItems_length xs b hb
    simp only [List.length_append, List.length_cons, List.length_nil] at hf
    rw [At_cons] at hat
    obtain ⟨hp, ht, hat⟩ := hat
    obtain ⟨_, hgi, hat2⟩ := header_at hl hat
    rw [parseF_array hp ht, if_neg (Nat.not_le.mpr hd), hgi, Out.ok_bind,
      if_neg (Int.not_lt.mpr (Int.natCast_nonneg _)), Int.toNat_natCast,
      parseManyF_at buf (depth+1) xs b fuel _ hw hb hat2 (by omega), Out.ok_bind]
    simp only [List.length_cons, List.length_append, List.length_nil]
    congr 2; omega

theorem roundtrip (f : Frame) (e rest : List UInt8) (hw : WfFrame f) (he : encode f = some e) :
    parse (e ++ rest).toArray = .ok (f, e.length) ∧ check (e ++ rest).toArray = .ok e.length := by
  have hp : parse (e ++ rest).toArray = .ok (f, e.length) := by
    have := parseF_frame_at (e ++ rest).toArray (2 * (e ++ rest).toArray.size + 1) 0 0 f e
      (by decide) hw he (At_toArray e rest) (by simp; omega)
    simpa [parse, fuelFor] using this
  exact ⟨hp, parse_ok_check _ _ _ hp⟩

end Resp
