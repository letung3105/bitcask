/-
  C06 at byte level, the handler on ARBITRARY bytes (for `Props/C06Bytes.lean`): the reader loop
  returns complete frames, then exactly one non-frame result (`readAllF_shape`); `ParsedFrom` says
  where those frames sit in the byte stream; `serveFrames_run` gives the handler's complete result
  on such a run in terms of the map model, each reply an `IsReply`. Also `Cmd.isWrite` with
  `applyAll_filter_writes`: GETs do not change the store.
-/
import BitcaskVerif.Resp.ServeBytes

namespace Resp

/-- the commands decoded from the leading frames, up to (not including) the first frame that
    `Command::try_from` rejects -/
def decodedPrefix : List Frame → List Cmd
  | [] => []
  | f :: fs =>
    match Cmd.ofFrame f with
    | .ok c => c :: decodedPrefix fs
    | .error _ => []

def firstCmdErr : List Frame → Option CmdErr
  | [] => none
  | f :: fs =>
    match Cmd.ofFrame f with
    | .ok _ => firstCmdErr fs
    | .error e => some e

/-- how the handler ends on a non-frame read result -/
def endOf : ReadRes → HEnd
  | .frame _ => .running
  | .cleanEnd => .peerClosed
  | .reset => .reset
  | .error e => .frameError e
  | .panic => .panic

def Cmd.isWrite : Cmd → Bool
  | .get _ => false
  | _ => true

theorem goodPrefix_frames (fs : List Frame) (r : ReadRes) (hr : ∀ f, r ≠ .frame f) :
    goodPrefix (fs.map .frame ++ [r]) = decodedPrefix fs := by
  fun_induction decodedPrefix fs with
  | case1 =>
    cases r with
    | frame f => exact absurd rfl (hr f)
    | _ => rfl
  | case2 f fs c hc ih => simp only [List.map_cons, List.cons_append, goodPrefix, hc, ih]
  | case3 f fs e hc => simp only [List.map_cons, List.cons_append, goodPrefix, hc]

theorem decodedPrefix_spec (fs : List Frame) :
    fs.take (decodedPrefix fs).length = (decodedPrefix fs).map Cmd.toFrame ∧
      (∀ c, c ∈ decodedPrefix fs → WfCmd c) ∧
      (∀ h : (decodedPrefix fs).length < fs.length,
        ∃ e, Cmd.ofFrame fs[(decodedPrefix fs).length] = .error e ∧ firstCmdErr fs = some e) ∧
      ((decodedPrefix fs).length = fs.length → firstCmdErr fs = none) := by
  fun_induction decodedPrefix fs with
  | case1 => exact ⟨rfl, nofun, nofun, fun _ => rfl⟩
  | case2 f fs c hc ih =>
    obtain ⟨h1, h2, h3, h4⟩ := ih
    obtain ⟨hf, hwf⟩ := ofFrame_ok f c hc
    simp only [firstCmdErr, hc, List.length_cons, List.take_succ_cons, h1,
      List.map_cons, List.forall_mem_cons, List.getElem_cons_succ,
      Nat.add_lt_add_iff_right, Nat.add_right_cancel_iff]
    exact ⟨by rw [hf], ⟨hwf, h2⟩, h3, h4⟩
  | case3 f fs e hc =>
    simp only [firstCmdErr, hc, List.length_nil, List.take_zero, List.map_nil,
      List.not_mem_nil, false_imp_iff, implies_true, List.length_cons, List.getElem_cons_zero,
      true_and]
    exact ⟨fun _ => ⟨e, rfl, rfl⟩, fun h => by omega⟩

theorem decodedPrefix_length_le (fs : List Frame) : (decodedPrefix fs).length ≤ fs.length := by
  have := congrArg List.length (decodedPrefix_spec fs).1
  rw [List.length_take, List.length_map] at this
  omega

theorem decodedPrefix_toFrames (reqs : List Cmd) (h : ∀ c, c ∈ reqs → WfCmd c) :
    decodedPrefix (reqs.map Cmd.toFrame) = reqs := by
  induction reqs with
  | nil => rfl
  | cons c cs ih =>
    simp only [List.map_cons, decodedPrefix, c06_cmd_roundtrip c (h c List.mem_cons_self),
      ih (fun x hx => h x (List.mem_cons_of_mem _ hx))]

theorem applyAll_filter_writes (m : KV) (cs : List Cmd) :
    applyAll m cs = applyAll m (cs.filter Cmd.isWrite) := by
  induction cs generalizing m with
  | nil => rfl
  | cons c cs ih =>
    cases c with
    | get k => exact ih m
    | set k v => exact ih _
    | del ks => exact ih _

theorem isWrite_iff (c : Cmd) :
    Cmd.isWrite c = true ↔ (∃ k v, c = .set k v) ∨ (∃ ks, c = .del ks) := by
  cases c <;> simp [Cmd.isWrite]

/-- `Forall₂`-style relation kept first-order: frame `fs[i]` was parsed from chunk `chunks[i]`,
    i.e. from a buffer that starts with that chunk, consuming exactly the chunk -/
def ParsedFrom : List Frame → List (List UInt8) → Prop
  | [], [] => True
  | f :: fs, ch :: chs =>
    (∃ more : List UInt8, parseFrame (ch ++ more).toArray = .frame f ch.length) ∧ ParsedFrom fs chs
  | _, _ => False

theorem extract_toList_drop (buf : Buf) (n : Nat) :
    (buf.extract n buf.size).toList = buf.toList.drop n := by
  simp only [Array.toList_extract, List.extract]
  apply List.take_of_length_le
  simp

theorem readFrame_frame_chunk (buf : Buf) (segs : List (List UInt8)) (f : Frame) (buf' : Buf)
    (segs' : List (List UInt8)) (h : readFrame buf segs = (.frame f, buf', segs')) :
    ∃ ch more : List UInt8, parseFrame (ch ++ more).toArray = .frame f ch.length ∧
      buf.toList ++ segs.flatten = ch ++ (buf'.toList ++ segs'.flatten) := by
  fun_induction readFrame buf segs with
  | case1 buf segs g n hp =>
    cases h
    have hl : (buf.toList.take n).length = n :=
      List.length_take_of_le (parseFrame_frame_bounds hp).2
    refine ⟨buf.toList.take n, buf.toList.drop n, ?_, ?_⟩
    · rw [List.take_append_drop, hl, Array.toArray_toList, hp]
    · rw [extract_toList_drop, ← List.append_assoc, List.take_append_drop]
  | case6 buf _ s rest ih =>
    obtain ⟨ch, more, h1, h2⟩ := ih h
    refine ⟨ch, more, h1, ?_⟩
    rw [← h2, Array.toList_append, List.flatten_cons, List.append_assoc]
  | case2 => cases h
  | case3 => cases h
  | case4 => cases h
  | case5 => cases h

theorem readAllF_shape (fuel : Nat) (buf : Buf) (segs : List (List UInt8)) :
    ∃ (fs : List Frame) (r : ReadRes) (chunks : List (List UInt8)) (rest : List UInt8),
      readAllF fuel buf segs = fs.map .frame ++ [r] ∧ (∀ f, r ≠ .frame f) ∧
      ParsedFrom fs chunks ∧ buf.toList ++ segs.flatten = chunks.flatten ++ rest := by
  fun_induction readAllF fuel buf segs with
  | case1 buf segs => exact ⟨[], .panic, [], _, rfl, nofun, trivial, rfl⟩
  | case2 fuel buf segs f buf' segs' hr ih =>
    obtain ⟨fs, r, chunks, tl, h1, h2, h3, h4⟩ := ih
    obtain ⟨ch, more, h5, h6⟩ := readFrame_frame_chunk buf segs f buf' segs' hr
    refine ⟨f :: fs, r, ch :: chunks, tl, by rw [h1]; rfl, h2, ⟨⟨more, h5⟩, h3⟩, ?_⟩
    rw [h6, h4, List.flatten_cons, List.append_assoc]
  | case3 fuel buf segs r _ _ hr _ => exact ⟨[], r, [], _, rfl, hr, trivial, rfl⟩

/-- the frames a handler ever writes: `+OK`, a bulk string, null, or a non-negative count -/
def IsReply : Frame → Prop
  | .simple s => s = sOK
  | .bulk _ => True
  | .null => True
  | .integer i => 0 ≤ i
  | _ => False

theorem applyCmd_isReply (m : KV) (c : Cmd) : IsReply (applyCmd m c).2 := by
  cases c with
  | set k v => exact rfl
  | get k =>
    simp only [applyCmd]
    cases m k <;> exact trivial
  | del ks => exact Int.natCast_nonneg _

theorem serveFrames_run (m : KV) (fs : List Frame) (r : ReadRes) (hr : ∀ f, r ≠ .frame f) :
    serveFrames m (fs.map .frame ++ [r]) =
      ((specReplies m (decodedPrefix fs)).1, encodeAll (specReplies m (decodedPrefix fs)).2,
        match firstCmdErr fs with
        | some e => .cmdError e
        | none => endOf r) := by
  induction fs generalizing m with
  | nil =>
    cases r with
    | frame f => exact absurd rfl (hr f)
    | _ => rfl
  | cons f fs ih =>
    rw [List.map_cons, List.cons_append]
    cases hc : Cmd.ofFrame f with
    | error e =>
      rw [serveFrames_frame_error m _ hc]
      simp only [decodedPrefix, firstCmdErr, hc, specReplies, encodeAll]
    | ok c =>
      rw [serveFrames_frame_ok m _ hc, ih]
      simp only [decodedPrefix, firstCmdErr, hc, specReplies_cons, encodeAll]

theorem readAll_frames_then (fs : List Frame) (tail : List UInt8) (segs : List (List UInt8))
    (hw : ∀ f ∈ fs, WfFrame f) (h : segs.flatten = fs.flatMap wire ++ tail) :
    ∃ more : List ReadRes, readAll segs = fs.map .frame ++ more ∧ ReadRes.panic ∉ more := by
  obtain ⟨fuel, buf', segs', hf, h1, h2⟩ := readAll_frames fs tail segs hw h
  refine ⟨_, h2, readAllF_no_panic _ _ _ ?_⟩
  rwa [pendingBytes, ← Array.length_toList, ← List.length_append, h1]

end Resp
