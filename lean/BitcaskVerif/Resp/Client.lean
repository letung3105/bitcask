import BitcaskVerif.Resp.Server

/-!
  The client library (`src/net/client.rs`): what `Client::{get,set,del}` send and what they make of
  the reply that comes back.  Each call writes the command's frame (`Cmd.toFrame`, the same encoder
  as everywhere else), reads ONE frame with `Connection::read_frame` and interprets it.
-/

namespace Resp

inductive CliErr where
  | storage (msg : List UInt8)   -- the server answered with an error frame
  | badFrame                     -- a reply frame of a kind the call does not expect
  | reset                        -- end of stream instead of a reply (clean or inside a frame)
  | frameError (e : Err)         -- the reply bytes are not a frame
  | panic                        -- proved unreachable
deriving Repr, DecidableEq

/-- `Client::read_response` on the result of `read_frame` -/
def readResponse : ReadRes → Except CliErr Frame
  | .frame (.error s) => .error (.storage s)
  | .frame f => .ok f
  | .cleanEnd => .error .reset
  | .reset => .error .reset
  | .error e => .error (.frameError e)
  | .panic => .error .panic

@[simp] theorem readResponse_error (s : List UInt8) : readResponse (.frame (.error s)) = .error (.storage s) := rfl
@[simp] theorem readResponse_simple (s : List UInt8) : readResponse (.frame (.simple s)) = .ok (.simple s) := rfl
@[simp] theorem readResponse_integer (n : Int) : readResponse (.frame (.integer n)) = .ok (.integer n) := rfl
@[simp] theorem readResponse_bulk (s : List UInt8) : readResponse (.frame (.bulk s)) = .ok (.bulk s) := rfl
@[simp] theorem readResponse_null : readResponse (.frame .null) = .ok .null := rfl
@[simp] theorem readResponse_array (xs : List Frame) : readResponse (.frame (.array xs)) = .ok (.array xs) := rfl
@[simp] theorem readResponse_cleanEnd : readResponse .cleanEnd = .error .reset := rfl
@[simp] theorem readResponse_reset : readResponse .reset = .error .reset := rfl

/-- `Client::get` -/
def cliGet (r : ReadRes) : Except CliErr (Option (List UInt8)) :=
  match readResponse r with
  | .error e => .error e
  | .ok (.bulk s) => .ok (some s)
  | .ok .null => .ok none
  | .ok _ => .error .badFrame

/-- `Client::set` -/
def cliSet (r : ReadRes) : Except CliErr Unit :=
  match readResponse r with
  | .error e => .error e
  | .ok (.simple s) => if s = sOK then .ok () else .error .badFrame
  | .ok _ => .error .badFrame

/-- `Client::del` -/
def cliDel (r : ReadRes) : Except CliErr Int :=
  match readResponse r with
  | .error e => .error e
  | .ok (.integer n) => .ok n
  | .ok _ => .error .badFrame

/-- what the abstract map answers to a command, in the client's vocabulary -/
inductive CliOut where
  | unit | value (v : Option (List UInt8)) | count (n : Int) | failed (e : CliErr)
deriving Repr, DecidableEq

/-- one client call against a server that holds `m`: the request frame is `Cmd.toFrame c`, the server
    applies it (`applyCmd`) and its reply frame comes back whole -/
def cliCall (m : KV) (c : Cmd) : KV × CliOut :=
  let (m', reply) := applyCmd m c
  (m', match c with
    | .get _ => (match cliGet (.frame reply) with | .ok v => .value v | .error e => .failed e)
    | .set _ _ => (match cliSet (.frame reply) with | .ok () => .unit | .error e => .failed e)
    | .del _ => (match cliDel (.frame reply) with | .ok n => .count n | .error e => .failed e))

end Resp
