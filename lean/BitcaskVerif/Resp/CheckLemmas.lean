/-
  `getLine`, `skip` and `checkF`/`checkManyF`: what the scan of `get_line` returns; what `checkF`
  does for each byte it can find under the cursor, as a composition of the readers; success moves
  the cursor forward inside the buffer; with the fuel `check` supplies it never returns `panic`
  (no reader panics, the fuel never runs out).
-/
import BitcaskVerif.Resp.IntLemmas
import BitcaskVerif.Resp.Bind

namespace Resp

theorem lineScan_spec (buf : Buf) (stop : Nat) (hstop : stop ≤ buf.size) (i : Nat) :
    ∃ j, i ≤ j ∧ (∀ k, i ≤ k → k < j → buf[k]! ≠ 13 ∧ buf[k]! ≠ 10) ∧
      ((j < stop ∧ buf[j]! = 13 ∧ lineScan buf stop i = .cr j) ∨
       (j < stop ∧ buf[j]! = 10 ∧ lineScan buf stop i = .lf) ∨
       (stop ≤ j ∧ lineScan buf stop i = .eof)) := by
  fun_induction lineScan buf stop i with
  | case1 i hlt hsz hcr =>
    exact ⟨i, Nat.le_refl _, fun k h1 h2 => absurd h2 (Nat.not_lt.mpr h1),
      .inl ⟨hlt, by rw [getElem!_pos buf i hsz]; exact hcr, rfl⟩⟩
  | case2 i hlt hsz hcr hlf =>
    exact ⟨i, Nat.le_refl _, fun k h1 h2 => absurd h2 (Nat.not_lt.mpr h1),
      .inr (.inl ⟨hlt, by rw [getElem!_pos buf i hsz]; exact hlf, rfl⟩)⟩
  | case3 i hlt hsz hcr hlf ih =>
    obtain ⟨j, hij, hclean, h⟩ := ih
    refine ⟨j, Nat.le_of_succ_le hij, fun k h1 h2 => ?_, h⟩
    by_cases hki : k = i
    · subst hki; rw [getElem!_pos buf k hsz]; exact ⟨hcr, hlf⟩
    · exact hclean k (Nat.lt_of_le_of_ne h1 (Ne.symm hki)) h2
  | case4 i hlt hsz => exact absurd (Nat.lt_of_lt_of_le hlt hstop) hsz
  | case5 i hge =>
    exact ⟨i, Nat.le_refl _, fun k h1 h2 => absurd h2 (Nat.not_lt.mpr h1),
      .inr (.inr ⟨Nat.le_of_not_lt hge, rfl⟩)⟩

theorem getLine_no_panic (buf : Buf) (pos : Nat) (hsz : 0 < buf.size) : getLine buf pos ≠ .panic := by
  rw [getLine, if_neg (Nat.ne_of_gt hsz)]
  obtain ⟨j, _, _, ⟨hj, _, e⟩ | ⟨_, _, e⟩ | ⟨_, e⟩⟩ := lineScan_spec buf (buf.size - 1) (Nat.sub_le _ _) pos
    <;> simp only [e]
  · rw [if_pos (show j + 2 ≤ buf.size from Nat.add_lt_of_lt_sub hj)]; nofun
  · nofun
  · nofun

theorem getLine_ok (buf : Buf) (pos i q : Nat) (h : getLine buf pos = .ok (i, q)) :
    pos ≤ i ∧ q = i + 2 ∧ q ≤ buf.size ∧ buf[i]! = 13 ∧
      ∀ k, pos ≤ k → k < i → buf[k]! ≠ 13 ∧ buf[k]! ≠ 10 := by
  obtain ⟨_, h⟩ := of_ite_eq h nofun
  obtain ⟨j, hpj, hclean, ⟨hj, hcr, e⟩ | ⟨_, _, e⟩ | ⟨_, e⟩⟩ :=
    lineScan_spec buf (buf.size - 1) (Nat.sub_le _ _) pos <;> simp only [e] at h
  · have hj2 : j + 2 ≤ buf.size := Nat.add_lt_of_lt_sub hj
    rw [if_pos hj2] at h
    cases h
    exact ⟨hpj, rfl, hj2, hcr, hclean⟩
  · cases h
  · cases h

theorem lineScan_skip {buf : Buf} {stop i j : Nat} (hij : i ≤ j) (hj : j ≤ stop)
    (hstop : stop ≤ buf.size) (hclean : ∀ k, i ≤ k → k < j → buf[k]! ≠ 13 ∧ buf[k]! ≠ 10) :
    lineScan buf stop i = lineScan buf stop j := by
  obtain ⟨d, rfl⟩ := Nat.exists_eq_add_of_le hij
  induction d with
  | zero => rfl
  | succ d ih =>
    have hjs : i + d < stop := hj
    have hjb : i + d < buf.size := Nat.lt_of_lt_of_le hjs hstop
    have hc := hclean (i + d) (Nat.le_add_right _ _) (Nat.lt_succ_self _)
    rw [getElem!_pos buf _ hjb] at hc
    rw [ih (Nat.le_add_right _ _) (Nat.le_of_lt hjs) (fun k h1 h2 => hclean k h1 (Nat.lt_succ_of_lt h2)),
      lineScan, dif_pos hjs, dif_pos hjb, if_neg hc.1, if_neg hc.2]
    rfl

theorem lineScan_eof {buf : Buf} {stop i : Nat} (hstop : stop ≤ buf.size)
    (hclean : ∀ k, i ≤ k → k < stop → buf[k]! ≠ 13 ∧ buf[k]! ≠ 10) : lineScan buf stop i = .eof := by
  by_cases hi : i ≤ stop
  · rw [lineScan_skip hi (Nat.le_refl _) hstop hclean, lineScan, dif_neg (Nat.lt_irrefl _)]
  · rw [lineScan, dif_neg (fun h => hi (Nat.le_of_lt h))]

theorem getLine_found {buf : Buf} {pos i : Nat} (hpi : pos ≤ i) (hi : i + 2 ≤ buf.size)
    (hcr : buf[i]! = 13) (hclean : ∀ k, pos ≤ k → k < i → buf[k]! ≠ 13 ∧ buf[k]! ≠ 10) :
    getLine buf pos = .ok (i, i + 2) := by
  have hib : i < buf.size - 1 := Nat.lt_sub_of_add_lt hi
  have hsz : i < buf.size := Nat.lt_of_succ_lt hi
  rw [getElem!_pos buf i hsz] at hcr
  rw [getLine, if_neg (Nat.ne_of_gt (Nat.zero_lt_of_lt hsz)),
    lineScan_skip hpi (Nat.le_of_lt hib) (Nat.sub_le _ _) hclean, lineScan, dif_pos hib, dif_pos hsz,
    if_pos hcr]
  exact if_pos hi

theorem skip_ok (buf : Buf) (pos n q : Nat) (h : skip buf pos n = .ok q) (hp : pos ≤ buf.size) :
    q = pos + n ∧ q ≤ buf.size := by
  obtain ⟨hn, e⟩ := of_ite_eq h nofun
  cases e
  exact ⟨rfl, Nat.add_le_of_le_sub' hp (Nat.not_lt.mp hn)⟩

theorem skip_no_panic (buf : Buf) (pos n : Nat) : skip buf pos n ≠ .panic :=
  ite_ne nofun nofun

theorem skip_eq_ok {buf : Buf} {pos n : Nat} (h : pos + n ≤ buf.size) :
    skip buf pos n = .ok (pos + n) :=
  if_neg (Nat.not_lt.mpr (Nat.le_sub_of_add_le' h))

theorem skip_eq_incomplete {buf : Buf} {pos n : Nat} (h : buf.size - pos < n) :
    skip buf pos n = .incomplete :=
  if_pos h

/-- What stands at `pos`: the cases that `Frame::check` and `Frame::parse` distinguish. -/
inductive Lead (buf : Buf) (pos : Nat) : Prop
  | eof (h : ¬ pos < buf.size)
  | line (h : pos < buf.size) (ht : buf[pos] = 43 ∨ buf[pos] = 45)
  | int (h : pos < buf.size) (ht : buf[pos] = 58)
  | dollarEof (h : pos < buf.size) (ht : buf[pos] = 36) (h1 : ¬ pos + 1 < buf.size)
  | null (h : pos < buf.size) (ht : buf[pos] = 36) (h1 : pos + 1 < buf.size) (h2 : buf[pos+1] = 45)
  | bulk (h : pos < buf.size) (ht : buf[pos] = 36) (h1 : pos + 1 < buf.size) (h2 : buf[pos+1] ≠ 45)
  | array (h : pos < buf.size) (ht : buf[pos] = 42)
  | other (h : pos < buf.size) (h43 : buf[pos] ≠ 43) (h45 : buf[pos] ≠ 45) (h58 : buf[pos] ≠ 58)
      (h36 : buf[pos] ≠ 36) (h42 : buf[pos] ≠ 42)

theorem lead (buf : Buf) (pos : Nat) : Lead buf pos := by
  by_cases h : pos < buf.size
  · by_cases h43 : buf[pos] = 43
    · exact .line h (.inl h43)
    by_cases h45 : buf[pos] = 45
    · exact .line h (.inr h45)
    by_cases h58 : buf[pos] = 58
    · exact .int h h58
    by_cases h36 : buf[pos] = 36
    · by_cases h1 : pos + 1 < buf.size
      · by_cases h2 : buf[pos+1] = 45
        · exact .null h h36 h1 h2
        · exact .bulk h h36 h1 h2
      · exact .dollarEof h h36 h1
    by_cases h42 : buf[pos] = 42
    · exact .array h h42
    · exact .other h h43 h45 h58 h36 h42
  · exact .eof h

section
variable {buf : Buf} {pos fuel depth : Nat}

theorem checkF_end (h : ¬ pos < buf.size) : checkF buf (fuel+1) depth pos = .incomplete := by
  rw [checkF]
  simp only [h, ↓reduceDIte]

theorem checkF_line (h : pos < buf.size) (ht : buf[pos] = 43 ∨ buf[pos] = 45) :
    checkF buf (fuel+1) depth pos = (getLine buf (pos+1)).bind fun r => .ok r.2 := by
  have ht' : (buf[pos] = 43 || buf[pos] = 45) = true := by simpa using ht
  rw [checkF]
  simp only [h, ↓reduceDIte, ht', ↓reduceIte]
  cases getLine buf (pos+1) <;> rfl

theorem checkF_int (h : pos < buf.size) (ht : buf[pos] = 58) :
    checkF buf (fuel+1) depth pos = (getInteger buf (pos+1)).bind fun r => .ok r.2 := by
  rw [checkF]
  simp +decide only [h, ↓reduceDIte, ht, ↓reduceIte]
  cases getInteger buf (pos+1) <;> rfl

theorem checkF_dollarEof (h : pos < buf.size) (ht : buf[pos] = 36) (h1 : ¬ pos + 1 < buf.size) :
    checkF buf (fuel+1) depth pos = .incomplete := by
  rw [checkF]
  simp +decide only [h, ↓reduceDIte, ht, h1, ↓reduceIte]

/-- `"$-"`: the check takes `"$-1\r\n"` for granted and skips its last four bytes -/
theorem checkF_null (h : pos < buf.size) (ht : buf[pos] = 36) (h1 : pos + 1 < buf.size)
    (h2 : buf[pos+1] = 45) : checkF buf (fuel+1) depth pos = skip buf (pos+1) 4 := by
  rw [checkF]
  simp +decide only [h, ↓reduceDIte, ht, h1, h2, ↓reduceIte]

theorem checkF_bulk (h : pos < buf.size) (ht : buf[pos] = 36) (h1 : pos + 1 < buf.size)
    (h2 : buf[pos+1] ≠ 45) :
    checkF buf (fuel+1) depth pos = (getInteger buf (pos+1)).bind fun r =>
      if r.1 < 0 then .err .badEncoding else skip buf r.2 (r.1.toNat + 2) := by
  rw [checkF]
  simp +decide only [h, ↓reduceDIte, ht, h1, h2, ↓reduceIte]
  cases getInteger buf (pos+1) <;> rfl

theorem checkF_array (h : pos < buf.size) (ht : buf[pos] = 42) :
    checkF buf (fuel+1) depth pos =
      if depth ≥ MAX_DEPTH then .err .badEncoding
      else (getInteger buf (pos+1)).bind fun r => checkManyF buf fuel (depth+1) r.1.toNat r.2 := by
  rw [checkF]
  simp +decide only [h, ↓reduceDIte, ht, ↓reduceIte]
  congr 1
  cases getInteger buf (pos+1) <;> rfl

theorem checkF_other (h : pos < buf.size) (h43 : buf[pos] ≠ 43) (h45 : buf[pos] ≠ 45)
    (h58 : buf[pos] ≠ 58) (h36 : buf[pos] ≠ 36) (h42 : buf[pos] ≠ 42) :
    checkF buf (fuel+1) depth pos = .err .badEncoding := by
  rw [checkF]
  simp +decide only [h, ↓reduceDIte, h43, h45, h58, h36, h42, ↓reduceIte]

theorem checkManyF_succ (n : Nat) :
    checkManyF buf (fuel+1) depth (n+1) pos =
      (checkF buf fuel depth pos).bind fun q => checkManyF buf fuel depth n q := by
  rw [checkManyF]
  cases checkF buf fuel depth pos <;> rfl

end

theorem checkF_ok (buf : Buf) : ∀ fuel depth pos q,
    (checkF buf fuel depth pos = .ok q → pos < q ∧ q ≤ buf.size) ∧
    (∀ n, pos ≤ buf.size → checkManyF buf fuel depth n pos = .ok q → pos ≤ q ∧ q ≤ buf.size) := by
  intro fuel
  induction fuel with
  | zero =>
    intro depth pos q
    refine ⟨by rw [checkF]; nofun, fun n hp => ?_⟩
    cases n with
    | zero => rw [checkManyF]; intro e; cases e; exact ⟨Nat.le_refl _, hp⟩
    | succ n => rw [checkManyF]; nofun
  | succ fuel ih =>
    intro depth pos q
    constructor
    · cases lead buf pos with
      | eof h => rw [checkF_end h]; nofun
      | line h ht =>
        rw [checkF_line h ht, Out.bind_eq_ok]
        rintro ⟨r, hr, e⟩
        cases e
        obtain ⟨h1, h2, h3, _⟩ := getLine_ok _ _ _ _ hr
        exact ⟨h2 ▸ Nat.lt_add_right 2 h1, h3⟩
      | int h ht =>
        rw [checkF_int h ht, Out.bind_eq_ok]
        rintro ⟨r, hr, e⟩
        cases e
        have hb := getInteger_ok_bounds _ _ _ _ hr
        exact ⟨Nat.lt_of_succ_lt hb.1, hb.2⟩
      | dollarEof h ht h1 => rw [checkF_dollarEof h ht h1]; nofun
      | null h ht h1 h2 =>
        rw [checkF_null h ht h1 h2]
        intro e
        obtain ⟨rfl, hs⟩ := skip_ok _ _ _ _ e (Nat.le_of_lt h1)
        exact ⟨Nat.lt_add_right 4 (Nat.lt_succ_self pos), hs⟩
      | bulk h ht h1 h2 =>
        rw [checkF_bulk h ht h1 h2, Out.bind_eq_ok]
        rintro ⟨r, hr, e⟩
        have hb := getInteger_ok_bounds _ _ _ _ hr
        obtain ⟨rfl, hs⟩ := skip_ok _ _ _ _ (of_ite_eq e nofun).2 hb.2
        exact ⟨Nat.lt_add_right _ (Nat.lt_of_succ_lt hb.1), hs⟩
      | array h ht =>
        rw [checkF_array h ht]
        refine fun e => ?_
        obtain ⟨r, hr, e⟩ := Out.bind_eq_ok.mp (of_ite_eq e nofun).2
        have hb := getInteger_ok_bounds _ _ _ _ hr
        have hi := (ih (depth+1) r.2 q).2 _ hb.2 e
        exact ⟨Nat.lt_of_lt_of_le (Nat.lt_of_succ_lt hb.1) hi.1, hi.2⟩
      | other h h43 h45 h58 h36 h42 => rw [checkF_other h h43 h45 h58 h36 h42]; nofun
    · intro n hp
      cases n with
      | zero => rw [checkManyF]; intro e; cases e; exact ⟨Nat.le_refl _, hp⟩
      | succ n =>
        rw [checkManyF_succ, Out.bind_eq_ok]
        rintro ⟨q', hq, e⟩
        have h1 := (ih depth pos q').1 hq
        have h2 := (ih depth q' q).2 n h1.2 e
        exact ⟨Nat.le_trans (Nat.le_of_lt h1.1) h2.1, h2.2⟩

/-- a frame takes at least one byte, and at most two levels of fuel -/
theorem fuel_left {size pos q fuel : Nat} (h : pos < q) (hq : q ≤ size) (hf : 2 * (size - pos) ≤ fuel) :
    2 * (size - q) + 2 ≤ fuel :=
  Nat.le_trans (Nat.mul_le_mul_left 2 (Nat.sub_lt_sub_left (Nat.lt_of_lt_of_le h hq) h)) hf

theorem checkF_np (buf : Buf) : ∀ fuel depth pos,
    (2 * (buf.size - pos) + 1 ≤ fuel → checkF buf fuel depth pos ≠ .panic) ∧
    (∀ n, 2 * (buf.size - pos) + 2 ≤ fuel → checkManyF buf fuel depth n pos ≠ .panic) := by
  intro fuel
  induction fuel with
  | zero =>
    exact fun depth pos => ⟨fun h => absurd h (Nat.not_succ_le_zero _),
      fun n h => absurd h (Nat.not_succ_le_zero _)⟩
  | succ fuel ih =>
    intro depth pos
    constructor
    · intro hf
      cases lead buf pos with
      | eof h => rw [checkF_end h]; nofun
      | line h ht =>
        rw [checkF_line h ht]
        exact Out.bind_ne_panic (getLine_no_panic _ _ (Nat.zero_lt_of_lt h)) (fun _ _ => nofun)
      | int h ht =>
        rw [checkF_int h ht]
        exact Out.bind_ne_panic (getInteger_no_panic _ _) (fun _ _ => nofun)
      | dollarEof h ht h1 => rw [checkF_dollarEof h ht h1]; nofun
      | null h ht h1 h2 => rw [checkF_null h ht h1 h2]; exact skip_no_panic _ _ _
      | bulk h ht h1 h2 =>
        rw [checkF_bulk h ht h1 h2]
        exact Out.bind_ne_panic (getInteger_no_panic _ _) fun r _ => ite_ne nofun (skip_no_panic _ _ _)
      | array h ht =>
        rw [checkF_array h ht]
        refine ite_ne nofun (Out.bind_ne_panic (getInteger_no_panic _ _) fun r hr => ?_)
        have hb := getInteger_ok_bounds _ _ _ _ hr
        exact (ih (depth+1) r.2).2 _
          (fuel_left (Nat.lt_of_succ_lt hb.1) hb.2 (Nat.le_of_succ_le_succ hf))
      | other h h43 h45 h58 h36 h42 => rw [checkF_other h h43 h45 h58 h36 h42]; nofun
    · intro n hf
      cases n with
      | zero => rw [checkManyF]; nofun
      | succ n =>
        rw [checkManyF_succ]
        refine Out.bind_ne_panic ((ih depth pos).1 (Nat.le_of_succ_le_succ hf)) (fun q' hq => ?_)
        have hb := (checkF_ok buf fuel depth pos q').1 hq
        exact (ih depth q').2 n
          (fuel_left hb.1 hb.2 (Nat.le_of_succ_le (Nat.le_of_succ_le_succ hf)))

theorem check_no_panic (buf : Buf) : check buf ≠ .panic :=
  (checkF_np buf (fuelFor buf) 0 0).1 (Nat.le_succ _)

theorem check_ok_bounds (buf : Buf) (n : Nat) (h : check buf = .ok n) : 0 < n ∧ n ≤ buf.size := by
  unfold check at h
  exact (checkF_ok buf _ 0 0 n).1 h

end Resp
