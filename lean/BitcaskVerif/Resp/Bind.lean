/-
  `Out` is used as a monad whose bind the model writes out, at every call of a reader, as the
  four-way `match` of Rust's `?`. `Out.bind` names that `match`, so that what `checkF` and
  `parseF` do on each leading byte can be stated as a composition of readers and reasoned about
  through the lemmas below instead of by splitting the `match` again.
-/
import BitcaskVerif.Resp.Model

namespace Resp

def Out.bind (x : Out α) (f : α → Out β) : Out β :=
  match x with
  | .ok a => f a
  | .incomplete => .incomplete
  | .err e => .err e
  | .panic => .panic

theorem Out.ok_bind (a : α) (f : α → Out β) : (Out.ok a).bind f = f a := rfl

theorem Out.ite_bind (c : Prop) [Decidable c] (a : α) (f : α → Out β) :
    (if c then Out.ok a else .incomplete).bind f = if c then f a else .incomplete := by
  split <;> rfl

theorem Out.bind_eq_ok {x : Out α} {f : α → Out β} {b : β} :
    x.bind f = .ok b ↔ ∃ a, x = .ok a ∧ f a = .ok b := by
  cases x <;> simp [Out.bind]

theorem Out.bind_eq_panic {x : Out α} {f : α → Out β} :
    x.bind f = .panic ↔ x = .panic ∨ ∃ a, x = .ok a ∧ f a = .panic := by
  cases x <;> simp [Out.bind]

theorem Out.bind_ne_panic {x : Out α} {f : α → Out β} (hx : x ≠ .panic)
    (hf : ∀ a, x = .ok a → f a ≠ .panic) : x.bind f ≠ .panic := by
  intro h
  rcases Out.bind_eq_panic.mp h with h | ⟨a, ha, h⟩
  · exact hx h
  · exact hf a ha h

theorem Out.cases_of_ne_panic {x : Out α} (h : x ≠ .panic) :
    (∃ a, x = .ok a) ∨ x = .incomplete ∨ ∃ e, x = .err e := by
  cases x with
  | ok a => exact .inl ⟨a, rfl⟩
  | incomplete => exact .inr (.inl rfl)
  | err e => exact .inr (.inr ⟨e, rfl⟩)
  | panic => exact absurd rfl h

/-! The readers themselves leave early through `if`s: two facts about an `if` that decides between
  an early exit `a` and going on with `b`. -/

theorem ite_ne {c : Prop} [Decidable c] {a b x : α} (ha : a ≠ x) (hb : b ≠ x) :
    (if c then a else b) ≠ x := by
  split <;> assumption

theorem of_ite_eq {c : Prop} [Decidable c] {a b x : α} (h : (if c then a else b) = x) (ha : a ≠ x) :
    ¬ c ∧ b = x := by
  split at h
  · exact absurd h ha
  · exact ⟨‹_›, h⟩

end Resp
